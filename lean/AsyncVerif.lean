import AsyncVerif.Machines.ExitStack
import AsyncVerif.Proofs.ExitStack
import AsyncVerif.Properties.C14
import AsyncVerif.Properties.C16
import AsyncVerif.Machines.GroupByFault
import AsyncVerif.Proofs.GroupByFault
import AsyncVerif.Properties.C16Fault
import AsyncVerif.Impl.Tools
import AsyncVerif.Properties.C05
import AsyncVerif.Properties.C01
import AsyncVerif.Properties.C04
import AsyncVerif.Properties.C06
import AsyncVerif.Proofs.Core
import AsyncVerif.Proofs.Release
import AsyncVerif.Proofs.Faithful
import AsyncVerif.Machines.ContextManager
import AsyncVerif.Proofs.ContextManager
import AsyncVerif.Properties.C13
import AsyncVerif.Machines.Adapters
import AsyncVerif.Proofs.Adapters
import AsyncVerif.Properties.C19
import AsyncVerif.Impl.Aggregations
import AsyncVerif.Properties.C02
import AsyncVerif.Properties.C18
import AsyncVerif.Properties.C03
import AsyncVerif.Proofs.KindFree
import AsyncVerif.Properties.C17
import AsyncVerif.Machines.Decorator
import AsyncVerif.Proofs.Decorator
import AsyncVerif.Properties.C15
import AsyncVerif.Properties.C20
import AsyncVerif.Machines.Lru
import AsyncVerif.Proofs.LruKey
import AsyncVerif.Proofs.Lru
import AsyncVerif.Proofs.LruConc
import AsyncVerif.Proofs.LruOrder
import AsyncVerif.Properties.C10
import AsyncVerif.Properties.C11
import AsyncVerif.Proofs.TwinMore
import AsyncVerif.Std.AggSpec
import AsyncVerif.Proofs.AggValues
import AsyncVerif.Proofs.AggTools
import AsyncVerif.Machines.CachedProperty
import AsyncVerif.Proofs.CachedProperty
import AsyncVerif.Proofs.CachedPropertyFuel
import AsyncVerif.Proofs.CachedPropertyMono
import AsyncVerif.Proofs.CachedPropertySeq
import AsyncVerif.Properties.C12
import AsyncVerif.Std.ListSpec
import AsyncVerif.Proofs.Values
import AsyncVerif.Proofs.Values2
import AsyncVerif.Machines.Tee
import AsyncVerif.Proofs.Tee
import AsyncVerif.Properties.C09
import AsyncVerif.Proofs.TeeLive
import AsyncVerif.Properties.C09Live
import AsyncVerif.Machines.Borrow
import AsyncVerif.Proofs.Borrow
import AsyncVerif.Properties.C07
import AsyncVerif.Properties.C08
import AsyncVerif.Proofs.Chain
import AsyncVerif.Machines.Awaitify
import AsyncVerif.Proofs.Awaitify
import AsyncVerif.Proofs.IsliceTwin
import AsyncVerif.Proofs.FuelAdequate
import AsyncVerif.Properties.C04Fuel
import AsyncVerif.Proofs.GroupByRuns
import AsyncVerif.Proofs.ReleaseMore
import AsyncVerif.Proofs.SetDict
import AsyncVerif.Proofs.SetDictFuel
import AsyncVerif.Std.Select
import AsyncVerif.Proofs.Select
import AsyncVerif.Proofs.SelectValue
import AsyncVerif.Machines.Cleanup
import AsyncVerif.Proofs.Cleanup
import AsyncVerif.Properties.C04Cleanup
import AsyncVerif.Machines.Heap
import AsyncVerif.Machines.HeapUse
import AsyncVerif.Proofs.Heap
import AsyncVerif.Proofs.HeapRefine
import AsyncVerif.Properties.C01Heap
import AsyncVerif.Proofs.C17Machines
import AsyncVerif.Properties.C17Machines
import AsyncVerif.Proofs.C18Machines
import AsyncVerif.Properties.C18Machines
import AsyncVerif.Machines.ExitStackReentrant
import AsyncVerif.Proofs.ExitStackReentrant
import AsyncVerif.Properties.C14Reentrant
import AsyncVerif.Machines.ScopeExit
import AsyncVerif.Proofs.ScopeExit
import AsyncVerif.Properties.C08ScopeExit
import AsyncVerif.Machines.TeeClose
import AsyncVerif.Proofs.TeeClose
import AsyncVerif.Properties.C20TeeClose
import AsyncVerif.Machines.ChainObj
import AsyncVerif.Proofs.ChainObj
import AsyncVerif.Properties.C20ChainObj
import AsyncVerif.Machines.DecoratorDirect
import AsyncVerif.Proofs.DecoratorDirect
import AsyncVerif.Properties.C15Direct
import AsyncVerif.Machines.ExitStackEnter
import AsyncVerif.Proofs.ExitStackEnter
import AsyncVerif.Properties.C14Enter
import AsyncVerif.Proofs.DictKw
import AsyncVerif.Properties.C02DictKw
import AsyncVerif.Machines.CloseBusy
import AsyncVerif.Proofs.CloseBusy
import AsyncVerif.Properties.C17CloseBusy
import AsyncVerif.Machines.AwaitifyReuse
import AsyncVerif.Proofs.AwaitifyReuse
import AsyncVerif.Properties.C03AwaitifyReuse
import AsyncVerif.Machines.CachedPropertyHandoff
import AsyncVerif.Proofs.CachedPropertyHandoff
import AsyncVerif.Properties.C12Handoff
import AsyncVerif.Properties.C12Frame
import AsyncVerif.Machines.BorrowSend
import AsyncVerif.Proofs.BorrowSend
import AsyncVerif.Properties.C07Send
import AsyncVerif.Machines.AdaptersFail
import AsyncVerif.Proofs.AdaptersFail
import AsyncVerif.Properties.C19Fail
import AsyncVerif.Proofs.LruConcOrder
import AsyncVerif.Properties.C11Order
