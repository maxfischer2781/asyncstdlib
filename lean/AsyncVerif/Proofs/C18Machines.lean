import AsyncVerif.Proofs.TeeLive
import AsyncVerif.Proofs.LruConc
import AsyncVerif.Proofs.CachedPropertySeq
import AsyncVerif.Proofs.ExitStack
import AsyncVerif.Proofs.Decorator
/-!
Helper lemmas for `Properties/C18Machines.lean`: what a cancellation does to tee, lru_cache,
cached_property, ExitStack and ContextDecorator, in the form the C18 statements need.  scoped_iter has
no section here: its C18 statements are instances of the C08 theorems.
-/

/-! ## tee -/
namespace AsyncVerif.Tee

/-- child `i` is the last one whose buffer is still registered in `peers` -/
def LastRegistered (s : St) (i : Nat) : Prop :=
  ∀ j, j < s.kids.length → j ≠ i → (s.kid j).buf = none

/-- the `finally` block of `tee_peer` closes the source exactly when the child is the last
    registered one and the source can be closed -/
theorem finishKid_srcCloses_last (s : St) (i : Nat) (t : Task) (hi : i < s.kids.length) :
    (s.closeable = true → LastRegistered s i → (finishKid s i t).srcCloses = s.srcCloses + 1) ∧
    ((s.closeable = false ∨ ¬ LastRegistered s i) → (finishKid s i t).srcCloses = s.srcCloses) := by
  have hall : (finishKid s i t).kids.all (fun c => c.buf.isNone) = true ↔ LastRegistered s i := by
    rw [all_none_iff]
    constructor
    · intro h j hj hne
      have := h j (by simpa using hj)
      rw [finishKid_kid _ _ _ _ hi] at this
      simpa [hne] using this
    · intro h j hj
      rw [finishKid_kid _ _ _ _ hi]
      by_cases hji : j = i
      · simp [hji, Child.finished]
      · simp only [hji, if_false]; exact h j (by simpa using hj) hji
  rw [finishKid_srcCloses_eq]
  constructor
  · intro hc hl; rw [hall.2 hl, hc]; simp
  · rintro (hc | hl)
    · rw [hc]; simp
    · have : (finishKid s i t).kids.all (fun c => c.buf.isNone) = false := by
        cases h : (finishKid s i t).kids.all (fun c => c.buf.isNone) with
        | false => rfl
        | true => exact absurd (hall.1 h) hl
      rw [this]; simp

theorem cancel_inactive (s : St) (i : Nat) (h : (s.kid i).task ≠ .active) : cancel s i = (s, .noop) := by
  unfold cancel
  split
  · rename_i ha; exact absurd ha h
  · rfl

theorem cancel_acquiring (s : St) (i : Nat) (ha : (s.kid i).task = .active)
    (hp : (s.kid i).pc = .acquiring) : cancel s i = (finishKid s i .cancelled, .cancelled) := by
  simp [cancel, ha, hp]

theorem cancel_fetching (s : St) (i k : Nat) (ha : (s.kid i).task = .active)
    (hp : (s.kid i).pc = .fetching k) :
    cancel s i = (finishKid (release (if s.diesOnCancel then { s with srcKilled := true } else s) i) i
      .cancelled, .cancelled) := by
  simp [cancel, ha, hp]

theorem cancel_outside (s : St) (i : Nat) (ha : (s.kid i).task = .active)
    (hp : (s.kid i).pc ≠ .acquiring) (hf : isFetching (s.kid i).pc = false) :
    cancel s i = (s.setKid i { (s.kid i) with task := .cancelled }, .cancelled) := by
  unfold cancel
  rw [ha]
  simp only []
  split
  · rename_i h; exact absurd h hp
  · rename_i k h; rw [h] at hf; simp [isFetching] at hf
  · rfl

/-- everything a cancellation thrown into the running consumer of child `i` does (`r`: new state and
    output) -/
structure CancelSpec (s : St) (i : Nat) (r : St × Out) : Prop where
  out : r.2 = .cancelled
  task : (r.1.kid i).task = .cancelled
  received : (r.1.kid i).out = (s.kid i).out
  holder : r.1.holder = (if s.holder = some i then none else s.holder)
  notHolder : r.1.holder ≠ some i
  /-- it landed inside the child (`lock.__aenter__` or the source): the `finally` block has run -/
  inside : (s.kid i).pc = .acquiring ∨ isFetching (s.kid i).pc = true →
    (r.1.kid i).pc = .done ∧ (r.1.kid i).buf = none ∧
    (s.closeable = true → LastRegistered s i → r.1.srcCloses = s.srcCloses + 1) ∧
    ((s.closeable = false ∨ ¬ LastRegistered s i) → r.1.srcCloses = s.srcCloses)
  /-- it landed at the consumer's own suspension point: the child generator is untouched -/
  outside : (s.kid i).pc ≠ .acquiring → isFetching (s.kid i).pc = false →
    (r.1.kid i).pc = (s.kid i).pc ∧ (r.1.kid i).buf = (s.kid i).buf ∧ r.1.srcCloses = s.srcCloses
  killed : r.1.srcKilled = (s.srcKilled || (s.diesOnCancel && isFetching (s.kid i).pc))

/-- the `finally` block run for a consumer cancelled inside the child, from a state `s1` that differs
    from `s` at most in `srcKilled` -/
theorem finishCancelled_spec (s s1 : St) (i : Nat) (hi : i < s.kids.length) (hk : s1.kids = s.kids)
    (hh : s1.holder = s.holder) (hc : s1.closeable = s.closeable) (hs : s1.srcCloses = s.srcCloses)
    (hin : (s.kid i).pc = .acquiring ∨ isFetching (s.kid i).pc = true)
    (hkill : s1.srcKilled = (s.srcKilled || (s.diesOnCancel && isFetching (s.kid i).pc))) :
    CancelSpec s i (finishKid (release s1 i) i .cancelled, .cancelled) := by
  have hi2 : i < (release s1 i).kids.length := by rw [release_kids, hk]; exact hi
  have hkid : ∀ j, (release s1 i).kid j = s.kid j := fun j => by rw [release_kid, St.kid, hk]; rfl
  have hls := finishKid_srcCloses_last (release s1 i) i .cancelled hi2
  have hl : LastRegistered (release s1 i) i ↔ LastRegistered s i := by
    simp only [LastRegistered, hkid, release_kids, hk]
  rw [release_closeable, release_srcCloses, hc, hs, hl] at hls
  have hfin : (finishKid (release s1 i) i .cancelled).kid i = (s.kid i).finished .cancelled := by
    rw [finishKid_kid _ _ _ _ hi2, if_pos rfl, hkid]
  have hho : (finishKid (release s1 i) i .cancelled).holder = (if s.holder = some i then none else s.holder) := by
    rw [finishKid_holder, release_holder, hh]
  refine ⟨rfl, by simp only [hfin]; rfl, by simp only [hfin]; rfl, hho, ?_,
    fun _ => ⟨by simp only [hfin]; rfl, by simp only [hfin]; rfl, hls⟩, fun h1 h2 => ?_,
    by simp only [finishKid_srcKilled, release_srcKilled, hkill]⟩
  · simp only [hho]; split
    · nofun
    · assumption
  · rcases hin with hx | hx
    · exact absurd hx h1
    · rw [h2] at hx; cases hx

theorem Inv.cancel_spec {s : St} (h : Inv s) (i : Nat) (hi : i < s.kids.length)
    (ha : (s.kid i).task = .active) : CancelSpec s i (cancel s i) := by
  have hne : (s.kid i).pc = .acquiring ∨ isFetching (s.kid i).pc = false → s.holder ≠ some i := by
    intro hp e
    have := (h.holder_lt i e).2.2
    rcases hp with hp | hp <;> rw [hp] at this <;> cases this
  by_cases hin : (s.kid i).pc = .acquiring ∨ isFetching (s.kid i).pc = true
  · -- inside the child: its `finally` block runs, from `s` or from `s` with the source killed
    rcases hin with hacq | hf
    · have e : finishKid s i .cancelled = finishKid (release s i) i .cancelled := by
        rw [release, if_neg (hne (Or.inl hacq))]
      rw [cancel_acquiring s i ha hacq, e]
      exact finishCancelled_spec s s i hi rfl rfl rfl rfl (Or.inl hacq) (by rw [hacq]; simp [isFetching])
    · cases hp : (s.kid i).pc <;> rw [hp] at hf <;> try cases hf
      rename_i k
      rw [cancel_fetching s i k ha hp]
      refine finishCancelled_spec s _ i hi ?_ ?_ ?_ ?_ (Or.inr (by rw [hp]; rfl)) ?_
      iterate 4 split <;> rfl
      rw [hp]; cases s.diesOnCancel <;> simp [isFetching]
  · -- at the consumer's own suspension point
    have hacq : (s.kid i).pc ≠ .acquiring := fun e => hin (Or.inl e)
    have hnf : isFetching (s.kid i).pc = false := by
      cases hx : isFetching (s.kid i).pc with
      | false => rfl
      | true => exact absurd (Or.inr hx) hin
    have hne := hne (Or.inr hnf)
    rw [cancel_outside s i ha hacq hnf]
    refine ⟨rfl, ?_, ?_, ?_, ?_, fun hx => absurd hx hin, fun _ _ => ⟨?_, ?_, rfl⟩, ?_⟩
    · simp [kid_setKid _ _ _ _ hi]
    · simp [kid_setKid _ _ _ _ hi]
    · rw [setKid_holder, if_neg hne]
    · rw [setKid_holder]; exact hne
    · simp [kid_setKid _ _ _ _ hi]
    · simp [kid_setKid _ _ _ _ hi]
    · rw [setKid_srcKilled, hnf]; simp

theorem reach_dies (items n susp lock closeable dies ops) :
    (reach items n susp lock closeable dies ops).diesOnCancel = dies :=
  dies_runOps _ ops

/-! ### `Tee.aclose()` is never aborted when no child is inside the lock or the source -/

/-- no child is suspended inside `lock.__aenter__` or inside the source -/
def NoneInside (s : St) : Prop :=
  ∀ j, j < s.kids.length → (s.kid j).pc ≠ .acquiring ∧ isFetching (s.kid j).pc = false

theorem closeKid_not_busy (s : St) (i : Nat) (hp : (s.kid i).pc ≠ .acquiring)
    (hf : isFetching (s.kid i).pc = false) : (closeKid s i).2 ≠ .busy := by
  cases h : (s.kid i).pc <;> simp_all [closeKid, isFetching]

theorem NoneInside.closeKid {s : St} (h : NoneInside s) (i : Nat) : NoneInside (closeKid s i).1 :=
  forall_mem_kids.1 (PcOnly.closeKid (P := fun c => c.pc ≠ .acquiring ∧ isFetching c.pc = false)
    ⟨fun e h => by rw [e]; exact h, fun e => by rw [e]; exact ⟨nofun, rfl⟩⟩
    (forall_mem_kids.2 h) i)

theorem NoneInside.closeFrom_not_busy {s : St} (h : NoneInside s) (l : List Nat)
    (hl : ∀ i ∈ l, i < s.kids.length) : (closeFrom s l).2 ≠ .busy := by
  induction l generalizing s with
  | nil => simp [closeFrom]
  | cons i rest ih =>
    have hi : i < s.kids.length := hl i (by simp)
    have hnb := closeKid_not_busy s i (h i hi).1 (h i hi).2
    rw [closeFrom_cons]
    simp only [hnb, if_false]
    exact ih (h.closeKid i) (by intro k hk; rw [closeKid_length]; exact hl k (by simp [hk]))

theorem NoneInside.closeAll_not_busy {s : St} (h : NoneInside s) : (closeAll s).2 ≠ .busy := by
  intro e
  exact h.closeFrom_not_busy _ (range_lt s) ((closeAll_out_busy s).1 e)

end AsyncVerif.Tee

/-! ## lru_cache -/
namespace AsyncVerif.Lru

/-- what every state of the SEQUENTIAL machine satisfies: every entry was stored by a miss since the
    last `cache_clear` -/
def SeqBound (c : Cfg) (s : St) : Prop := Wf c s ∧ s.store.length ≤ s.misses

/-- a miss pays for the entry its call may store; a hit only moves an entry -/
theorem call_seqBound (c : Cfg) (s : St) (h : SeqBound c s) (p : Pattern) (r : Res) :
    SeqBound c (Impl.call c s p r).1 := by
  refine ⟨call_wf c s h.1 p r, ?_⟩
  have hb := h.2
  unfold Impl.call
  rcases begin_cases c s p with ⟨e, st, hf, _, he, rfl | rfl⟩ | ⟨_, he⟩ <;> rw [he]
  · exact hb
  · show (erase _ p s.store ++ [e]).length ≤ s.misses
    rw [List.length_append, List.length_singleton, erase_length_of_find hf]; exact hb
  · cases r with
    | fail e => exact Nat.le_succ_of_le hb
    | ok v =>
      show (Impl.resume c _ p v).store.length ≤ (Impl.resume c _ p v).misses
      rcases resume_cases c { s with misses := s.misses + 1 } p v with hr | ⟨_, _, st, hsub, hr, _⟩ <;> rw [hr]
      · exact Nat.le_succ_of_le hb
      · show (st ++ [(p, v)]).length ≤ s.misses + 1
        rw [List.length_append, List.length_singleton]
        exact Nat.succ_le_succ (Nat.le_trans hsub.length_le hb)

theorem step_seqBound (c : Cfg) (s : St) (h : SeqBound c s) (op : Op) : SeqBound c (Impl.step c s op).1 := by
  have hd : ∀ q, SeqBound c (Impl.discard c s q) := fun q => by
    refine ⟨discard_wf c s h.1 q, ?_⟩
    obtain ⟨var, typed⟩ := c
    cases var
    · exact h.2
    all_goals exact Nat.le_trans (erase_length_le _ _ _) h.2
  cases op with
  | call p r => exact call_seqBound c s h p r
  | mcall i p r => exact call_seqBound c s h _ r
  | clear =>
    have := clear_counts c s h.1
    exact ⟨clear_wf c s h.1, by show (Impl.clear c s).store.length ≤ _; rw [this.2.2]; exact Nat.zero_le _⟩
  | discard p => exact hd p
  | mdiscard i p => exact hd _
  | info => exact h
  | params => exact h

theorem final_seqBound (c : Cfg) : ∀ (ops : List Op) (s : St), SeqBound c s →
    SeqBound c (final (Impl.step c) s ops) := by
  intro ops
  induction ops with
  | nil => intro s h; exact h
  | cons op rest ih => intro s h; exact ih _ (step_seqBound c s h op)

theorem seqBound_init (c : Cfg) : SeqBound c St.init := ⟨Wf.init c, Nat.le_refl _⟩

theorem dropCall_of_not_inflight (c : Nat) (l : List (Nat × Pattern)) (h : lookupCall c l = none) :
    dropCall c l = l := by
  induction l with
  | nil => rfl
  | cons e r ih =>
    simp only [lookupCall] at h
    by_cases he : e.1 = c
    · simp [he] at h
    · simp only [he, if_false] at h
      simp only [dropCall, he, if_false, ih h]

/-- a cancelled `finish` only takes the call out of the calls in flight; an unknown call is ignored -/
theorem cstep_cancel (cfg : Cfg) (s : CSt) (c : Nat) :
    (cstep cfg s (.finish c .cancel)).1.inflight = dropCall c s.inflight ∧
    (∀ p, lookupCall c s.inflight = some p →
      cstep cfg s (.finish c .cancel) = ({ s with inflight := dropCall c s.inflight }, .cancelled)) ∧
    (lookupCall c s.inflight = none → cstep cfg s (.finish c .cancel) = (s, .ignored)) := by
  simp only [cstep]
  refine ⟨?_, fun p hp => by rw [hp], fun hn => by rw [hn]⟩
  cases hl : lookupCall c s.inflight with
  | some p => rfl
  | none => exact (dropCall_of_not_inflight c _ hl).symm

theorem gupd_cancel (infl : List (Nat × Pattern)) (g : Ghost) (c : Nat) (o : COut) :
    gupd infl g (.finish c .cancel) o = g := by
  cases o <;> rfl

end AsyncVerif.Lru

/-! ## cached_property -/
namespace AsyncVerif.CachedProperty

theorem exec_append (cfg : Cfg) : ∀ (a b : List Op) (s : State),
    exec cfg s (a ++ b) = exec cfg (exec cfg s a) b := by
  intro a
  induction a with
  | nil => intro b s; rfl
  | cons op rest ih => intro b s; simp only [List.cons_append, exec]; exact ih b _

theorem reach_append (cfg : Cfg) (a b : List Op) : reach cfg (a ++ b) = exec cfg (reach cfg a) b :=
  exec_append cfg a b State.init

theorem reach_snoc (cfg : Cfg) (a : List Op) (op : Op) :
    reach cfg (a ++ [op]) = (step cfg (reach cfg a) op).1 := by
  rw [reach_append]; rfl

theorem cancel_getter (cfg : Cfg) (s : State) (t p r k : Nat) (hinv : Inv cfg s)
    (h : s.pc t = .getter p r k) :
    (cancel cfg s t).2 = .cancelled ∧ (cancel cfg s t).1.pc t = .done .cancelled ∧
    ((cancel cfg s t).1.run r).st = .cancelled ∧ (cancel cfg s t).1.lock p = none ∧
    ∀ q, q ≠ p → (cancel cfg s t).1.lock q = s.lock q := by
  have e : cancel cfg s t
      = (setPc (setRunSt (setLock s p none) r .cancelled) t (.done .cancelled), .cancelled) := by
    unfold cancel; rw [h]; simp only [hinv.release_eq rfl p]
  rw [e]
  exact ⟨rfl, by simp only [setPc, if_true], by simp only [setPc, setRunSt, if_true],
    by simp only [setPc, setRunSt, setLock, if_true],
    fun q hq => by simp only [setPc, setRunSt, setLock, hq, if_false]⟩

theorem cancel_outside (cfg : Cfg) (s : State) (t : Nat)
    (h : (∃ x, s.pc t = .start x) ∨ ∃ p, s.pc t = .lockwait p) :
    (cancel cfg s t).2 = .cancelled ∧ (cancel cfg s t).1.pc t = .done .cancelled ∧
    (cancel cfg s t).1.lock = s.lock ∧ (cancel cfg s t).1.run = s.run := by
  unfold cancel
  rcases h with ⟨x, h⟩ | ⟨p, h⟩ <;> rw [h] <;> exact ⟨rfl, by simp only [setPc, if_true], rfl, rfl⟩

theorem cancel_frame (cfg : Cfg) (s : State) (t : Nat) :
    (cancel cfg s t).1.nRuns = s.nRuns ∧ (cancel cfg s t).1.phInst = s.phInst ∧
    (∀ t', t' ≠ t → (cancel cfg s t).1.pc t' = s.pc t') ∧
    ∀ p r k, (cancel cfg s t).1.pc t ≠ .getter p r k := by
  have hpc : ∀ s' : State, s'.pc = s.pc →
      (∀ t', t' ≠ t → (setPc s' t (.done .cancelled)).pc t' = s.pc t') ∧
      ∀ p r k, (setPc s' t (.done .cancelled)).pc t ≠ .getter p r k := fun s' e =>
    ⟨fun t' hne => by simp only [setPc, hne, if_false, e], fun p r k => by simp only [setPc, if_true]; nofun⟩
  unfold cancel
  split
  · exact ⟨rfl, rfl, hpc s rfl⟩
  · exact ⟨rfl, rfl, hpc s rfl⟩
  · rename_i p _ _ _
    obtain ⟨lk, e⟩ := release_frame cfg s p
    rw [e]; exact ⟨rfl, rfl, hpc _ rfl⟩
  · rename_i h; exact ⟨rfl, rfl, fun _ _ => rfl, h⟩

/-- `await instance_i.<name>` driven to completion, in ANY state in which the instance's entry is the
    placeholder `p` and `p`'s lock is free: the getter runs (run number `s.nRuns`, a new run), its
    value is what the await returns and what is cached -/
theorem await_recomputes (cfg : Cfg) (s : State) (i p : Nat) (hs : s.slot i = some (.ph p))
    (hi : s.phInst p = i) (hl : s.lock p = none) :
    (seqStep cfg s (.await i)).2 = (if cfg.ok s.nRuns then .ret s.nRuns else .raised s.nRuns) ∧
    (seqStep cfg s (.await i)).1.nRuns = s.nRuns + 1 ∧
    (cfg.ok s.nRuns = true → (seqStep cfg s (.await i)).1.slot i = some (.val s.nRuns)) ∧
    (cfg.ok s.nRuns = false → (seqStep cfg s (.await i)).1.slot = s.slot) := by
  have hsp : (step cfg s (.spawn i)).1 = addTask s i (.ph p) := by simp [step, access, hs]
  have hpc : (addTask s i (.ph p)).pc s.nTasks = .start (.ph p) := by simp [addTask]
  have hsched := sched_start_self cfg (addTask s i (.ph p)) s.nTasks p hpc
    (by simpa [addTask, hi] using hs) (by simpa [addTask] using hl)
  have hd := drive_from_sched cfg (addTask s i (.ph p)) (setPc (addTask s i (.ph p)) s.nTasks (.entered p))
    s.nTasks p rfl hsched
  have ha : seqStep cfg s (.await i)
      = (afterRun cfg (setPc (addTask s i (.ph p)) s.nTasks (.entered p)) s.nTasks p,
         if cfg.ok s.nRuns then .ret s.nRuns else .raised s.nRuns) := by
    simp only [seqStep, hsp, awaitNow, hpc]
    rw [hd]
    exact Prod.ext rfl (resultOf_afterRun cfg (setPc (addTask s i (.ph p)) s.nTasks (.entered p)) s.nTasks p)
  obtain ⟨p1, _, p3, _⟩ := afterRun_proj cfg (setPc (addTask s i (.ph p)) s.nTasks (.entered p)) s.nTasks p
  have hn : (setPc (addTask s i (.ph p)) s.nTasks (.entered p)).nRuns = s.nRuns := rfl
  have hq : (setPc (addTask s i (.ph p)) s.nTasks (.entered p)).phInst p = i := hi
  rw [hn] at p1 p3
  rw [ha]
  refine ⟨rfl, p3, fun hok => ?_, fun hok => ?_⟩
  · simp only [p1, hok, if_true, hq]
  · simp only [p1, hok, Bool.false_eq_true, if_false]; rfl

end AsyncVerif.CachedProperty

/-! ## ExitStack -/
namespace AsyncVerif.ExitStack

/-- what becomes of the exception in flight when exit `en` has run: suppressed (`truthy`), kept
    (`falsy`), replaced (`raise e`) -/
def react (en : Entry) (x : Option ExcId) : Option ExcId :=
  match en.run x with
  | .truthy => none
  | .falsy => x
  | .raise e => some e

/-- the exception in flight after the exits of `stack` (registration order; the last registered
    runs first) have run, starting from `x` -/
def inflight : List Entry → Option ExcId → Option ExcId
  | [], x => x
  | en :: rest, x => react en (inflight rest x)

/-- an outcome is determined by its exception -/
def ofExc : Option ExcId → Outcome
  | none => .normal
  | some e => .raises e

theorem ofExc_exc (o : Outcome) : ofExc o.exc = o := by cases o <;> rfl

theorem nested_exc (stack : List Entry) (body : Outcome) :
    (nested stack body).1.exc = inflight stack body.exc := by
  induction stack with
  | nil => rfl
  | cons en rest ih =>
    simp only [nested, inflight, react, ← ih]
    cases en.run (nested rest body).1.exc <;> rfl

theorem nested_outcome (stack : List Entry) (body : Outcome) :
    (nested stack body).1 = ofExc (inflight stack body.exc) := by
  rw [← nested_exc, ofExc_exc]

theorem nested_cons_log (en : Entry) (rest : List Entry) (body : Outcome) :
    (nested (en :: rest) body).2
      = (nested rest body).2 ++ [(en.id, if en.isCallback then none else inflight rest body.exc)] := by
  simp only [nested, ← nested_exc]
  cases en.run (nested rest body).1.exc <;> rfl

theorem nested_cons_outcome (en : Entry) (rest : List Entry) (body : Outcome) :
    (nested (en :: rest) body).1 = ofExc (react en (inflight rest body.exc)) := by
  rw [nested_outcome]; rfl

theorem nested_log_length (stack : List Entry) (body : Outcome) :
    (nested stack body).2.length = stack.length := by
  induction stack with
  | nil => rfl
  | cons en rest ih => rw [nested_cons_log]; simp [ih]

/-- unwinding `outer ++ inner` = unwinding `inner`, then unwinding `outer` with the outcome of that -/
theorem nested_append (outer inner : List Entry) (body : Outcome) :
    nested (outer ++ inner) body
      = ((nested outer (nested inner body).1).1, (nested inner body).2 ++ (nested outer (nested inner body).1).2) := by
  induction outer with
  | nil => simp [nested]
  | cons en rest ih =>
    apply Prod.ext
    · show (nested (en :: (rest ++ inner)) body).1 = (nested (en :: rest) (nested inner body).1).1
      rw [nested_cons_outcome, nested_cons_outcome, ← nested_exc, ← nested_exc, ih]
    · show (nested (en :: (rest ++ inner)) body).2 = _ ++ (nested (en :: rest) (nested inner body).1).2
      rw [nested_cons_log, nested_cons_log, ← nested_exc, ← nested_exc, ih]
      simp

theorem inflight_append (outer inner : List Entry) (x : Option ExcId) :
    inflight (outer ++ inner) x = inflight outer (inflight inner x) := by
  induction outer with
  | nil => rfl
  | cons en rest ih => simp only [List.cons_append, inflight, ih]

theorem inflight_all_falsy (stack : List Entry) (x : Option ExcId)
    (h : ∀ en ∈ stack, en.run x = .falsy) : inflight stack x = x := by
  induction stack with
  | nil => rfl
  | cons en rest ih =>
    have hr := ih (fun e he => h e (List.mem_cons_of_mem _ he))
    simp only [inflight, hr, react, h en (List.mem_cons_self ..)]

theorem nested_all_falsy_log (stack : List Entry) (body : Outcome)
    (h : ∀ en ∈ stack, en.run body.exc = .falsy) :
    (nested stack body).2 = stack.reverse.map (fun en => (en.id, if en.isCallback then none else body.exc)) := by
  induction stack with
  | nil => rfl
  | cons en rest ih =>
    have hr : ∀ e ∈ rest, e.run body.exc = .falsy := fun e he => h e (List.mem_cons_of_mem _ he)
    rw [nested_cons_log, ih hr, inflight_all_falsy rest _ hr]
    simp

end AsyncVerif.ExitStack

/-! ## ContextDecorator -/
namespace AsyncVerif.Decorator

theorem prunFrom_append (cfg : Cfg) : ∀ (a b : List Op) (p : PState),
    prunFrom cfg p (a ++ b)
      = ((prunFrom cfg (prunFrom cfg p a).1 b).1, (prunFrom cfg p a).2 ++ (prunFrom cfg (prunFrom cfg p a).1 b).2) := by
  intro a
  induction a with
  | nil => intro b p; rfl
  | cons op rest ih => intro b p; simp only [List.cons_append, prunFrom, ih, List.cons_append]

theorem prun_snoc (cfg : Cfg) (ops : List Op) (op : Op) :
    (prun cfg (ops ++ [op])).1 = (pstep cfg (prun cfg ops).1 op).1 := by
  simp only [prun, prunFrom_append, prunFrom]

/-- one more operation on call `op.call` after any schedule: the heap machine appends exactly the
    events of `callStep` run on the call's private state, which is coherent -/
theorem run_snoc (cfg : Cfg) (ops : List Op) (op : Op) (cc : CallCfg) (hcc : cfg.calls[op.call]? = some cc) :
    Coh cfg.generatorBased ((prun cfg ops).1.calls op.call) ∧
    ((prun cfg ops).1.calls op.call).pc = ((run cfg ops).1.calls op.call).pc ∧
    proj op.call (run cfg (ops ++ [op])).1.log
      = proj op.call (run cfg ops).1.log
        ++ (callStep cfg.generatorBased cc ((prun cfg ops).1.calls op.call) op.cop).2.1 ∧
    ((run cfg (ops ++ [op])).1.calls op.call).pc
      = (callStep cfg.generatorBased cc ((prun cfg ops).1.calls op.call) op.cop).1.pc := by
  have hs := rel_reach cfg ops
  have hs' := rel_reach cfg (ops ++ [op])
  have hp : PInv cfg (prun cfg ops).1 := pinv_run ops (pinv_init cfg)
  have hstep : (pstep cfg (prun cfg ops).1 op).1
      = { calls := setAt (prun cfg ops).1.calls op.call
            (callStep cfg.generatorBased cc ((prun cfg ops).1.calls op.call) op.cop).1,
          log := (prun cfg ops).1.log
            ++ (callStep cfg.generatorBased cc ((prun cfg ops).1.calls op.call) op.cop).2.1.map
                (fun e => (op.call, e)) } := by
    simp only [pstep, hcc]
  refine ⟨hp.coh op.call, (hs.pcs op.call).symm, ?_, ?_⟩
  · rw [proj_eq_pproj, hs'.log, prun_snoc, hstep, proj_eq_pproj, hs.log]
    simp only [pproj_append, pproj_tag_same]
  · rw [hs'.pcs op.call, prun_snoc, hstep]
    simp only [setAt_same]

/-- an exception thrown into the user's generator at one of its inner suspensions is not caught by
    the scripted code: the generator is finished and raises it -/
theorem genAdvance_cancel_inner (p : GenProg) {pc : GenPc} (x : Exc)
    (h : (∃ j, pc = .pre j) ∨ (∃ j, pc = .post j) ∨ ∃ e j, pc = .thr e j) :
    genAdvance p pc (.cancel x) = (.finished, .raised x, []) := by
  rcases h with ⟨j, rfl⟩ | ⟨j, rfl⟩ | ⟨e, j, rfl⟩ <;> rfl

/-- while a call is inside `__aenter__` or `__aexit__` of a generator-based manager, its generator
    is at an inner suspension (`Coh`) -/
theorem Coh.inner {l : Local} (hcoh : Coh true l) (h : (∃ k, l.pc = .entering k) ∨ ∃ o k, l.pc = .exiting o k) :
    (∃ j, l.cell.pc = .pre j) ∨ (∃ j, l.cell.pc = .post j) ∨ ∃ e j, l.cell.pc = .thr e j := by
  have := hcoh rfl
  rcases h with ⟨k, h⟩ | ⟨o, k, h⟩ <;> rw [h] at this
  · exact .inl this
  · cases ho : o.exc <;> simp only [ho] at this
    · exact .inr (.inl this)
    · exact .inr (.inr ⟨_, this⟩)

/-- a cancellation thrown into a call that is suspended in `await cm.__aenter__()`: the context was
    not established, so nothing is exited; the cancellation leaves the call -/
theorem callStep_cancel_entering (gb : Bool) (cc : CallCfg) (l : Local) (x : Exc) (k : Nat)
    (hpc : l.pc = .entering k) (hcoh : Coh gb l) :
    (callStep gb cc l (.cancel x)).2.1 = [.finish (.raised x)] ∧
    (callStep gb cc l (.cancel x)).1.pc = .done (.raised x) ∧
    (callStep gb cc l (.cancel x)).2.2 = .finished (.raised x) := by
  cases gb with
  | false => simp [callStep, hpc, afterEnter]
  | true =>
    have e := genAdvance_cancel_inner l.cell.prog x (hcoh.inner (.inl ⟨k, hpc⟩))
    simp [callStep, hpc, genEnterSend, e, genAenter, afterEnter, prepend]

/-- a cancellation thrown into a call that is suspended in `await cm.__aexit__(...)`: the exit code is
    not run again, the cancellation leaves the call (it replaces whatever was in flight) -/
theorem callStep_cancel_exiting (gb : Bool) (cc : CallCfg) (l : Local) (x : Exc) (o : BodyOut) (k : Nat)
    (hpc : l.pc = .exiting o k) (hcoh : Coh gb l) :
    ∃ resp, (callStep gb cc l (.cancel x)).2.1 = [.exited resp, .finish (.raised x)] ∧
      (callStep gb cc l (.cancel x)).1.pc = .done (.raised x) ∧
      (callStep gb cc l (.cancel x)).2.2 = .finished (.raised x) ∧
      (resp = .raised x ∨ (resp = .returned false ∧ o = .raised x)) := by
  cases gb with
  | false =>
    exact ⟨.raised x, by simp [callStep, hpc, contExit, finishExit, combine]⟩
  | true =>
    have e := genAdvance_cancel_inner l.cell.prog x (hcoh.inner (.inr ⟨o, k, hpc⟩))
    -- `__aexit__` turns the generator re-raising the very exception it was handed into "not suppressed"
    cases o with
    | returned v =>
      exact ⟨.raised x, by
        simp [callStep, hpc, genExitSend, e, genAexit, BodyOut.exc, contExit, finishExit, combine, prepend]⟩
    | raised y =>
      by_cases hxy : x = y
      · subst hxy
        exact ⟨.returned false, by
          simp [callStep, hpc, genExitSend, e, genAexit, BodyOut.exc, contExit, finishExit, combine, prepend]⟩
      · exact ⟨.raised x, by
          simp [callStep, hpc, genExitSend, e, genAexit, BodyOut.exc, contExit, finishExit, combine, prepend, hxy]⟩

/-- the automaton after `bodyEnd o`: the events that can follow are `exit (exception of o)` and then
    either nothing yet (the exit is suspended) or `exited resp, finish (combine o resp)` -/
theorem specFrom_bodyDone (o : BodyOut) (evs : List LEv) (pc : Pc)
    (h : specFrom (.bodyDone o) evs = some (absSt pc)) :
    (evs = [.exit o.exc] ∧ ∃ k, pc = .exiting o k) ∨
    (∃ resp, evs = [.exit o.exc, .exited resp, .finish (combine o resp)] ∧ pc = .done (combine o resp)) := by
  cases evs with
  | nil => cases pc <;> simp [specFrom, absSt] at h
  | cons e1 r1 =>
    cases e1 <;> simp only [specFrom, specStep] at h <;> try (cases h; done)
    rename_i y
    by_cases hy : y = o.exc
    · subst hy
      simp only [if_true] at h
      cases r1 with
      | nil =>
        left
        cases pc <;> simp [specFrom, absSt] at h
        rename_i o' k
        subst h
        exact ⟨rfl, k, rfl⟩
      | cons e2 r2 =>
        cases e2 <;> simp only [specFrom, specStep] at h <;> try (cases h; done)
        rename_i resp
        cases r2 with
        | nil => cases pc <;> simp [specFrom, absSt] at h
        | cons e3 r3 =>
          cases e3 <;> simp only [specFrom, specStep] at h <;> try (cases h; done)
          rename_i res
          by_cases hres : res = combine o resp
          · subst hres
            simp only [if_true] at h
            have hnil : r3 = [] := by
              cases r3 with
              | nil => rfl
              | cons e4 r4 => cases e4 <;> simp [specFrom, specStep] at h
            subst hnil
            right
            refine ⟨resp, rfl, ?_⟩
            cases pc <;> simp [specFrom, absSt] at h
            subst h; rfl
          · simp [hres] at h
    · simp [hy] at h

/-- a cancellation thrown into a call that is suspended in the body `await func(...)`: the body ends
    with the cancellation, the call's OWN context is exited with exactly that exception, once; then
    either the exit is suspended, or it has answered and the call finishes with `combine` -/
theorem callStep_cancel_body (gb : Bool) (cc : CallCfg) (l : Local) (x : Exc) (k : Nat)
    (hpc : l.pc = .body k) (hcoh : Coh gb l) :
    ((callStep gb cc l (.cancel x)).2.1 = [.bodyEnd (.raised x), .exit (some x)] ∧
      ∃ j, (callStep gb cc l (.cancel x)).1.pc = .exiting (.raised x) j) ∨
    (∃ resp, (callStep gb cc l (.cancel x)).2.1
        = [.bodyEnd (.raised x), .exit (some x), .exited resp, .finish (combine (.raised x) resp)] ∧
      (callStep gb cc l (.cancel x)).1.pc = .done (combine (.raised x) resp)) := by
  have hy : gb = true → l.cell.pc = .atYield := by
    intro hg; have := hcoh hg; rw [hpc] at this; exact this
  have hg := good_startExit gb cc l.cell (.raised x) hy
  have hcs : callStep gb cc l (.cancel x) = prepend [.bodyEnd (.raised x)] (startExit gb cc l.cell (.raised x)) := by
    simp [callStep, hpc, afterBody]
  rw [hcs]
  rcases specFrom_bodyDone (.raised x) _ _ hg.1 with ⟨h1, j, h2⟩ | ⟨resp, h1, h2⟩
  · left
    exact ⟨by simp [prepend, h1, BodyOut.exc], j, h2⟩
  · right
    exact ⟨resp, by simp [prepend, h1, BodyOut.exc], h2⟩

/-- the manager's exit code starts -/
def isExitEv : LEv → Bool
  | .exit _ => true
  | _ => false

theorem completeShape_exit_once (l : List LEv) (r : Result) (h : CompleteShape l r) :
    l.countP isExitEv ≤ 1 := by
  cases h <;> simp [isExitEv, List.countP_cons]

theorem runFrom_append (cfg : Cfg) : ∀ (a b : List Op) (s : State),
    runFrom cfg s (a ++ b)
      = ((runFrom cfg (runFrom cfg s a).1 b).1, (runFrom cfg s a).2 ++ (runFrom cfg (runFrom cfg s a).1 b).2) := by
  intro a
  induction a with
  | nil => intro b s; rfl
  | cons op rest ih => intro b s; simp only [List.cons_append, runFrom, ih, List.cons_append]

theorem run_snoc_state (cfg : Cfg) (ops : List Op) (op : Op) :
    (run cfg (ops ++ [op])).1 = (step cfg (run cfg ops).1 op).1 := by
  simp only [run, runFrom_append, runFrom]

end AsyncVerif.Decorator
