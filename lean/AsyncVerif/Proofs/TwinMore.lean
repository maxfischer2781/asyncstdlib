import AsyncVerif.Proofs.Core
/-!
# Twins that need more than "scoping is invisible": cycle, compress, dropwhile

cycle: the asyncstdlib body continues after the scope ended.  `VisOnly m`: `m` reads and writes nothing
but the visible log and the consumer (it only yields), so it behaves the same from any two worlds that
agree on those — whatever happened to the sources (`twin_bind_visOnly`).
compress, dropwhile: the asyncstdlib loop is a different program text for the same function of worlds;
the equalities are `zipLoop_eq_compressLoop` and `dropwhile_body_eq`.
-/
namespace AsyncVerif

def VisOnly {α : Type} (m : M α) : Prop :=
  ∀ w w', w.vis = w'.vis → w.cons = w'.cons →
    (m w).1 = (m w').1 ∧ (m w).2.vis = (m w').2.vis ∧ (m w).2.cons = (m w').2.cons

theorem visOnly_pure {α : Type} (a : α) : VisOnly (pure a : M α) := fun _ _ hv hc => ⟨rfl, hv, hc⟩

theorem visOnly_raise {α : Type} (x : Exc) : VisOnly (raise x : M α) := fun _ _ hv hc => ⟨rfl, hv, hc⟩

theorem visOnly_yieldV (v : Val) : VisOnly (yieldV v) := by
  intro w w' hv hc
  rw [yieldV_eq, yieldV_eq, ← hc]
  exact ⟨rfl, congrArg (· ++ _) hv, rfl⟩

theorem visOnly_bind {α β : Type} {m : M α} {f : α → M β} (hm : VisOnly m) (hf : ∀ a, VisOnly (f a)) :
    VisOnly (m >>= f) := by
  intro w w' hv hc
  obtain ⟨hr, hv1, hc1⟩ := hm w w' hv hc
  rw [bind_apply, bind_apply]
  rcases hmw : m w with ⟨r, w1⟩
  rcases hmw' : m w' with ⟨r', w1'⟩
  rw [hmw, hmw'] at hr hv1 hc1
  simp only at hr hv1 hc1
  subst hr
  cases r with
  | ok a => exact hf a w1 w1' hv1 hc1
  | error x => exact ⟨rfl, hv1, hc1⟩

theorem visOnly_replay (buffer : List Val) (fuel : Nat) (l : List Val) : VisOnly (Std.replay buffer l fuel) :=
  Sequential.replay (P := @VisOnly) ⟨visOnly_pure, fun x _ => visOnly_raise x, visOnly_bind⟩ visOnly_yieldV buffer fuel l

theorem twin_bind_visOnly {α β : Type} {a b : M α} {f : α → M β}
    (hab : ∀ w, (a w).1 = (b w).1 ∧ (a w).2.vis = (b w).2.vis ∧ (a w).2.cons = (b w).2.cons)
    (hf : ∀ x, VisOnly (f x)) : Twin (a >>= f) (b >>= f) := by
  intro w
  obtain ⟨hr, hv, hc⟩ := hab w
  rw [bind_apply, bind_apply]
  rcases ha : a w with ⟨r, w1⟩
  rcases hb : b w with ⟨r', w1'⟩
  rw [ha, hb] at hr hv hc
  simp only at hr hv hc
  subst hr
  cases r with
  | ok x => have := hf x w1 w1' hv hc; exact ⟨this.1, this.2.1⟩
  | error e => exact ⟨rfl, hv⟩

/-- `zip` of two iterators followed by the selection (`k`: the loop body of `compress`) is literally
    `compress_next`'s loop -/
theorem zipLoop_eq_compressLoop (d sel : Nat) {k : List Val → M Unit}
    (hk : ∀ x y, k [x, y] = if y.truthy then yieldV x else pure ()) : ∀ fuel,
    Std.zipLoop [d, sel] k fuel = Std.compressLoop d sel fuel
  | 0 => rfl
  | fuel+1 => by
    unfold Std.zipLoop Std.compressLoop
    simp only [Std.zipRow, M.bind_assoc]
    refine congrArg (pull d >>= ·) (funext fun r => ?_)
    cases r with
    | none => rfl
    | some x =>
      simp only [M.bind_assoc]
      refine congrArg (pull sel >>= ·) (funext fun r => ?_)
      cases r with
      | none => rfl
      | some y =>
        simp only [M.pure_bind, hk, List.nil_append, List.cons_append]
        split <;> simp only [zipLoop_eq_compressLoop d sel hk fuel, M.pure_bind]

/-- once started, `dropwhile_next` is a plain pass-through loop -/
theorem dropwhileLoop_started (f s : Nat) : ∀ fuel,
    Std.dropwhileLoop f s true fuel = forEach s (fun x => do yieldV x; pure true) fuel
  | 0 => rfl
  | fuel+1 => by
    unfold Std.dropwhileLoop forEach
    refine congrArg (pull s >>= ·) (funext fun r => ?_)
    cases r with
    | none => rfl
    | some x => simp only [if_true, M.bind_assoc, M.pure_bind, dropwhileLoop_started f s fuel]

/-- asyncstdlib's two loops over one iterator = CPython's single loop with the `start` flag -/
theorem dropwhile_body_eq (f s : Nat) : ∀ fuel,
    (do match ← Impl.dropPhase f s fuel with
        | some rest => forEach s (fun x => do yieldV x; pure true) rest
        | none => pure () : M Unit) = Std.dropwhileLoop f s false fuel
  | 0 => rfl
  | fuel+1 => by
    unfold Impl.dropPhase Std.dropwhileLoop
    rw [M.bind_assoc]
    refine congrArg (pull s >>= ·) (funext fun r => ?_)
    cases r with
    | none => rfl
    | some x =>
      simp only [M.bind_assoc, Bool.false_eq_true, if_false]
      refine congrArg (call f [x] >>= ·) (funext fun v => ?_)
      split
      · exact dropwhile_body_eq f s fuel
      · simp only [M.bind_assoc, M.pure_bind, dropwhileLoop_started f s fuel]

end AsyncVerif
