import AsyncVerif.Machines.AdaptersFail
/-!
# asynctools adapters on the failure / early-end paths, for `Properties/C19Fail.lean`

Everything is a closed form for "a prefix that succeeds undisturbed, then whatever comes": one
awaitable under a cut (`awaitScript_ok/_cut`), `awaitFrom` on a succeeding prefix (`awaitFrom_all`,
`awaitFrom_append`), `apply` as one `awaitFrom` over positional ++ keyword arguments (`apply_eq`,
`apply_clean`), a generator delivering a succeeding prefix request by request (`run_items`, instances
`each_items`, `any_items`), the `sync` wrapper call by call (`syncRun_append`).
-/
namespace AsyncVerif.AdaptersFail
open AsyncVerif.Adapters (Val Exc Res Kind)

theorem Cut.allows_add (cut : Cut) (a b : Nat) (h : cut.allows (a + b) = true) :
    cut.allows a = true ∧ (cut.after a).allows b = true := by
  cases cut with
  | none => exact ⟨rfl, rfl⟩
  | some p => obtain ⟨n, c⟩ := p; simp only [Cut.allows, Cut.after, decide_eq_true_eq] at h ⊢; omega

theorem Cut.after_after (cut : Cut) (a b : Nat) : (cut.after a).after b = cut.after (a + b) := by
  cases cut with
  | none => rfl
  | some p => obtain ⟨n, c⟩ := p; simp only [Cut.after]; congr 2; omega

theorem Cut.after_zero (cut : Cut) : cut.after 0 = cut := by
  cases cut with
  | none => rfl
  | some p => rfl

theorem awaitScript_ok (a : Ev) (s : Nat → Ev) (k : Nat) (r : Res) (cut : Cut)
    (h : cut.allows k = true) :
    awaitScript a s k r cut = (a :: susps s k, ofRes r, cut.after k) := by
  cases cut with
  | none => rfl
  | some p =>
    obtain ⟨n, c⟩ := p
    simp only [Cut.allows, decide_eq_true_eq] at h
    simp only [awaitScript, Cut.after, show ¬ n < k by omega, if_false]

theorem awaitScript_cut (a : Ev) (s : Nat → Ev) (k : Nat) (r : Res) (n c : Nat) (h : n < k) :
    awaitScript a s k r (some (n, c)) = (a :: susps s (n + 1), .error (.thrown c), none) := by
  simp only [awaitScript, h, if_true]

theorem awaitArg_ok (i : Nat) (a : Arg) (v : Val) (cut : Cut) (ha : a.res = .ok v)
    (h : cut.allows a.susps = true) :
    awaitArg i a cut = (seg i a, .ok v, cut.after a.susps) := by
  cases a with
  | plain w => simp [Arg.res] at ha
  | aw k r =>
    simp only [Arg.res] at ha
    simp only [Arg.susps] at h
    simp only [awaitArg, awaitScript_ok _ _ _ _ _ h, seg, ha, ofRes, Arg.susps]

theorem awaitArg_raises (i k : Nat) (e : Exc) (cut : Cut) (h : cut.allows k = true) :
    awaitArg i (.aw k (.err e)) cut = (.await i :: susps (.susp i) k, .error (.raised e), cut.after k) := by
  simp only [awaitArg, awaitScript_ok _ _ _ _ _ h, ofRes]

theorem awaitArg_thrown (i k : Nat) (r : Res) (n c : Nat) (h : n < k) :
    awaitArg i (.aw k r) (some (n, c)) = (.await i :: susps (.susp i) (n + 1), .error (.thrown c), none) := by
  simp only [awaitArg, awaitScript_cut _ _ _ _ _ _ h]

theorem resolveArg_ok (i : Nat) (a : Arg) (v : Val) (cut : Cut) (ha : a.resolved = .ok v)
    (h : cut.allows a.susps = true) :
    resolveArg i a cut = (seg i a, .ok v, cut.after a.susps) := by
  cases a with
  | plain w =>
    simp only [Arg.resolved, Res.ok.injEq] at ha
    simp only [resolveArg, seg, Arg.susps, Cut.after_zero, ha]
  | aw k r => exact awaitArg_ok i (.aw k r) v cut ha h

/-- put the events and values of an already awaited prefix in front -/
def pre2 (evs : List Ev) (vs : List Val) (r : List Ev × Except Err (List Val) × Cut) :
    List Ev × Except Err (List Val) × Cut :=
  match r with
  | (evs', .ok ws, c) => (evs ++ evs', .ok (vs ++ ws), c)
  | (evs', .error e, c) => (evs ++ evs', .error e, c)

theorem pre2_nil (r) : pre2 [] [] r = r := by
  rcases r with ⟨evs', (e | ws), c⟩ <;> rfl

theorem pre2_pre2 (e1 e2 : List Ev) (v1 v2 : List Val) (r) :
    pre2 e1 v1 (pre2 e2 v2 r) = pre2 (e1 ++ e2) (v1 ++ v2) r := by
  rcases r with ⟨evs', (e | ws), c⟩ <;> simp only [pre2, List.append_assoc]

theorem awaitFrom_cons_ok (i : Nat) (a : Arg) (rest : List Arg) (cut cut' : Cut) (evs : List Ev)
    (v : Val) (h : awaitArg i a cut = (evs, .ok v, cut')) :
    awaitFrom i (a :: rest) cut = pre2 evs [v] (awaitFrom (i + 1) rest cut') := by
  simp only [awaitFrom, h]
  rcases awaitFrom (i + 1) rest cut' with ⟨evs', (e | ws), c⟩ <;> rfl

theorem awaitFrom_cons_err (i : Nat) (a : Arg) (rest : List Arg) (cut cut' : Cut) (evs : List Ev)
    (e : Err) (h : awaitArg i a cut = (evs, .error e, cut')) :
    awaitFrom i (a :: rest) cut = (evs, .error e, cut') := by
  simp only [awaitFrom, h]

theorem awaitFrom_append (l1 l2 : List Arg) (i : Nat) (cut : Cut) :
    awaitFrom i (l1 ++ l2) cut =
      match awaitFrom i l1 cut with
      | (evs, .error e, c) => (evs, .error e, c)
      | (evs, .ok vs, c) => pre2 evs vs (awaitFrom (i + l1.length) l2 c) := by
  induction l1 generalizing i cut with
  | nil => exact (pre2_nil _).symm
  | cons a l1 ih =>
    rw [List.cons_append, List.length_cons, ← Nat.add_assoc, Nat.add_right_comm]
    rcases h : awaitArg i a cut with ⟨evs, (e | v), c'⟩
    · rw [awaitFrom_cons_err _ _ _ _ _ _ _ h, awaitFrom_cons_err _ _ _ _ _ _ _ h]
    · rw [awaitFrom_cons_ok _ _ _ _ _ _ _ h, awaitFrom_cons_ok _ _ _ _ _ _ _ h, ih]
      rcases awaitFrom (i + 1) l1 c' with ⟨evs', (e | ws), c⟩
      · rfl
      · exact pre2_pre2 _ _ _ _ _

theorem awaitFrom_all (l : List Arg) (vs : List Val) (i : Nat) (cut : Cut)
    (hpre : l.map Arg.res = vs.map Res.ok) (hcut : cut.allows (suspCount l) = true) :
    awaitFrom i l cut = (segs i l, .ok vs, cut.after (suspCount l)) := by
  induction l generalizing vs i cut with
  | nil =>
    cases vs with
    | cons _ _ => cases hpre
    | nil => rw [awaitFrom, suspCount, Cut.after_zero]; rfl
  | cons a l ih =>
    cases vs with
    | nil => cases hpre
    | cons v vs =>
      simp only [List.map_cons, List.cons.injEq] at hpre
      rw [suspCount] at hcut
      obtain ⟨h1, h2⟩ := Cut.allows_add cut _ _ hcut
      rw [awaitFrom_cons_ok _ _ _ _ _ _ _ (awaitArg_ok i a v cut hpre.1 h1),
        ih vs (i + 1) _ hpre.2 h2, Cut.after_after]
      rfl

theorem awaitFrom_ok_length (l : List Arg) (i : Nat) (cut c : Cut) (evs : List Ev) (vs : List Val)
    (h : awaitFrom i l cut = (evs, .ok vs, c)) : vs.length = l.length := by
  induction l generalizing i cut evs vs c with
  | nil => cases h; rfl
  | cons a l ih =>
    rcases h1 : awaitArg i a cut with ⟨evs1, (e | v), c'⟩
    · rw [awaitFrom_cons_err _ _ _ _ _ _ _ h1] at h; cases h
    · rw [awaitFrom_cons_ok _ _ _ _ _ _ _ h1] at h
      rcases h2 : awaitFrom (i + 1) l c' with ⟨evs', (e | ws), c2⟩
      · rw [h2] at h; cases h
      · rw [h2] at h; cases h
        rw [List.singleton_append, List.length_cons, List.length_cons, ih _ _ _ _ _ h2]

/-- `apply` does what the await of all its arguments in a row does, then calls -/
theorem apply_eq (f : Fn) (args : List Arg) (kwargs : List (Nat × Arg)) (cut : Cut) :
    apply f args kwargs cut =
      match awaitFrom 0 (args ++ kwargs.map Prod.snd) cut with
      | (evs, .error e, _) => (evs, .error e)
      | (evs, .ok ws, _) =>
        (evs ++ [Ev.call (ws.take args.length) ((kwargs.map Prod.fst).zip (ws.drop args.length))],
          ofRes (f.beh (ws.take args.length) ((kwargs.map Prod.fst).zip (ws.drop args.length)))) := by
  rw [awaitFrom_append, apply, Nat.zero_add]
  rcases h1 : awaitFrom 0 args cut with ⟨evs1, (e1 | vs), c1⟩
  · rfl
  · have hl := awaitFrom_ok_length _ _ _ _ _ _ h1
    dsimp only
    rcases awaitFrom args.length (kwargs.map Prod.snd) c1 with ⟨evs2, (e2 | kvs), c2⟩
    · rfl
    · simp only [pre2, ← hl, List.take_left', List.drop_left']

theorem apply_clean (f : Fn) (args : List Arg) (kwargs : List (Nat × Arg)) (cut : Cut)
    (pre rest : List Arg) (vs : List Val) (hall : args ++ kwargs.map Prod.snd = pre ++ rest)
    (hpre : pre.map Arg.res = vs.map Res.ok) (hcut : cut.allows (suspCount pre) = true) :
    apply f args kwargs cut =
      match awaitFrom pre.length rest (cut.after (suspCount pre)) with
      | (evs, .error e, _) => (segs 0 pre ++ evs, .error e)
      | (evs, .ok ws, _) =>
        (segs 0 pre ++ evs ++ [Ev.call ((vs ++ ws).take args.length)
            ((kwargs.map Prod.fst).zip ((vs ++ ws).drop args.length))],
          ofRes (f.beh ((vs ++ ws).take args.length)
            ((kwargs.map Prod.fst).zip ((vs ++ ws).drop args.length)))) := by
  rw [apply_eq, hall, awaitFrom_append, awaitFrom_all pre vs 0 cut hpre hcut, Nat.zero_add]
  dsimp only
  rcases awaitFrom pre.length rest (cut.after (suspCount pre)) with ⟨evs, (e | ws), c⟩ <;> rfl

@[simp] theorem run_nil {σ : Type} (step : σ → Op → Step × σ) (s : σ) : run step s [] = [] := rfl

@[simp] theorem run_cons {σ : Type} (step : σ → Op → Step × σ) (s : σ) (op : Op) (ops : List Op) :
    run step s (op :: ops) = (step s op).1 :: run step (step s op).2 ops := rfl

theorem run_append {σ : Type} (step : σ → Op → Step × σ) (s : σ) (o1 o2 : List Op) :
    ∃ s', run step s (o1 ++ o2) = run step s o1 ++ run step s' o2 := by
  induction o1 generalizing s with
  | nil => exact ⟨s, rfl⟩
  | cons op o1 ih =>
    obtain ⟨s', h⟩ := ih (step s op).2
    exact ⟨s', by simp only [List.cons_append, run, h]⟩

theorem run_dead {σ : Type} (step : σ → Op → Step × σ) (d : σ)
    (h : ∀ op, step d op = (deadStep op, d)) (ops : List Op) : run step d ops = ops.map deadStep := by
  induction ops with
  | nil => rfl
  | cons op ops ih => simp only [run_cons, h, ih, List.map_cons]

theorem each_done (lazy : Bool) (ops : List Op) :
    run (eachStep lazy) .done ops = ops.map deadStep :=
  run_dead _ _ (fun op => by cases op <;> rfl) ops

theorem any_done (ops : List Op) : run anyStep .done ops = ops.map deadStep :=
  run_dead _ _ (fun op => by cases op <;> rfl) ops

/-- A generator standing before the items `pre ++ post` (state `st i _`, `i` items taken so far)
    that delivers an item resolving to a value in one undisturbed request — element produced (lazy
    iterable), awaited completely, value handed out — delivers `pre` request by request and then
    stands before `post`. -/
theorem run_items {σ : Type} (step : σ → Op → Step × σ) (st : Nat → List Arg → σ) (lazy : Bool)
    (res : Arg → Res)
    (h : ∀ i a rest v, res a = .ok v →
      step (st i (a :: rest)) (.next none) = ((produce lazy i ++ seg i a, .item v), st (i + 1) rest))
    (pre : List Arg) (vs : List Val) (post : List Arg) (i : Nat) (ops : List Op)
    (hpre : pre.map res = vs.map Res.ok) :
    run step (st i (pre ++ post)) (List.replicate pre.length (.next none) ++ ops)
      = itemSteps lazy i pre vs ++ run step (st (i + pre.length) post) ops := by
  induction pre generalizing vs i with
  | nil => cases vs <;> rfl
  | cons a pre ih =>
    cases vs with
    | nil => cases hpre
    | cons v vs =>
      simp only [List.map_cons, List.cons.injEq] at hpre
      rw [List.length_cons, List.replicate_succ, List.cons_append, List.cons_append, run_cons,
        h i a _ v hpre.1, ih vs (i + 1) hpre.2, ← Nat.add_assoc, Nat.add_right_comm]
      rfl

theorem each_items (lazy : Bool) (pre : List Arg) (vs : List Val) (post : List Arg) (i : Nat)
    (ops : List Op) (hpre : pre.map Arg.res = vs.map Res.ok) :
    run (eachStep lazy) (.live i (pre ++ post)) (List.replicate pre.length (.next none) ++ ops)
      = itemSteps lazy i pre vs ++ run (eachStep lazy) (.live (i + pre.length) post) ops :=
  run_items (eachStep lazy) .live lazy Arg.res
    (fun i a rest v ha => by simp only [eachStep, eachNext, awaitArg_ok i a v none ha rfl])
    pre vs post i ops hpre

/-- the state in which `any_iter` loops over the iterable, `pos` items taken so far -/
def anyLoop : Kind → Nat → List Arg → AnySt
  | .aiter, pos, items => .loopA pos items
  | .iter, pos, items => .loopS true pos items
  | .list, pos, items => .loopS false pos items

theorem any_items (kind : Kind) (pre : List Arg) (vs : List Val) (post : List Arg) (i : Nat)
    (ops : List Op) (hpre : pre.map Arg.resolved = vs.map Res.ok) :
    run anyStep (anyLoop kind i (pre ++ post)) (List.replicate pre.length (.next none) ++ ops)
      = itemSteps (kindLazy kind) i pre vs ++ run anyStep (anyLoop kind (i + pre.length) post) ops :=
  run_items anyStep (anyLoop kind) (kindLazy kind) Arg.resolved
    (fun i a rest v ha => by
      cases kind <;>
        simp only [anyLoop, anyStep, anyNext, anyStepS, anyStepA, resolveArg_ok i a v none ha rfl] <;> rfl)
    pre vs post i ops hpre

theorem any_loop_raises (kind : Kind) (i k : Nat) (e : Exc) (post : List Arg) :
    anyStep (anyLoop kind i (.aw k (.err e) :: post)) (.next none)
      = ((produce (kindLazy kind) i ++ .await i :: susps (.susp i) k, .failed (.raised e)), .done) := by
  cases kind <;> rfl

theorem any_fresh_run (o : Option Outer) (kind : Kind) (items : List Arg) (ops : List Op)
    (ho : o.bind (·.fail) = none) :
    run anyStep (.fresh o kind items) (.next none :: ops)
      = addFirst (outerSeg o) (run anyStep (anyLoop kind 0 items) (.next none :: ops)) := by
  rcases o with _ | ⟨ko, _ | e⟩
  · cases kind <;> rfl
  · cases kind <;> rfl
  · cases ho

theorem replicate_cons_comm {α : Type} (x : α) (n : Nat) (l : List α) :
    x :: (List.replicate n x ++ l) = List.replicate n x ++ x :: l := by
  rw [← List.cons_append, ← List.replicate_succ, List.replicate_succ', List.append_assoc]
  rfl

theorem awaitScript_out (a a' : Ev) (s s' : Nat → Ev) (k : Nat) (r : Res) (cut : Cut) :
    (awaitScript a s k r cut).2 = (awaitScript a' s' k r cut).2 := by
  rcases cut with _ | ⟨n, c⟩
  · rfl
  · by_cases h : n < k
    · rw [awaitScript_cut _ _ _ _ _ _ h, awaitScript_cut _ _ _ _ _ _ h]
    · simp only [awaitScript, if_neg h]

theorem asyncWrapped_out (i j : Nat) (ans : Ans) (cut : Cut) :
    (asyncWrapped i ans cut).2 = (asyncWrapped j ans cut).2 := by
  cases ans with
  | plain v => rfl
  | raises e => rfl
  | aw k r => exact congrArg (·.1) (awaitScript_out (.await i) (.await j) (.susp i) (.susp j) k r cut)

theorem syncRun_append (pre post : List (Ans × Cut)) (i : Nat) :
    syncRun i (pre ++ post) = syncRun i pre ++ syncRun (i + pre.length) post := by
  induction pre generalizing i with
  | nil => rfl
  | cons c pre ih =>
    obtain ⟨ans, cut⟩ := c
    rw [List.cons_append, syncRun, ih, List.length_cons, ← Nat.add_assoc, Nat.add_right_comm]
    rfl

theorem syncRun_length (l : List (Ans × Cut)) (i : Nat) : (syncRun i l).length = l.length := by
  induction l generalizing i with
  | nil => rfl
  | cons c l ih => obtain ⟨ans, cut⟩ := c; rw [syncRun, List.length_cons, List.length_cons, ih]

end AsyncVerif.AdaptersFail
