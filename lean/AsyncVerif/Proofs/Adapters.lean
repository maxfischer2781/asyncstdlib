import AsyncVerif.Machines.Adapters
/-! asynctools adapters, for `Properties/C19.lean`.

The two generators are compared with `specOps` through one simulation lemma (`outs_run`): a state
stands for the results still to come, and one operation does to them what `specStep` does.  Apart
from that: `await_each` request by request (`each_steps`) and which awaitables it can have started
(`each_started`); `awaitAll` / `awaitKw` of `apply` on a succeeding prefix (`awaitAll_append`). -/
namespace AsyncVerif.Adapters

@[simp] theorem run_nil {σ : Type} (step : σ → Op → Step × σ) (s : σ) : run step s [] = [] := rfl

@[simp] theorem run_cons {σ : Type} (step : σ → Op → Step × σ) (s : σ) (op : Op) (ops : List Op) :
    run step s (op :: ops) = (step s op).1 :: run step (step s op).2 ops := rfl

theorem trace_cons (s : Step) (l : List Step) : trace (s :: l) = s.1 ++ trace l := rfl

theorem run_dead {σ : Type} (step : σ → Op → Step × σ) (d : σ)
    (h : ∀ op, step d op = (deadStep op, d)) (ops : List Op) : run step d ops = ops.map deadStep := by
  induction ops with
  | nil => rfl
  | cons op ops ih => simp only [run_cons, h, ih, List.map_cons]

theorem any_done (ops : List Op) : run anyStep .done ops = ops.map deadStep :=
  run_dead anyStep .done (fun op => by cases op <;> rfl) ops

theorem each_done (ops : List Op) : run eachStep .done ops = ops.map deadStep :=
  run_dead eachStep .done (fun op => by cases op <;> rfl) ops

theorem trace_dead (l : List Op) : trace (l.map deadStep) = [] := by
  induction l with
  | nil => rfl
  | cons o l ih => rw [List.map_cons, trace_cons, ih]; cases o <;> rfl

/-- what `specOps` shows for one operation, and the results it leaves to come -/
def specStep (rs : List Res) : Op → Out × List Res
  | .close => (.closed, [])
  | .next =>
    match rs with
    | [] => (.stop, [])
    | .ok v :: r => (.item v, r)
    | .err e :: _ => (.raised e, [])

theorem specOps_nil (rs : List Res) : specOps rs [] = [] := by
  rcases rs with _ | ⟨_ | _, _⟩ <;> rfl

theorem specOps_dead (ops : List Op) : specOps [] ops = outs (ops.map deadStep) := by
  rcases ops with _ | ⟨_ | _, _⟩ <;> rfl

theorem specOps_cons (rs : List Res) (op : Op) (ops : List Op) :
    specOps rs (op :: ops) = (specStep rs op).1 :: specOps (specStep rs op).2 ops := by
  rcases rs with _ | ⟨_ | _, _⟩ <;> cases op <;> simp only [specOps, specStep, specOps_dead, outs]

theorem specOps_replicate (rs : List Res) (k : Nat) :
    specOps rs (List.replicate k .next) = specOuts rs k := by
  induction k generalizing rs with
  | zero => rw [List.replicate_zero, specOps_nil]; rcases rs with _ | ⟨_ | _, _⟩ <;> rfl
  | succ k ih =>
    rw [List.replicate_succ, specOps_cons, ih]
    rcases rs with _ | ⟨_ | _, _⟩ <;> rfl

theorem specOuts_nil (k : Nat) : specOuts [] k = List.replicate k .stop := by
  induction k with
  | zero => rfl
  | succ k ih => rw [specOuts, ih, List.replicate_succ]

/-- `m`: any supply of `StopAsyncIteration`s that is large enough; left free so that the induction
    on `vals` goes through -/
theorem specOuts_ok (vals : List Val) (k m : Nat) (h : k ≤ m) :
    specOuts (vals.map Res.ok) k = (vals.map Out.item ++ List.replicate m Out.stop).take k := by
  induction vals generalizing k with
  | nil =>
    simp only [List.map_nil, List.nil_append, specOuts_nil, List.take_replicate, Nat.min_eq_left h]
  | cons v vs ih =>
    cases k with
    | zero => rfl
    | succ k =>
      simp only [List.map_cons, specOuts, List.cons_append, List.take_succ_cons,
        ih k (Nat.le_of_succ_le h)]

/-- A generator whose states stand for the results still to come, each operation doing to them
    what `specStep` does, shows the consumer `specOps` of them. -/
theorem outs_run {σ : Type} (step : σ → Op → Step × σ) (res : σ → List Res)
    (h : ∀ s op, ((step s op).1.2, res (step s op).2) = specStep (res s) op) (s : σ)
    (ops : List Op) : outs (run step s ops) = specOps (res s) ops := by
  induction ops generalizing s with
  | nil => exact (specOps_nil _).symm
  | cons op ops ih =>
    rw [specOps_cons, ← h]
    exact congrArg ((step s op).1.2 :: ·) (ih _)

theorem resolveItem_res (it : Item) : (resolveItem it).2 = it.res := by
  cases it <;> rfl

/-- the results still to come in a state of `any_iter` -/
def anyRes : AnySt → List Res
  | .fresh o src => anyResults o src
  | .loopA src | .loopS src => src.items.map fun p => p.2.res
  | .done => []

theorem anyStepA_spec (src : Src) :
    ((anyStepA src).1.2, anyRes (anyStepA src).2) = specStep (src.items.map fun p => p.2.res) .next := by
  obtain ⟨kind, items, endToks⟩ := src
  rcases items with _ | ⟨⟨toks, it⟩, rest⟩
  · rfl
  · simp only [anyStepA, List.map_cons, ← resolveItem_res it]
    rcases resolveItem it with ⟨evs, _ | _⟩ <;> rfl

theorem anyStepS_spec (src : Src) :
    ((anyStepS src).1.2, anyRes (anyStepS src).2) = specStep (src.items.map fun p => p.2.res) .next := by
  obtain ⟨kind, items, endToks⟩ := src
  rcases items with _ | ⟨⟨toks, it⟩, rest⟩
  · rfl
  · simp only [anyStepS, List.map_cons, ← resolveItem_res it]
    rcases resolveItem it with ⟨evs, _ | _⟩ <;> rfl

theorem anyEnter_spec (src : Src) :
    ((anyEnter src).1.2, anyRes (anyEnter src).2) = specStep (src.items.map fun p => p.2.res) .next := by
  unfold anyEnter
  split
  · exact anyStepA_spec src
  · exact anyStepS_spec src

theorem anyStep_spec (s : AnySt) (op : Op) :
    ((anyStep s op).1.2, anyRes (anyStep s op).2) = specStep (anyRes s) op := by
  cases op with
  | close => rfl
  | next =>
    cases s with
    | done => rfl
    | loopA src => exact anyStepA_spec src
    | loopS src => exact anyStepS_spec src
    | fresh o src =>
      -- awaiting the outer awaitable only puts events in front of the first iteration
      rcases o with _ | ⟨id, toks, _ | e⟩
      · exact anyEnter_spec src
      · exact anyEnter_spec src
      · rfl

theorem any_outs (s : AnySt) (ops : List Op) : outs (run anyStep s ops) = specOps (anyRes s) ops :=
  outs_run anyStep anyRes anyStep_spec s ops

theorem eachStep_next (s : EachSt) : eachStep s .next = eachNext s := rfl

theorem eachNext_nil (kind : Kind) (hk : kind ≠ .aiter) (endToks : List Tok) :
    eachNext (.live ⟨kind, [], endToks⟩) = ((pullS kind, .stop), .done) := by
  simp only [eachNext, if_neg hk]

theorem eachNext_cons (kind : Kind) (hk : kind ≠ .aiter) (toks : List Tok) (it : Item)
    (rest : List (List Tok × Item)) (endToks : List Tok) :
    eachNext (.live ⟨kind, (toks, it) :: rest, endToks⟩)
      = ((pullS kind ++ (awaitItem it).1, match (awaitItem it).2 with | .ok v => .item v | .err e => .raised e),
          match (awaitItem it).2 with | .ok _ => .live ⟨kind, rest, endToks⟩ | .err _ => .done) := by
  simp only [eachNext, if_neg hk]
  rcases awaitItem it with ⟨evs, _ | _⟩ <;> rfl

/-- the results still to come in a state of `await_each`; `for` over an async iterator is a
    `TypeError` at the first request -/
def eachRes : EachSt → List Res
  | .live src => if src.kind = .aiter then [.err .typeError] else eachResults src
  | .done => []

theorem eachStep_spec (s : EachSt) (op : Op) :
    ((eachStep s op).1.2, eachRes (eachStep s op).2) = specStep (eachRes s) op := by
  cases op with
  | close => rfl
  | next =>
    cases s with
    | done => rfl
    | live src =>
      obtain ⟨kind, items, endToks⟩ := src
      by_cases hk : kind = .aiter
      · subst hk; rfl
      · rw [eachStep_next, eachRes, if_neg hk]
        rcases items with _ | ⟨⟨toks, it⟩, rest⟩
        · rw [eachNext_nil kind hk]; rfl
        · rw [eachNext_cons kind hk, eachResults, List.map_cons]
          cases (awaitItem it).2
          · simp only [eachRes, if_neg hk]; rfl
          · rfl

theorem each_outs (s : EachSt) (ops : List Op) : outs (run eachStep s ops) = specOps (eachRes s) ops :=
  outs_run eachStep eachRes eachStep_spec s ops

theorem each_steps (kind : Kind) (hk : kind ≠ .aiter) (aws : List Aw)
    (hok : ∀ a ∈ aws, ∃ v, a.res = .ok v) (k : Nat) :
    run eachStep (.live (awSrc kind aws)) (List.replicate k .next)
      = (aws.map (eachSeg kind)).take k ++ tailSteps kind (k - aws.length) := by
  induction aws generalizing k with
  | nil =>
    cases k with
    | zero => rfl
    | succ k =>
      rw [awSrc, List.map_nil, List.replicate_succ, run_cons, eachStep_next, eachNext_nil kind hk,
        each_done, List.map_replicate]
      rfl
  | cons a rest ih =>
    cases k with
    | zero => rw [List.replicate_zero, Nat.zero_sub]; rfl
    | succ k =>
      obtain ⟨v, hv⟩ := hok a List.mem_cons_self
      have ih' := ih (fun b hb => hok b (List.mem_cons_of_mem _ hb)) k
      rw [awSrc] at ih'
      rw [awSrc, List.map_cons, List.replicate_succ, run_cons, eachStep_next, eachNext_cons kind hk]
      simp only [awaitItem, awaitAw, hv, ih', List.map_cons, List.take_succ_cons, List.length_cons,
        Nat.add_sub_add_right, List.cons_append, eachSeg]

theorem start_notin_pullS (a : Nat) (k : Kind) : Ev.start a ∉ pullS k := by
  unfold pullS; split <;> simp

theorem start_mem_awaitItem (a : Nat) (toks : List Tok) (it : Item)
    (h : Ev.start a ∈ (awaitItem it).1) : a ∈ awIds [(toks, it)] := by
  cases it with
  | plain v => cases h
  | aw b => simpa [awaitItem, awaitAw, awIds] using h

theorem awIds_cons (p : List Tok × Item) (l : List (List Tok × Item)) :
    awIds (p :: l) = awIds [p] ++ awIds l := by
  obtain ⟨toks, _ | b⟩ := p <;> rfl

theorem awIds_awSrc (l : List Aw) :
    awIds (l.map fun a => (([] : List Tok), Item.aw a)) = l.map (·.id) := by
  induction l with
  | nil => rfl
  | cons a l ih => rw [List.map_cons, awIds, ih, List.map_cons]

theorem each_started (src : Src) (ops : List Op) (a : Nat)
    (h : Ev.start a ∈ trace (run eachStep (.live src) ops)) :
    a ∈ awIds (src.items.take (nexts ops)) := by
  obtain ⟨kind, items, endToks⟩ := src
  induction ops generalizing items with
  | nil => cases h
  | cons op ops ih =>
    have dead : Ev.start a ∉ trace (run eachStep .done ops) := by
      rw [each_done, trace_dead]; exact List.not_mem_nil
    rw [run_cons, trace_cons, List.mem_append] at h
    cases op with
    | close => exact h.elim nofun (absurd · dead)
    | next =>
      rw [eachStep_next] at h
      by_cases hk : kind = .aiter
      · subst hk; exact h.elim nofun (absurd · dead)
      · rcases items with _ | ⟨⟨toks, it⟩, rest⟩
        · rw [eachNext_nil kind hk] at h
          exact h.elim (absurd · (start_notin_pullS a kind)) (absurd · dead)
        · -- this request: one pull and the await of the first element; then the rest, if it succeeded
          rw [eachNext_cons kind hk, List.mem_append] at h
          simp only [nexts, List.take_succ_cons]
          rw [awIds_cons, List.mem_append]
          refine h.imp (Or.rec (absurd · (start_notin_pullS a kind)) (start_mem_awaitItem a toks it))
            fun h => ?_
          generalize (awaitItem it).2 = r at h
          cases r
          · exact ih rest h
          · exact absurd h dead

theorem awaitAll_append (pre : List Item) (vs : List Val) (rest : List Item)
    (h : pre.map (fun it => (awaitItem it).2) = vs.map Res.ok) :
    awaitAll (pre ++ rest)
      = ((pre.map fun it => (awaitItem it).1).flatten ++ (awaitAll rest).1,
          (awaitAll rest).2.map (vs ++ ·)) := by
  induction pre generalizing vs with
  | nil =>
    cases vs with
    | cons v vs => cases h
    | nil =>
      rw [List.nil_append, List.map_nil, List.flatten_nil, List.nil_append]
      rcases awaitAll rest with ⟨evs, _ | _⟩ <;> rfl
  | cons it pre ih =>
    cases vs with
    | nil => cases h
    | cons v vs =>
      simp only [List.map_cons, List.cons.injEq] at h
      simp only [List.cons_append, awaitAll, ih vs h.2, List.map_cons, List.flatten_cons,
        List.append_assoc]
      generalize awaitItem it = r at h
      obtain ⟨evs, r⟩ := r
      cases h.1
      rcases awaitAll rest with ⟨evs', _ | _⟩ <;> rfl

theorem awaitAll_ok (items : List Item) (vs : List Val)
    (h : items.map (fun it => (awaitItem it).2) = vs.map Res.ok) :
    awaitAll items = ((items.map fun it => (awaitItem it).1).flatten, .ok vs) := by
  have := awaitAll_append items vs [] h
  simpa only [List.append_nil, awaitAll, Except.map] using this

theorem awaitAll_fail (pre : List Item) (vs : List Val) (bad : Item) (post : List Item) (e : Exc)
    (h : pre.map (fun it => (awaitItem it).2) = vs.map Res.ok) (hb : (awaitItem bad).2 = .err e) :
    awaitAll (pre ++ bad :: post)
      = ((pre.map fun it => (awaitItem it).1).flatten ++ (awaitItem bad).1, .error e) := by
  rw [awaitAll_append pre vs _ h, awaitAll]
  generalize awaitItem bad = r at hb
  obtain ⟨evs, r⟩ := r
  cases hb
  rfl

theorem awaitKw_eq (kws : List (Nat × Item)) :
    awaitKw kws = ((awaitAll (kws.map Prod.snd)).1,
      (awaitAll (kws.map Prod.snd)).2.map ((kws.map Prod.fst).zip ·)) := by
  induction kws with
  | nil => rfl
  | cons p rest ih =>
    obtain ⟨key, it⟩ := p
    simp only [awaitKw, awaitAll, List.map_cons, ih]
    rcases awaitItem it with ⟨evs, _ | _⟩
    · rcases awaitAll (rest.map Prod.snd) with ⟨evs', _ | _⟩ <;> rfl
    · rfl

end AsyncVerif.Adapters
