import AsyncVerif.Proofs.GroupByFault
/-!
The fault-free machines are the fault machines of `Machines/GroupByFault.lean` run on fault-free
scripts (`stepIF_embed`, `stepSF_embed`), and `embed` / `liftOut` lose nothing.  So the agreement of
`stepI` and `stepS` and the invariant are read off from the theorems about the fault machines.
-/
namespace AsyncVerif.GroupBy
open GroupByFault (embed liftOut ofItems)

/-- invariant of reachable states: `GroupByFault.Inv` field by field (`inv_embed`; see there for what the fields say) -/
structure Inv (s : St) : Prop where
  consumed : s.cur = none → s.curKey = none ∨ s.tgt = s.curKey
  haskey : s.cur.isSome → s.curKey.isSome
  notgt : s.curKey = none → s.tgt = none
  grpTgt : ∀ g, s.grp = some g → s.groups[g]? = s.tgt ∧ s.tgt.isSome

theorem inv_embed {s : St} : GroupByFault.Inv (embed s) ↔ Inv s :=
  ⟨fun h => ⟨h.consumed, h.haskey, h.notgt, h.grpTgt⟩, fun h => ⟨h.consumed, h.haskey, h.notgt, h.grpTgt⟩⟩

theorem embed_inj {a b : St} (h : embed a = embed b) : a = b := by
  obtain ⟨i, c, ck, t, g, gs⟩ := a
  obtain ⟨i', c', ck', t', g', gs'⟩ := b
  simp only [embed, GroupByFault.St.mk.injEq] at h
  obtain ⟨h1, rfl, rfl, rfl, rfl, rfl⟩ := h
  rw [(List.map_inj_right (by rintro ⟨v, k⟩ ⟨v', k'⟩ h; cases h; rfl)).1 h1]

theorem liftOut_inj {a b : Out} (h : liftOut a = liftOut b) : a = b := by
  cases a <;> cases b <;> cases h <;> rfl

theorem embed_pair_inj {a b : St × Out} (h : (embed a.1, liftOut a.2) = (embed b.1, liftOut b.2)) :
    a = b :=
  Prod.ext (embed_inj (Prod.mk.inj h).1) (liftOut_inj (Prod.mk.inj h).2)

/-- `scanI_eq`, `loopS_eq`: the model's loops recurse structurally on a copy of `s.items`; these are the `while` /
    `for (;;)` unfoldings of the Python / C source, which they satisfy.  No proof uses them. -/
theorem scanI_eq (t : Key) (s : St) : scanI t s =
    if s.curKey = some t then
      match s.items with
      | [] => (s, false)
      | (v, k) :: r => scanI t { s with items := r, cur := some v, curKey := some k }
    else (s, true) := by
  obtain ⟨items, cur, curKey, tgt, grp, groups⟩ := s
  cases items with
  | nil => simp only [scanI, scanL]
  | cons p r => obtain ⟨v, k⟩ := p; simp only [scanI, scanL]

theorem loopS_eq (s : St) : loopS s =
    match s.curKey with
    | none =>
      (match s.items with
       | [] => (s, false)
       | (v, k) :: r => loopS { s with items := r, cur := some v, curKey := some k })
    | some ck =>
      match s.tgt with
      | none => (s, true)
      | some t =>
        if t = ck then
          (match s.items with
           | [] => (s, false)
           | (v, k) :: r => loopS { s with items := r, cur := some v, curKey := some k })
        else (s, true) := by
  obtain ⟨items, cur, curKey, tgt, grp, groups⟩ := s
  cases items with
  | nil => simp only [loopS, loopL]; cases curKey <;> cases tgt <;> simp
  | cons p r => obtain ⟨v, k⟩ := p; simp only [loopS, loopL]; cases curKey <;> cases tgt <;> simp

theorem step_eq (s : St) (hinv : Inv s) (op : Op) : stepI s op = stepS s op := by
  have h := GroupByFault.step_eq (embed s) (inv_embed.2 hinv) op
  rw [GroupByFault.stepIF_embed, GroupByFault.stepSF_embed] at h
  exact embed_pair_inj h

theorem adv_eq (s : St) (hinv : Inv s) : advI s = advS s := step_eq s hinv .adv

theorem stepI_inv (s : St) (hinv : Inv s) (op : Op) : Inv (stepI s op).1 := by
  have h := (GroupByFault.stepIF_spec (embed s) op).inv (inv_embed.2 hinv)
  rw [GroupByFault.stepIF_embed] at h
  exact inv_embed.1 h

theorem advI_grp (s : St) : (advI s).1.grp = none ∨ (advI s).1.grp = some s.groups.length := by
  have h := GroupByFault.advI_grp (embed s)
  rw [GroupByFault.advI_embed] at h
  exact h.imp id (·.2)

theorem init_inv (items : List (Val × Key)) : Inv (init items) := by
  constructor <;> simp [init]

theorem run_eq : ∀ (ops : List Op) (s : St), Inv s → run stepI s ops = run stepS s ops := by
  intro ops
  induction ops with
  | nil => intro s _; rfl
  | cons op rest ih =>
    intro s hinv
    rw [run, run, ← step_eq s hinv op, ih _ (stepI_inv s hinv op)]

end AsyncVerif.GroupBy
