import AsyncVerif.Machines.Decorator
/-!
# Context managers as decorators (C15): the lemmas behind `Properties/C15.lean`

* One call: `callStep_steps` — one `send`/`throw` on a call emits events the per-call automaton `specStep`
  accepts, keeps the call's pc and its generator coherent (`Coh`), and lowers the bound `pot` on the
  operations the call still needs.
* Heap machine = private machine (`Rel`, `Rel.update`, `rel_step`, `run_outs`): generator objects in a
  shared store, reached through references that `recreate` makes fresh, behave as state private to a call.
* Private machine: every call's events are accepted (`PInv`), a call depends only on the operations on it
  (`pproject`); in the heap machine a step leaves every other call alone (`step_other`).
* A complete call has one of three shapes (`CompleteShape`, `shape_of_accepted`), and a call is complete
  after `sendBound` operations on it (`prun_done`).
-/
namespace AsyncVerif.Decorator

theorem specFrom_append (st : SpecSt) (a b : List LEv) :
    specFrom st (a ++ b) = (specFrom st a).bind (fun st' => specFrom st' b) := by
  induction a generalizing st with
  | nil => rfl
  | cons e rest ih =>
    simp only [List.cons_append, specFrom]
    cases specStep st e with
    | none => rfl
    | some st' => exact ih st'

/-- abstraction of a call's program counter to the automaton's state -/
def absSt : Pc → SpecSt
  | .fresh => .init
  | .entering _ => .entering
  | .body _ => .inBody
  | .exiting o _ => .exiting o
  | .done r => .finished r

/-- coherence between a call's program counter and the state of its own generator -/
def Coh (gb : Bool) (l : Local) : Prop :=
  gb = true →
    match l.pc with
    | .fresh => l.cell.pc = .unstarted
    | .entering _ => ∃ j, l.cell.pc = .pre j
    | .body _ => l.cell.pc = .atYield
    | .exiting o _ =>
      (match o.exc with
       | none => ∃ j, l.cell.pc = .post j
       | some e => ∃ j, l.cell.pc = .thr e j)
    | .done _ => True

/-- the events of `r` lead the automaton from `st` to the abstraction of the new pc, and the new
    local state is coherent -/
def Good (gb : Bool) (st : SpecSt) (r : R) : Prop :=
  specFrom st r.2.1 = some (absSt r.1.pc) ∧ Coh gb r.1

def exitBound (gb : Bool) (cc : CallCfg) (cell : GenCell) : Nat :=
  if gb then max cell.prog.postSusp cell.prog.thrSusp else cc.plain.exitSusp

def enterBound (gb : Bool) (cc : CallCfg) (cell : GenCell) : Nat :=
  if gb then cell.prog.preSusp else cc.plain.enterSusp

def genLeft : GenPc → Nat
  | .pre j => j
  | .post j => j
  | .thr _ j => j
  | _ => 0

/-- an upper bound on the number of operations call still needs before it is done -/
def pot (gb : Bool) (cc : CallCfg) (l : Local) : Nat :=
  match l.pc with
  | .fresh => 1 + enterBound gb cc l.cell + cc.bodySusp + exitBound gb cc l.cell
  | .entering k => (if gb then genLeft l.cell.pc else k) + 1 + cc.bodySusp + exitBound gb cc l.cell
  | .body k => k + 1 + exitBound gb cc l.cell
  | .exiting _ k => (if gb then genLeft l.cell.pc else k) + 1
  | .done _ => 0

theorem pot_zero_done (gb : Bool) (cc : CallCfg) (l : Local) (h : pot gb cc l = 0) : ∃ r, l.pc = .done r := by
  obtain ⟨pc, cell⟩ := l
  cases pc with
  | done r => exact ⟨r, rfl⟩
  | fresh => exact absurd h (by show 1 + _ + _ + _ ≠ 0; omega)
  | entering k => exact absurd h (by show _ + 1 + _ + _ ≠ 0; omega)
  | body k => exact absurd h (by show _ + 1 + _ ≠ 0; omega)
  | exiting o k => exact absurd h (Nat.succ_ne_zero _)

theorem exitBound_pc (gb : Bool) (cc : CallCfg) (cell : GenCell) (pc : GenPc) :
    exitBound gb cc { cell with pc := pc } = exitBound gb cc cell := rfl

theorem pot_finishExit (gb : Bool) (cc : CallCfg) (cell : GenCell) (o : BodyOut) (resp : ExitResp) :
    pot gb cc (finishExit cell o resp).1 = 0 := rfl

/-- `r` is an admissible outcome of one operation on a call: its events lead the automaton from `st`
    to the abstraction of the new pc, the new local state is coherent, and the call needs at most
    `n` more operations -/
def Steps (gb : Bool) (cc : CallCfg) (st : SpecSt) (n : Nat) (r : R) : Prop :=
  Good gb st r ∧ pot gb cc r.1 ≤ n

theorem Steps.mono {gb : Bool} {cc : CallCfg} {st : SpecSt} {n n' : Nat} {r : R}
    (h : Steps gb cc st n r) (hn : n ≤ n') : Steps gb cc st n' r := ⟨h.1, Nat.le_trans h.2 hn⟩

theorem steps_prepend {gb : Bool} {cc : CallCfg} {st st' : SpecSt} {n : Nat} {evs : List LEv} {r : R}
    (h1 : specFrom st evs = some st') (h2 : Steps gb cc st' n r) : Steps gb cc st n (prepend evs r) := by
  refine ⟨⟨?_, h2.1.2⟩, h2.2⟩
  show specFrom st (evs ++ r.2.1) = _
  rw [specFrom_append, h1]
  exact h2.1.1

theorem steps_finishExit (gb : Bool) (cc : CallCfg) (cell : GenCell) (o : BodyOut) (resp : ExitResp) (n : Nat) :
    Steps gb cc (.exiting o) n (finishExit cell o resp) := by
  refine ⟨⟨?_, fun _ => trivial⟩, Nat.zero_le n⟩
  simp only [finishExit, specFrom, specStep, if_true, absSt]

theorem steps_contExit (gb : Bool) (cc : CallCfg) (cell : GenCell) (o : BodyOut) (left n : Nat) (aw : Aw Bool)
    (h : aw = .suspended → Coh gb { pc := .exiting o left, cell := cell } ∧
      pot gb cc { pc := .exiting o left, cell := cell } ≤ n) :
    Steps gb cc (.exiting o) n (contExit cell o left aw) := by
  cases aw with
  | suspended => exact ⟨⟨rfl, (h rfl).1⟩, (h rfl).2⟩
  | returned b => exact steps_finishExit gb cc cell o _ n
  | raised x => exact steps_finishExit gb cc cell o _ n

theorem seg_zero (mk : Nat → GenPc) (fin : GRes) : seg 0 mk fin = fin := rfl
theorem seg_succ (k : Nat) (mk : Nat → GenPc) (fin : GRes) : seg (k + 1) mk fin = (mk k, .suspended, []) := rfl

theorem postFin_ns (p : GenProg) : (postFin p).2.1 ≠ .suspended := by
  unfold postFin; cases p.post <;> simp
theorem thrFin_ns (p : GenProg) (e : Exc) : (thrFin p e).2.1 ≠ .suspended := by
  unfold thrFin; cases p.thr <;> simp
theorem preFin_ns (p : GenProg) : (preFin p).2.1 ≠ .suspended := by
  unfold preFin; cases p.pre <;> simp
theorem postFin_ev (p : GenProg) : (postFin p).2.2 = [] := by
  unfold postFin; cases p.post <;> rfl
theorem thrFin_ev (p : GenProg) (e : Exc) : (thrFin p e).2.2 = [] := by
  unfold thrFin; cases p.thr <;> rfl

theorem plainExitFin_ne_suspended (cc : CallCfg) (exc : Option Exc) : plainExitFin cc exc ≠ .suspended := by
  unfold plainExitFin plainExitAct
  cases exc <;> simp <;> split <;> simp

theorem genAexit_susp (exc : Option Exc) (out : GenOut) (h : genAexit exc out = .suspended) :
    out = .suspended := by
  unfold genAexit at h
  cases exc <;> cases out <;> simp at h ⊢
  all_goals (split at h <;> simp at h)

theorem genAexit_ns (exc : Option Exc) (out : GenOut) (h : out ≠ .suspended) : genAexit exc out ≠ .suspended :=
  fun h' => h (genAexit_susp exc out h')

theorem genAenter_susp (out : GenOut) (h : genAenter out = .suspended) : out = .suspended := by
  cases out <;> simp [genAenter] at h ⊢

theorem steps_plainExitSeg (cc : CallCfg) (cell : GenCell) (o : BodyOut) (n : Nat) :
    Steps false cc (.exiting o) n (plainExitSeg cc cell o n) := by
  cases n with
  | zero => exact steps_contExit _ _ _ _ _ _ _ (fun h => absurd h (plainExitFin_ne_suspended cc o.exc))
  | succ k => exact steps_contExit _ _ _ _ _ _ _ (fun _ => ⟨nofun, Nat.le_refl _⟩)

theorem prepend_append (a b : List LEv) (r : R) : prepend (a ++ b) r = prepend a (prepend b r) := by
  simp only [prepend, List.append_assoc]

/-- The rest of the exit after the generator ran a segment of its code with `n` suspensions left
    (`mk k`: its pc when suspended with `k` left, `fin`: how the segment ends); `evs` were logged
    when the segment was started. -/
theorem steps_genExitSend {st : SpecSt} (cc : CallCfg) (cell : GenCell) (o : BodyOut) (r : Resume) (evs : List LEv)
    (n : Nat) (mk : Nat → GenPc) (fin : GRes)
    (hadv : genAdvance cell.prog cell.pc r = addEv evs (seg n mk fin))
    (hevs : specFrom st evs = some (.exiting o))
    (hfin : fin.2.1 ≠ .suspended) (hev : fin.2.2 = [])
    (hmk : ∀ k, Coh true { pc := .exiting o 0, cell := { cell with pc := mk k } } ∧ genLeft (mk k) = k) :
    Steps true cc st n (genExitSend cell o r) := by
  unfold genExitSend
  rw [hadv]
  simp only [addEv]
  rw [prepend_append]
  refine steps_prepend hevs ?_
  cases n with
  | zero =>
    rw [seg_zero, hev]
    exact steps_contExit _ _ _ _ _ _ _ (fun h => absurd (genAexit_susp _ _ h) hfin)
  | succ k =>
    exact steps_contExit _ _ _ _ _ _ _ (fun _ => ⟨(hmk k).1, Nat.succ_le_succ (Nat.le_of_eq (hmk k).2)⟩)

theorem steps_genExit_start (cc : CallCfg) (cell : GenCell) (o : BodyOut) (h : cell.pc = .atYield) :
    Steps true cc (.bodyDone o) (exitBound true cc cell) (genExitSend cell o (exitResume o)) := by
  cases o with
  | returned v =>
    exact (steps_genExitSend cc cell (.returned v) _ [.exit none] _ .post _ (by rw [h]; rfl) rfl (postFin_ns _) (postFin_ev _)
      (fun k => ⟨fun _ => ⟨k, rfl⟩, rfl⟩)).mono (Nat.le_max_left _ _)
  | raised e =>
    exact (steps_genExitSend cc cell (.raised e) _ [.exit (some e)] _ (.thr e) _ (by rw [h]; rfl)
      (by simp only [specFrom, specStep, BodyOut.exc, if_true]) (thrFin_ns _ _) (thrFin_ev _ _)
      (fun k => ⟨fun _ => ⟨k, rfl⟩, rfl⟩)).mono (Nat.le_max_right _ _)

theorem steps_genExit_cont (cc : CallCfg) (cell : GenCell) (o : BodyOut) (left : Nat)
    (h : Coh true { pc := .exiting o left, cell := cell }) :
    Steps true cc (.exiting o) (genLeft cell.pc) (genExitSend cell o .cont) := by
  have h := h rfl
  cases o with
  | returned v =>
    obtain ⟨j, hj⟩ := h
    exact (steps_genExitSend cc cell (.returned v) _ [] j .post _ (by rw [hj]; rfl) rfl (postFin_ns _) (postFin_ev _)
      (fun k => ⟨fun _ => ⟨k, rfl⟩, rfl⟩)).mono (by rw [hj]; exact Nat.le_refl j)
  | raised e =>
    obtain ⟨j, hj⟩ := h
    exact (steps_genExitSend cc cell (.raised e) _ [] j (.thr e) _ (by rw [hj]; rfl) rfl (thrFin_ns _ _)
      (thrFin_ev _ _) (fun k => ⟨fun _ => ⟨k, rfl⟩, rfl⟩)).mono (by rw [hj]; exact Nat.le_refl j)

/-- an exception thrown at an inner suspension of the exit code ends the generator -/
theorem steps_genExit_cancel (cc : CallCfg) (cell : GenCell) (o : BodyOut) (left n : Nat) (x : Exc)
    (h : Coh true { pc := .exiting o left, cell := cell }) :
    Steps true cc (.exiting o) n (genExitSend cell o (.cancel x)) := by
  have hadv : genAdvance cell.prog cell.pc (.cancel x) = (.finished, .raised x, []) := by
    have h := h rfl
    cases o <;> obtain ⟨j, hj⟩ := h <;> rw [hj] <;> rfl
  unfold genExitSend
  rw [hadv]
  exact steps_prepend rfl (steps_contExit _ _ _ _ _ _ _ (fun h => absurd h (genAexit_ns _ _ nofun)))

theorem steps_startExit (gb : Bool) (cc : CallCfg) (cell : GenCell) (o : BodyOut)
    (h : gb = true → cell.pc = .atYield) :
    Steps gb cc (.bodyDone o) (exitBound gb cc cell) (startExit gb cc cell o) := by
  cases gb with
  | true => exact steps_genExit_start cc cell o (h rfl)
  | false =>
    exact steps_prepend (st' := .exiting o) (by simp only [specFrom, specStep, if_true])
      (steps_plainExitSeg cc cell o _)

theorem good_startExit (gb : Bool) (cc : CallCfg) (cell : GenCell) (o : BodyOut)
    (h : gb = true → cell.pc = .atYield) : Good gb (.bodyDone o) (startExit gb cc cell o) :=
  (steps_startExit gb cc cell o h).1

theorem steps_afterBody (gb : Bool) (cc : CallCfg) (cell : GenCell) (o : BodyOut)
    (h : gb = true → cell.pc = .atYield) :
    Steps gb cc .inBody (exitBound gb cc cell) (afterBody gb cc cell o) :=
  steps_prepend (st' := .bodyDone o) rfl (steps_startExit gb cc cell o h)

theorem steps_contBody (gb : Bool) (cc : CallCfg) (cell : GenCell) (n : Nat)
    (h : gb = true → cell.pc = .atYield) :
    Steps gb cc .inBody (n + exitBound gb cc cell) (contBody gb cc cell n) := by
  cases n with
  | zero => exact (steps_afterBody gb cc cell _ h).mono (Nat.le_add_left _ _)
  | succ k => exact ⟨⟨rfl, h⟩, Nat.le_refl _⟩

/-- The `.entered` event is logged by the manager's enter code (`preFin` / `plainEnterFin`), i.e. by the
    caller of `afterEnter`; it is prepended here so that the automaton starts at `.entering` whatever `aw` is. -/
theorem steps_afterEnter (gb : Bool) (cc : CallCfg) (cell : GenCell) (left : Nat) (aw : Aw Unit)
    (hs : aw = .suspended → gb = true → ∃ j, cell.pc = .pre j)
    (hr : aw = .returned () → gb = true → cell.pc = .atYield) :
    Steps gb cc .entering
      (match aw with
       | .suspended => (if gb then genLeft cell.pc else left) + 1 + cc.bodySusp + exitBound gb cc cell
       | .returned _ => cc.bodySusp + exitBound gb cc cell
       | .raised _ => 0)
      (prepend (match aw with | .returned () => [.entered] | _ => []) (afterEnter gb cc cell left aw)) := by
  cases aw with
  | suspended => exact steps_prepend rfl ⟨⟨rfl, hs rfl⟩, Nat.le_refl _⟩
  | raised x => exact steps_prepend rfl ⟨⟨rfl, fun _ => trivial⟩, Nat.zero_le _⟩
  | returned u =>
    cases u
    exact steps_prepend (st' := .entered) rfl (steps_prepend (st' := .inBody) rfl
      (steps_contBody gb cc cell _ (hr rfl)))

theorem steps_plainEnterSeg (cc : CallCfg) (cell : GenCell) (n : Nat) :
    Steps false cc .entering (n + (cc.bodySusp + exitBound false cc cell)) (plainEnterSeg false cc cell n) := by
  cases n with
  | zero =>
    unfold plainEnterSeg plainEnterFin
    cases cc.plain.enter with
    | ok => exact (steps_afterEnter false cc cell 0 (.returned ()) nofun nofun).mono (Nat.le_add_left _ _)
    | raises e => exact (steps_afterEnter false cc cell 0 (.raised (.user e)) nofun nofun).mono (Nat.zero_le _)
  | succ k =>
    exact (steps_afterEnter false cc cell k .suspended (fun _ => nofun) nofun).mono
      (Nat.le_of_eq (Nat.add_assoc _ _ _))

/-- the rest of the enter after the generator ran a segment of its code before its first yield -/
theorem steps_genEnterSend {st : SpecSt} (cc : CallCfg) (cell : GenCell) (r : Resume) (evs : List LEv) (n : Nat)
    (hadv : genAdvance cell.prog cell.pc r = addEv evs (seg n .pre (preFin cell.prog)))
    (hevs : specFrom st evs = some .entering) :
    Steps true cc st (n + (cc.bodySusp + exitBound true cc cell)) (genEnterSend true cc cell r) := by
  unfold genEnterSend
  rw [hadv]
  simp only [addEv]
  rw [prepend_append]
  refine steps_prepend hevs ?_
  cases n with
  | zero =>
    rw [seg_zero]
    unfold preFin
    cases cell.prog.pre with
    | yields =>
      exact (steps_afterEnter true cc { cell with pc := .atYield } 0 (.returned ()) nofun (fun _ _ => rfl)).mono
        (Nat.le_add_left _ _)
    | raises e =>
      exact (steps_afterEnter true cc { cell with pc := .finished } 0 (.raised (.user e)) nofun nofun).mono
        (Nat.zero_le _)
    | returns =>
      exact (steps_afterEnter true cc { cell with pc := .finished } 0 (.raised (.runtime .didNotYield)) nofun
        nofun).mono (Nat.zero_le _)
  | succ k =>
    exact (steps_afterEnter true cc { cell with pc := .pre k } 0 .suspended (fun _ _ => ⟨k, rfl⟩) nofun).mono
      (Nat.le_of_eq (Nat.add_assoc _ _ _))

/-- "one operation less", for the forms `pot` takes before a step -/
theorem pot_pred (a b c : Nat) :
    a + (b + c) ≤ 1 + a + b + c - 1 ∧ a + (b + c) ≤ a + 1 + b + c - 1 ∧ a + c ≤ a + 1 + c - 1 := by omega

/-- **Local step lemma.** From a coherent local state, one `send`/`throw` on the call emits events
    that the specification automaton accepts from the abstraction of the old pc, ending in the
    abstraction of the new pc; the new local state is coherent; and if the call was not done, the
    bound on the operations it still needs has strictly decreased. -/
theorem callStep_steps (gb : Bool) (cc : CallCfg) (l : Local) (op : COp) (h : Coh gb l) :
    Steps gb cc (absSt l.pc) (pot gb cc l - 1) (callStep gb cc l op) := by
  obtain ⟨pc, prog, gpc⟩ := l
  cases op with
  | resume =>
    cases pc with
    | fresh =>
      cases gb with
      | true =>
        obtain rfl : gpc = .unstarted := h rfl
        exact (steps_genEnterSend cc _ .next [.enter] _ rfl rfl).mono (pot_pred _ _ _).1
      | false =>
        exact (steps_prepend (st' := .entering) rfl (steps_plainEnterSeg cc _ _)).mono (pot_pred _ _ _).1
    | entering k =>
      cases gb with
      | true =>
        obtain ⟨j, rfl⟩ : ∃ j, gpc = .pre j := h rfl
        exact (steps_genEnterSend cc _ .cont [] j rfl rfl).mono (pot_pred _ _ _).2.1
      | false => exact (steps_plainEnterSeg cc _ k).mono (pot_pred _ _ _).2.1
    | body k => exact (steps_contBody gb cc _ k h).mono (pot_pred _ 0 _).2.2
    | exiting o k =>
      cases gb with
      | true => exact steps_genExit_cont cc _ o k h
      | false => exact steps_plainExitSeg cc _ o k
    | done r => exact ⟨⟨rfl, h⟩, Nat.zero_le _⟩
  | cancel x =>
    cases pc with
    | fresh => exact ⟨⟨rfl, fun _ => trivial⟩, Nat.zero_le _⟩
    | entering k =>
      cases gb with
      | true =>
        obtain ⟨j, rfl⟩ : ∃ j, gpc = .pre j := h rfl
        exact (steps_afterEnter true cc ⟨prog, .finished⟩ 0 (.raised x) nofun nofun).mono (Nat.zero_le _)
      | false => exact (steps_afterEnter false cc _ 0 (.raised x) nofun nofun).mono (Nat.zero_le _)
    | body k =>
      exact (steps_afterBody gb cc _ (.raised x) h).mono (Nat.le_trans (Nat.le_add_left _ k) (pot_pred k 0 _).2.2)
    | exiting o k =>
      cases gb with
      | true => exact steps_genExit_cancel cc _ o k _ x h
      | false => exact steps_contExit false cc _ o 0 _ (.raised x) nofun
    | done r => exact ⟨⟨rfl, h⟩, Nat.zero_le _⟩

theorem callStep_good (gb : Bool) (cc : CallCfg) (l : Local) (op : COp) (h : Coh gb l) :
    Good gb (absSt l.pc) (callStep gb cc l op) :=
  (callStep_steps gb cc l op h).1

theorem callStep_pot (gb : Bool) (cc : CallCfg) (l : Local) (op : COp) (h : Coh gb l) :
    pot gb cc (callStep gb cc l op).1 ≤ pot gb cc l - 1 :=
  (callStep_steps gb cc l op h).2

/-! ## facts about `callStep` used by the heap/private refinement -/

theorem prepend_fst (evs : List LEv) (r : R) : (prepend evs r).1 = r.1 := rfl

theorem contExit_cell (cell : GenCell) (o : BodyOut) (left : Nat) (aw : Aw Bool) :
    (contExit cell o left aw).1.cell = cell := by cases aw <;> rfl

theorem plainExitSeg_cell (cc : CallCfg) (cell : GenCell) (o : BodyOut) (n : Nat) :
    (plainExitSeg cc cell o n).1.cell = cell := by
  cases n <;> simp [plainExitSeg, contExit_cell]

theorem startExit_cell_plain (cc : CallCfg) (cell : GenCell) (o : BodyOut) :
    (startExit false cc cell o).1.cell = cell := by
  simp [startExit, prepend_fst, plainExitSeg_cell]

theorem contBody_cell_plain (cc : CallCfg) (cell : GenCell) (n : Nat) :
    (contBody false cc cell n).1.cell = cell := by
  cases n <;> simp [contBody, afterBody, prepend_fst, startExit_cell_plain]

theorem afterEnter_cell_plain (cc : CallCfg) (cell : GenCell) (left : Nat) (aw : Aw Unit) :
    (afterEnter false cc cell left aw).1.cell = cell := by
  cases aw <;> simp [afterEnter, prepend_fst, contBody_cell_plain]

theorem plainEnterSeg_cell (cc : CallCfg) (cell : GenCell) (n : Nat) :
    (plainEnterSeg false cc cell n).1.cell = cell := by
  cases n <;> simp [plainEnterSeg, prepend_fst, afterEnter_cell_plain]

/-- a class-based manager never touches a generator -/
theorem callStep_cell_plain (cc : CallCfg) (l : Local) (op : COp) :
    (callStep false cc l op).1.cell = l.cell := by
  unfold callStep
  cases op <;> cases l.pc <;>
    simp [prepend_fst, plainEnterSeg_cell, contBody_cell_plain, plainExitSeg_cell, afterEnter_cell_plain,
      afterBody, startExit_cell_plain, contExit_cell]

theorem callStep_done (gb : Bool) (cc : CallCfg) (l : Local) (op : COp) (r : Result) (h : l.pc = .done r) :
    callStep gb cc l op = (l, [], .skipped) := by
  unfold callStep; cases op <;> simp [h]

theorem callStep_fresh_cancel (gb : Bool) (cc : CallCfg) (l : Local) (x : Exc) (h : l.pc = .fresh) :
    callStep gb cc l (.cancel x) = ({ l with pc := .done (.raised x) }, [.finish (.raised x)], .finished (.raised x)) := by
  unfold callStep; simp [h]

theorem contExit_nf (cell : GenCell) (o : BodyOut) (left : Nat) (aw : Aw Bool) :
    (contExit cell o left aw).1.pc ≠ .fresh := by cases aw <;> simp [contExit, finishExit]

theorem genExitSend_nf (cell : GenCell) (o : BodyOut) (r : Resume) : (genExitSend cell o r).1.pc ≠ .fresh := by
  simp [genExitSend, prepend_fst, contExit_nf]

theorem plainExitSeg_nf (cc : CallCfg) (cell : GenCell) (o : BodyOut) (n : Nat) :
    (plainExitSeg cc cell o n).1.pc ≠ .fresh := by cases n <;> simp [plainExitSeg, contExit_nf]

theorem startExit_nf (gb : Bool) (cc : CallCfg) (cell : GenCell) (o : BodyOut) :
    (startExit gb cc cell o).1.pc ≠ .fresh := by
  cases gb <;> simp [startExit, prepend_fst, genExitSend_nf, plainExitSeg_nf]

theorem contBody_nf (gb : Bool) (cc : CallCfg) (cell : GenCell) (n : Nat) :
    (contBody gb cc cell n).1.pc ≠ .fresh := by
  cases n <;> simp [contBody, afterBody, prepend_fst, startExit_nf]

theorem afterEnter_nf (gb : Bool) (cc : CallCfg) (cell : GenCell) (left : Nat) (aw : Aw Unit) :
    (afterEnter gb cc cell left aw).1.pc ≠ .fresh := by
  cases aw <;> simp [afterEnter, prepend_fst, contBody_nf]

theorem genEnterSend_nf (gb : Bool) (cc : CallCfg) (cell : GenCell) (r : Resume) :
    (genEnterSend gb cc cell r).1.pc ≠ .fresh := by
  simp [genEnterSend, prepend_fst, afterEnter_nf]

theorem plainEnterSeg_nf (gb : Bool) (cc : CallCfg) (cell : GenCell) (n : Nat) :
    (plainEnterSeg gb cc cell n).1.pc ≠ .fresh := by
  cases n <;> simp [plainEnterSeg, prepend_fst, afterEnter_nf]

/-- a coroutine that has been sent to or thrown into is never "not started" again -/
theorem callStep_not_fresh (gb : Bool) (cc : CallCfg) (l : Local) (op : COp) :
    (callStep gb cc l op).1.pc ≠ .fresh := by
  obtain ⟨pc, cell⟩ := l
  cases op with
  | resume =>
    cases pc with
    | fresh =>
      cases gb with
      | false => exact plainEnterSeg_nf _ _ _ _
      | true => exact genEnterSend_nf _ _ _ _
    | entering k =>
      cases gb with
      | false => exact plainEnterSeg_nf _ _ _ _
      | true => exact genEnterSend_nf _ _ _ _
    | body k => exact contBody_nf _ _ _ _
    | exiting o k =>
      cases gb with
      | false => exact plainExitSeg_nf _ _ _ _
      | true => exact genExitSend_nf _ _ _
    | done r => exact nofun
  | cancel x =>
    cases pc with
    | fresh => exact nofun
    | entering k =>
      cases gb with
      | false => exact nofun
      | true => exact genEnterSend_nf _ _ _ _
    | body k => exact startExit_nf _ _ _ _
    | exiting o k =>
      cases gb with
      | false => exact nofun
      | true => exact genExitSend_nf _ _ _
    | done r => exact nofun

theorem setAt_same {α : Type} (f : Nat → α) (i : Nat) (v : α) : setAt f i v i = v := by simp [setAt]
theorem setAt_other {α : Type} (f : Nat → α) {i j : Nat} (v : α) (h : j ≠ i) : setAt f i v j = f j := by
  simp [setAt, h]

theorem setAt_gid (calls : Nat → CallSt) (c : Nat) (pc : Pc) (c' : Nat) :
    (setAt calls c { pc := pc, gid := (calls c).gid } c').gid = (calls c').gid := by
  unfold setAt
  split
  · next h => rw [h]
  · rfl

/-- the relation between the heap machine and the machine where every call owns its manager.
    `pcs`, `log`, `own`, `nogid`: the simulation proper — a call's generator, read through its reference, is
    its private cell; a call without reference has a private cell that was never started.
    `pos`, `gen0`, `inj`: the store — object 0 is the decoration-time generator, which no call holds;
    references are in range and held by one call each.
    `gbnone`, `plainnone`, `freshcell`, `fresh`: what keeps the rest invariant across `recreate`.
    `tagged`, `genev`: facts about the log that only the property theorems read. -/
structure Rel (cfg : Cfg) (s : State) (p : PState) : Prop where
  pcs : ∀ c, (s.calls c).pc = (p.calls c).pc
  log : s.log.map (fun e => (e.call, e.ev)) = p.log
  pos : 1 ≤ s.ngens
  gen0 : s.gens 0 = dfltCell
  own : ∀ c g, (s.calls c).gid = some g → 1 ≤ g ∧ g < s.ngens ∧ s.gens g = (p.calls c).cell
  inj : ∀ c c' g, (s.calls c).gid = some g → (s.calls c').gid = some g → c = c'
  nogid : ∀ c cc, (s.calls c).gid = none → cfg.calls[c]? = some cc → (p.calls c).cell = initCell cc
  gbnone : cfg.generatorBased = true → ∀ c, (s.calls c).gid = none →
    (s.calls c).pc = .fresh ∨ ∃ r, (s.calls c).pc = .done r
  plainnone : cfg.generatorBased = false → ∀ c, (s.calls c).gid = none
  freshcell : ∀ c cc, (s.calls c).pc = .fresh → cfg.calls[c]? = some cc → (p.calls c).cell = initCell cc
  fresh : ∀ c, (s.calls c).pc = .fresh → ∀ e ∈ s.log, e.call ≠ c
  tagged : ∀ e ∈ s.log, e.gen = (s.calls e.call).gid
  genev : cfg.generatorBased = true → ∀ e ∈ s.log, e.ev = .enter → e.gen ≠ none

theorem rel_init (cfg : Cfg) : Rel cfg State.init (PState.init cfg) where
  pcs := fun _ => rfl
  log := rfl
  pos := Nat.le_refl _
  gen0 := rfl
  own := fun c g h => by simp [State.init] at h
  inj := fun c c' g h => by simp [State.init] at h
  nogid := fun c cc _ hcc => by simp [PState.init, hcc]
  gbnone := fun _ c _ => Or.inl rfl
  plainnone := fun _ _ => rfl
  freshcell := fun c cc _ hcc => by simp [PState.init, hcc]
  fresh := fun c _ e he => by simp [State.init] at he
  tagged := fun e he => by simp [State.init] at he
  genev := fun _ e he => by simp [State.init] at he

/-- **Frame lemma for `Rel`.** A transition that touches only call `c` — its entry in `calls`
    (reference `gid'` afterwards), its private state, the generator it holds or a new one — and
    logs events `evs` of `c` preserves the relation as soon as the facts about `c` alone hold
    afterwards: every statement about a call `c' ≠ c` is the old one read through `hs`/`hp`. -/
theorem Rel.update {cfg : Cfg} {s s' : State} {p p' : PState} (h : Rel cfg s p) (c : Nat)
    (gid' : Option Nat) (evs : List LEv)
    (hs : ∀ c', c' ≠ c → s'.calls c' = s.calls c') (hp : ∀ c', c' ≠ c → p'.calls c' = p.calls c')
    (hgid : (s'.calls c).gid = gid') (hn : s.ngens ≤ s'.ngens)
    (hgens : ∀ g, g < s.ngens → gid' ≠ some g → s'.gens g = s.gens g)
    (hlog : s'.log = s.log ++ evs.map (fun e => ⟨c, gid', e⟩))
    (hplog : p'.log = p.log ++ evs.map (fun e => (c, e)))
    (pcs : (s'.calls c).pc = (p'.calls c).pc)
    (own : ∀ g, gid' = some g → 1 ≤ g ∧ g < s'.ngens ∧ s'.gens g = (p'.calls c).cell)
    (inj : ∀ g c', c' ≠ c → gid' = some g → (s.calls c').gid ≠ some g)
    (nogid : gid' = none → ∀ cc, cfg.calls[c]? = some cc → (p'.calls c).cell = initCell cc)
    (gbnone : cfg.generatorBased = true → gid' = none →
      (s'.calls c).pc = .fresh ∨ ∃ r, (s'.calls c).pc = .done r)
    (plainnone : cfg.generatorBased = false → gid' = none)
    (freshcell : (s'.calls c).pc = .fresh → ∀ cc, cfg.calls[c]? = some cc → (p'.calls c).cell = initCell cc)
    (fresh : (s'.calls c).pc = .fresh → evs = [] ∧ ∀ e ∈ s.log, e.call ≠ c)
    (tagged : ∀ e ∈ s.log, e.call = c → e.gen = gid')
    (genev : cfg.generatorBased = true → .enter ∈ evs → gid' ≠ none) :
    Rel cfg s' p' := by
  refine { pcs := fun c' => ?_, log := ?_, pos := Nat.le_trans h.pos hn, gen0 := ?_, own := fun c' g hg => ?_,
           inj := fun c1 c2 g h1 h2 => ?_, nogid := fun c' cc' hg hcc' => ?_, gbnone := fun hgb c' hg => ?_,
           plainnone := fun hgb c' => ?_, freshcell := fun c' cc' hpc hcc' => ?_,
           fresh := fun c' hpc e he => ?_, tagged := fun e he => ?_, genev := fun hgb e he hev => ?_ }
  · by_cases hc : c' = c
    · rw [hc]; exact pcs
    · rw [hs c' hc, hp c' hc]; exact h.pcs c'
  · rw [hlog, hplog, List.map_append, h.log, List.map_map]; rfl
  · exact (hgens 0 h.pos (fun h0 => Nat.lt_irrefl 0 (own 0 h0).1)).trans h.gen0
  · by_cases hc : c' = c
    · rw [hc] at hg ⊢; exact own g (hgid.symm.trans hg)
    · rw [hs c' hc] at hg
      obtain ⟨h1, h2, h3⟩ := h.own c' g hg
      refine ⟨h1, Nat.lt_of_lt_of_le h2 hn, ?_⟩
      rw [hgens g h2 (fun e => inj g c' hc e hg), hp c' hc]; exact h3
  · by_cases hc1 : c1 = c <;> by_cases hc2 : c2 = c
    · rw [hc1, hc2]
    · rw [hc1, hgid] at h1; rw [hs c2 hc2] at h2; exact absurd h2 (inj g c2 hc2 h1)
    · rw [hc2, hgid] at h2; rw [hs c1 hc1] at h1; exact absurd h1 (inj g c1 hc1 h2)
    · rw [hs c1 hc1] at h1; rw [hs c2 hc2] at h2; exact h.inj c1 c2 g h1 h2
  · by_cases hc : c' = c
    · rw [hc] at hg hcc' ⊢; exact nogid (hgid.symm.trans hg) cc' hcc'
    · rw [hs c' hc] at hg; rw [hp c' hc]; exact h.nogid c' cc' hg hcc'
  · by_cases hc : c' = c
    · rw [hc] at hg ⊢; exact gbnone hgb (hgid.symm.trans hg)
    · rw [hs c' hc] at hg ⊢; exact h.gbnone hgb c' hg
  · by_cases hc : c' = c
    · rw [hc, hgid]; exact plainnone hgb
    · rw [hs c' hc]; exact h.plainnone hgb c'
  · by_cases hc : c' = c
    · rw [hc] at hpc hcc' ⊢; exact freshcell hpc cc' hcc'
    · rw [hs c' hc] at hpc; rw [hp c' hc]; exact h.freshcell c' cc' hpc hcc'
  · rw [hlog] at he
    by_cases hc : c' = c
    · rw [hc] at hpc ⊢
      obtain ⟨hnil, hold⟩ := fresh hpc
      rw [hnil, List.map_nil, List.append_nil] at he
      exact hold e he
    · rw [hs c' hc] at hpc
      rcases List.mem_append.mp he with he | he
      · exact h.fresh c' hpc e he
      · obtain ⟨x, _, rfl⟩ := List.mem_map.mp he
        exact fun heq => hc heq.symm
  · rw [hlog] at he
    rcases List.mem_append.mp he with he | he
    · by_cases hc : e.call = c
      · rw [hc, hgid]; exact tagged e he hc
      · rw [hs _ hc]; exact h.tagged e he
    · obtain ⟨x, _, rfl⟩ := List.mem_map.mp he
      exact hgid.symm
  · rw [hlog] at he
    rcases List.mem_append.mp he with he | he
    · exact h.genev hgb e he hev
    · obtain ⟨x, hx, rfl⟩ := List.mem_map.mp he
      exact genev hgb (hev ▸ hx)

theorem rel_recreate {cfg : Cfg} {s : State} {p : PState} (h : Rel cfg s p) (c : Nat) (cc : CallCfg)
    (hcc : cfg.calls[c]? = some cc) (hf : (s.calls c).pc = .fresh) (hgb : cfg.generatorBased = true) :
    Rel cfg (recreate cfg.generatorBased s c cc) p := by
  have hrec : recreate cfg.generatorBased s c cc =
      { s with gens := setAt s.gens s.ngens (initCell cc), ngens := s.ngens + 1,
               calls := setAt s.calls c { pc := .fresh, gid := some s.ngens } } := by
    simp only [recreate, hgb, if_true]
  rw [hrec]
  -- the new reference `s.ngens` is held by nobody else: every reference in use is below it
  refine h.update c (some s.ngens) [] (fun c' hc => setAt_other _ _ hc) (fun _ _ => rfl)
    (congrArg CallSt.gid (setAt_same _ _ _)) (Nat.le_succ _)
    (fun g hg _ => setAt_other _ _ (Nat.ne_of_lt hg)) (List.append_nil _).symm (List.append_nil _).symm
    ?_ ?_ ?_ nofun nofun (fun hgb' => absurd (hgb.symm.trans hgb') nofun) (fun _ cc' hcc' => h.freshcell c cc' hf hcc')
    (fun _ => ⟨rfl, h.fresh c hf⟩) (fun e he hc => absurd hc (h.fresh c hf e he)) (fun _ => nofun)
  · show (setAt s.calls c _ c).pc = _
    rw [setAt_same, ← h.pcs c, hf]
  · intro g hg
    obtain rfl : s.ngens = g := Option.some.inj hg
    refine ⟨h.pos, Nat.lt_succ_self _, ?_⟩
    show setAt s.gens s.ngens _ s.ngens = _
    rw [setAt_same, h.freshcell c cc hf hcc]
  · intro g c' _ hg hg'
    obtain rfl : s.ngens = g := Option.some.inj hg
    exact Nat.lt_irrefl _ (h.own c' _ hg').2.1

theorem cellOf_eq {cfg : Cfg} {s : State} {p : PState} (h : Rel cfg s p) (c : Nat) (cc : CallCfg)
    (hcc : cfg.calls[c]? = some cc) :
    ({ pc := (s.calls c).pc, cell := cellOf s c cc } : Local) = p.calls c := by
  have hcell : cellOf s c cc = (p.calls c).cell := by
    unfold cellOf
    cases hg : (s.calls c).gid with
    | none => exact (h.nogid c cc hg hcc).symm
    | some g => exact (h.own c g hg).2.2
  rw [hcell, h.pcs c]

theorem rel_core {cfg : Cfg} {s : State} {p : PState} (h : Rel cfg s p) (c : Nat) (cc : CallCfg) (cop : COp)
    (hcc : cfg.calls[c]? = some cc)
    (hfirst : cfg.generatorBased = true → isFirstSend (s.calls c).pc cop = true → (s.calls c).gid ≠ none) :
    Rel cfg (core cfg.generatorBased s c cc cop).1 (pstep cfg p ⟨c, cop⟩).1 ∧
      (core cfg.generatorBased s c cc cop).2 = (pstep cfg p ⟨c, cop⟩).2 := by
  have hloc := cellOf_eq h c cc hcc
  simp only [core, pstep, hcc, hloc]
  generalize hr : callStep cfg.generatorBased cc (p.calls c) cop = r
  -- when the call has no generator reference, its private generator is untouched
  have hkeep : (s.calls c).gid = none → r.1.cell = initCell cc ∧
      (cfg.generatorBased = true → (∃ res, r.1.pc = .done res) ∧ ∀ e ∈ r.2.1, e ≠ LEv.enter) := by
    intro hg
    have hinit := h.nogid c cc hg hcc
    cases hgb : cfg.generatorBased with
    | false =>
      refine ⟨?_, fun hh => by cases hh⟩
      rw [← hr, hgb, callStep_cell_plain]; exact hinit
    | true =>
      rcases h.gbnone hgb c hg with hf | ⟨res, hd⟩
      · -- fresh: by `hfirst` the operation is a throw
        cases cop with
        | resume => exact absurd hg (hfirst hgb (by simp [isFirstSend, hf]))
        | cancel x =>
          have := callStep_fresh_cancel cfg.generatorBased cc (p.calls c) x (by rw [← h.pcs]; exact hf)
          rw [hgb] at this hr
          rw [← hr, this]
          exact ⟨hinit, fun _ => ⟨⟨_, rfl⟩, by simp⟩⟩
      · have := callStep_done cfg.generatorBased cc (p.calls c) cop res (by rw [← h.pcs]; exact hd)
        rw [hgb] at this hr
        rw [← hr, this]
        exact ⟨hinit, fun _ => ⟨⟨res, by rw [← h.pcs]; exact hd⟩, by simp⟩⟩
  have hnf : r.1.pc ≠ .fresh := by rw [← hr]; exact callStep_not_fresh _ _ _ _
  refine ⟨h.update c (s.calls c).gid r.2.1 (fun c' hc => setAt_other _ _ hc) (fun c' hc => setAt_other _ _ hc)
    (setAt_gid s.calls c r.1.pc c) (Nat.le_refl _) ?_ rfl rfl ?_ ?_
    (fun g c' hc hg hg' => hc (h.inj c' c g hg' hg)) ?_ ?_ (fun hgb => h.plainnone hgb c) ?_ ?_ (fun e he hc => hc ▸ h.tagged e he)
    (fun hgb hmem hnone => ((hkeep hnone).2 hgb).2 _ hmem rfl), trivial⟩
  · intro g _ hg
    cases hgid : (s.calls c).gid with
    | none => rfl
    | some g0 => exact setAt_other _ _ (fun e => hg (hgid ▸ e ▸ rfl))
  · show (setAt s.calls c _ c).pc = (setAt p.calls c r.1 c).pc
    rw [setAt_same, setAt_same]
  · intro g hg
    obtain ⟨h1, h2, _⟩ := h.own c g hg
    refine ⟨h1, h2, ?_⟩
    show (match (s.calls c).gid with | some g => setAt s.gens g r.1.cell | none => s.gens) g
      = (setAt p.calls c r.1 c).cell
    rw [hg, setAt_same]
    exact setAt_same _ _ _
  · intro hg cc' hcc'
    obtain rfl : cc = cc' := Option.some.inj (hcc.symm.trans hcc')
    show (setAt p.calls c r.1 c).cell = _
    rw [setAt_same]
    exact (hkeep hg).1
  · intro hgb hg
    show _ ∨ ∃ res, (setAt s.calls c _ c).pc = _
    rw [setAt_same]
    exact Or.inr ((hkeep hg).2 hgb).1
  · intro hpc
    exact absurd ((congrArg CallSt.pc (setAt_same _ _ _)).symm.trans hpc) hnf
  · intro hpc
    exact absurd ((congrArg CallSt.pc (setAt_same _ _ _)).symm.trans hpc) hnf

theorem rel_step {cfg : Cfg} {s : State} {p : PState} (h : Rel cfg s p) (op : Op) :
    Rel cfg (step cfg s op).1 (pstep cfg p op).1 ∧ (step cfg s op).2 = (pstep cfg p op).2 := by
  obtain ⟨c, cop⟩ := op
  unfold step
  cases hcc : cfg.calls[c]? with
  | none => simp only [pstep, hcc]; exact ⟨h, trivial⟩
  | some cc =>
    simp only
    by_cases hfs : isFirstSend (s.calls c).pc cop = true
    · have hf : (s.calls c).pc = .fresh := by
        unfold isFirstSend at hfs
        split at hfs
        · assumption
        · cases hfs
      simp only [hfs, if_true]
      cases hgb : cfg.generatorBased with
      | true =>
        have h1 := rel_recreate h c cc hcc hf hgb
        have := rel_core h1 c cc cop hcc (by
          intro _ _
          simp [recreate, hgb, setAt_same])
        rw [hgb] at this; exact this
      | false =>
        have := rel_core h c cc cop hcc (by intro hh; rw [hgb] at hh; cases hh)
        simpa [recreate, hgb] using this
    · simp only [hfs]
      exact rel_core h c cc cop hcc (by intro _ hh; exact absurd hh hfs)

theorem rel_run {cfg : Cfg} (ops : List Op) {s : State} {p : PState} (h : Rel cfg s p) :
    Rel cfg (runFrom cfg s ops).1 (prunFrom cfg p ops).1 ∧ (runFrom cfg s ops).2 = (prunFrom cfg p ops).2 := by
  induction ops generalizing s p with
  | nil => exact ⟨h, rfl⟩
  | cons op rest ih =>
    obtain ⟨h1, h2⟩ := rel_step h op
    obtain ⟨h3, h4⟩ := ih h1
    simp only [runFrom, prunFrom]
    exact ⟨h3, by rw [h2, h4]⟩

theorem rel_reach (cfg : Cfg) (ops : List Op) : Rel cfg (run cfg ops).1 (prun cfg ops).1 :=
  (rel_run ops (rel_init cfg)).1

theorem run_outs (cfg : Cfg) (ops : List Op) : (run cfg ops).2 = (prun cfg ops).2 :=
  (rel_run ops (rel_init cfg)).2

/-! ## the private machine: acceptance by the automaton, and independence of the calls -/

/-- the events of call `c` in the private machine's log -/
def pproj (c : Nat) (log : List (Nat × LEv)) : List LEv := (log.filter (fun e => e.1 == c)).map (·.2)

theorem proj_eq_pproj (c : Nat) (log : List Ev) :
    proj c log = pproj c (log.map (fun e => (e.call, e.ev))) := by
  induction log with
  | nil => rfl
  | cons e rest ih =>
    simp only [proj, pproj, List.map_cons, List.filter_cons] at ih ⊢
    by_cases h : (e.call == c) = true
    · simp only [h, if_true, List.map_cons]; rw [ih]
    · simp only [h]; exact ih

theorem pproj_append (c : Nat) (a b : List (Nat × LEv)) : pproj c (a ++ b) = pproj c a ++ pproj c b := by
  simp [pproj]

theorem pproj_tag_same (c : Nat) (evs : List LEv) : pproj c (evs.map (fun e => (c, e))) = evs := by
  induction evs with
  | nil => rfl
  | cons e rest ih => simp only [pproj, List.map_cons, List.filter_cons, beq_self_eq_true, if_true] at ih ⊢; rw [ih]

theorem pproj_tag_other {c c' : Nat} (h : c' ≠ c) (evs : List LEv) : pproj c' (evs.map (fun e => (c, e))) = [] := by
  induction evs with
  | nil => rfl
  | cons e rest ih =>
    have : (c == c') = false := by simp; exact fun h' => h h'.symm
    simp only [pproj, List.map_cons, List.filter_cons, this] at ih ⊢
    exact ih

structure PInv (cfg : Cfg) (p : PState) : Prop where
  acc : ∀ c, specFrom .init (pproj c p.log) = some (absSt (p.calls c).pc)
  coh : ∀ c, Coh cfg.generatorBased (p.calls c)

theorem pinv_init (cfg : Cfg) : PInv cfg (PState.init cfg) where
  acc := fun c => by simp [PState.init, pproj, specFrom, absSt]
  coh := fun c => by
    intro _
    simp only [PState.init]
    cases cfg.calls[c]? <;> simp [initCell, dfltCell]

theorem pinv_step {cfg : Cfg} {p : PState} (h : PInv cfg p) (op : Op) : PInv cfg (pstep cfg p op).1 := by
  unfold pstep
  cases hcc : cfg.calls[op.call]? with
  | none => exact h
  | some cc =>
    simp only
    have hg := callStep_good cfg.generatorBased cc (p.calls op.call) op.cop (h.coh op.call)
    refine ⟨fun c => ?_, fun c => ?_⟩
    · by_cases hc : c = op.call
      · subst hc
        simp only [pproj_append, pproj_tag_same, setAt_same, specFrom_append, h.acc, Option.bind]
        exact hg.1
      · simp only [pproj_append, pproj_tag_other hc, List.append_nil, setAt_other _ _ hc]
        exact h.acc c
    · by_cases hc : c = op.call
      · subst hc; simp only [setAt_same]; exact hg.2
      · simp only [setAt_other _ _ hc]; exact h.coh c

theorem pinv_run {cfg : Cfg} (ops : List Op) {p : PState} (h : PInv cfg p) : PInv cfg (prunFrom cfg p ops).1 := by
  induction ops generalizing p with
  | nil => exact h
  | cons op rest ih => exact ih (pinv_step h op)

theorem pinv_reach (cfg : Cfg) (ops : List Op) : PInv cfg (prun cfg ops).1 :=
  pinv_run ops (pinv_init cfg)

theorem proj_run (cfg : Cfg) (ops : List Op) (c : Nat) :
    proj c (run cfg ops).1.log = pproj c (prun cfg ops).1.log := by
  rw [proj_eq_pproj, (rel_reach cfg ops).log]

theorem pstep_other (cfg : Cfg) (p : PState) (op : Op) (c : Nat) (hc : op.call ≠ c) :
    (pstep cfg p op).1.calls c = p.calls c ∧ pproj c (pstep cfg p op).1.log = pproj c p.log := by
  unfold pstep
  cases cfg.calls[op.call]? with
  | none => exact ⟨rfl, rfl⟩
  | some cc =>
    have hc' : c ≠ op.call := fun h => hc h.symm
    simp only [setAt_other _ _ hc', pproj_append, pproj_tag_other hc', List.append_nil, and_self]

theorem pstep_same (cfg : Cfg) (p q : PState) (op : Op) (h1 : p.calls op.call = q.calls op.call)
    (h2 : pproj op.call p.log = pproj op.call q.log) :
    (pstep cfg p op).1.calls op.call = (pstep cfg q op).1.calls op.call ∧
    pproj op.call (pstep cfg p op).1.log = pproj op.call (pstep cfg q op).1.log ∧
    (pstep cfg p op).2 = (pstep cfg q op).2 := by
  unfold pstep
  cases cfg.calls[op.call]? with
  | none => exact ⟨h1, h2, rfl⟩
  | some cc =>
    simp only [setAt_same, pproj_append, pproj_tag_same, h1, h2, and_self]

/-- the outputs of the operations on call `c`, in order -/
def outsOf (c : Nat) : List Op → List Out → List Out
  | op :: ops, o :: outs => if op.call == c then o :: outsOf c ops outs else outsOf c ops outs
  | _, _ => []

/-- in the private machine, what call `c` does depends only on the operations on `c` -/
theorem pproject (cfg : Cfg) (c : Nat) (ops : List Op) (p q : PState) (h1 : p.calls c = q.calls c)
    (h2 : pproj c p.log = pproj c q.log) :
    (prunFrom cfg p ops).1.calls c = (prunFrom cfg q (ops.filter (fun op => op.call == c))).1.calls c ∧
    pproj c (prunFrom cfg p ops).1.log = pproj c (prunFrom cfg q (ops.filter (fun op => op.call == c))).1.log ∧
    outsOf c ops (prunFrom cfg p ops).2 = (prunFrom cfg q (ops.filter (fun op => op.call == c))).2 := by
  induction ops generalizing p q with
  | nil => exact ⟨h1, h2, rfl⟩
  | cons op rest ih =>
    by_cases hc : op.call = c
    · have hb : (op.call == c) = true := by simp [hc]
      simp only [List.filter_cons, hb, if_true, prunFrom, outsOf]
      subst hc
      obtain ⟨a, b, d⟩ := pstep_same cfg p q op h1 h2
      obtain ⟨i1, i2, i3⟩ := ih _ _ a b
      exact ⟨i1, i2, by rw [i3, d]⟩
    · have hb : (op.call == c) = false := by simp [hc]
      simp only [List.filter_cons, hb, prunFrom, outsOf]
      obtain ⟨a, b⟩ := pstep_other cfg p op c hc
      exact ih _ _ (a.trans h1) (b.trans h2)

/-! ## one step of the heap machine leaves every other call alone -/

theorem proj_append (c : Nat) (a b : List Ev) : proj c (a ++ b) = proj c a ++ proj c b := by
  simp [proj]

theorem proj_tag_other {c c' : Nat} (h : c' ≠ c) (g : Option Nat) (evs : List LEv) :
    proj c' (evs.map (fun e => (⟨c, g, e⟩ : Ev))) = [] := by
  induction evs with
  | nil => rfl
  | cons e rest ih =>
    have : (c == c') = false := by simp; exact fun h' => h h'.symm
    simp only [proj, List.map_cons, List.filter_cons, this] at ih ⊢
    exact ih

theorem core_other (gb : Bool) (s : State) (c' : Nat) (cc : CallCfg) (cop : COp) (c : Nat) (hc : c ≠ c') :
    (core gb s c' cc cop).1.calls c = s.calls c ∧
    (∀ g, (s.calls c').gid ≠ some g → (core gb s c' cc cop).1.gens g = s.gens g) ∧
    proj c (core gb s c' cc cop).1.log = proj c s.log := by
  unfold core
  refine ⟨by simp [setAt_other _ _ hc], ?_, by simp [proj_append, proj_tag_other hc]⟩
  intro g hg
  cases hgid : (s.calls c').gid with
  | none => rfl
  | some g' =>
    have : g ≠ g' := fun h => hg (by rw [hgid, h])
    simp [setAt_other _ _ this]

theorem step_other {cfg : Cfg} {s : State} {p : PState} (h : Rel cfg s p) (op : Op) (c : Nat)
    (hc : op.call ≠ c) :
    (step cfg s op).1.calls c = s.calls c ∧
    (∀ g, (s.calls c).gid = some g → (step cfg s op).1.gens g = s.gens g) ∧
    proj c (step cfg s op).1.log = proj c s.log := by
  have hc' : c ≠ op.call := fun h' => hc h'.symm
  unfold step
  cases hcc : cfg.calls[op.call]? with
  | none => exact ⟨rfl, fun _ _ => rfl, rfl⟩
  | some cc =>
    simp only
    by_cases hrec : isFirstSend (s.calls op.call).pc op.cop = true ∧ cfg.generatorBased = true
    · obtain ⟨hfs, hgb⟩ := hrec
      simp only [hfs, if_true, recreate, hgb]
      obtain ⟨a, b, d⟩ := core_other true
        { s with gens := setAt s.gens s.ngens (initCell cc), ngens := s.ngens + 1,
                 calls := setAt s.calls op.call { pc := .fresh, gid := some s.ngens } } op.call cc op.cop c hc'
      refine ⟨by rw [a]; simp [setAt_other _ _ hc'], ?_, by rw [d]⟩
      intro g hg
      have hlt := (h.own c g hg).2.1
      have hne : g ≠ s.ngens := by omega
      rw [b g (by simp only [setAt_same]; intro heq; exact hne (Option.some.inj heq).symm)]
      simp [setAt_other _ _ hne]
    · have hs1 : (if isFirstSend (s.calls op.call).pc op.cop = true then recreate cfg.generatorBased s op.call cc else s) = s := by
        by_cases hfs : isFirstSend (s.calls op.call).pc op.cop = true
        · have hgb : cfg.generatorBased = false := by
            cases hh : cfg.generatorBased with
            | false => rfl
            | true => exact absurd ⟨hfs, hh⟩ hrec
          simp [hfs, recreate, hgb]
        · simp [hfs]
      rw [hs1]
      obtain ⟨a, b, d⟩ := core_other cfg.generatorBased s op.call cc op.cop c hc'
      refine ⟨a, ?_, d⟩
      intro g hg
      exact b g (fun h' => hc (h.inj op.call c g h' hg))

/-! ## complete calls have exactly one of three shapes -/

theorem from_finished (r : Result) (l : List LEv) (st : SpecSt) (h : specFrom (.finished r) l = some st) :
    l = [] ∧ st = .finished r := by
  cases l with
  | nil => cases h; exact ⟨rfl, rfl⟩
  | cons e rest => cases e <;> cases h

theorem from_exited (o : BodyOut) (resp : ExitResp) (l : List LEv) (r : Result)
    (h : specFrom (.exited o resp) l = some (.finished r)) :
    l = [.finish (combine o resp)] ∧ r = combine o resp := by
  cases l with
  | nil => cases h
  | cons e rest =>
    cases e with
    | finish res =>
      by_cases hres : res = combine o resp
      · subst hres
        simp only [specFrom, specStep, if_true] at h
        obtain ⟨rfl, h2⟩ := from_finished _ _ _ h
        cases h2
        exact ⟨rfl, rfl⟩
      · simp only [specFrom, specStep, hres, if_false] at h
        cases h
    | _ => cases h

theorem from_exiting (o : BodyOut) (l : List LEv) (r : Result)
    (h : specFrom (.exiting o) l = some (.finished r)) :
    ∃ resp, l = [.exited resp, .finish (combine o resp)] ∧ r = combine o resp := by
  cases l with
  | nil => cases h
  | cons e rest =>
    cases e with
    | exited resp =>
      obtain ⟨h1, h2⟩ := from_exited _ _ _ _ h
      exact ⟨resp, by rw [h1], h2⟩
    | _ => cases h

theorem from_bodyDone (o : BodyOut) (l : List LEv) (r : Result)
    (h : specFrom (.bodyDone o) l = some (.finished r)) :
    ∃ resp, l = [.exit o.exc, .exited resp, .finish (combine o resp)] ∧ r = combine o resp := by
  cases l with
  | nil => cases h
  | cons e rest =>
    cases e with
    | exit x =>
      by_cases hx : x = o.exc
      · subst hx
        simp only [specFrom, specStep, if_true] at h
        obtain ⟨resp, h1, h2⟩ := from_exiting _ _ _ h
        exact ⟨resp, by rw [h1], h2⟩
      · simp only [specFrom, specStep, hx, if_false] at h
        cases h
    | _ => cases h

theorem from_inBody (l : List LEv) (r : Result) (h : specFrom .inBody l = some (.finished r)) :
    ∃ o resp, l = [.bodyEnd o, .exit o.exc, .exited resp, .finish (combine o resp)] ∧ r = combine o resp := by
  cases l with
  | nil => cases h
  | cons e rest =>
    cases e with
    | bodyEnd o =>
      obtain ⟨resp, h1, h2⟩ := from_bodyDone _ _ _ h
      exact ⟨o, resp, by rw [h1], h2⟩
    | _ => cases h

theorem from_entered (l : List LEv) (r : Result) (h : specFrom .entered l = some (.finished r)) :
    ∃ o resp, l = [.bodyBegin, .bodyEnd o, .exit o.exc, .exited resp, .finish (combine o resp)] ∧
      r = combine o resp := by
  cases l with
  | nil => cases h
  | cons e rest =>
    cases e with
    | bodyBegin =>
      obtain ⟨o, resp, h1, h2⟩ := from_inBody _ _ h
      exact ⟨o, resp, by rw [h1], h2⟩
    | _ => cases h

theorem from_finish_early {st : SpecSt} (hst : st = .init ∨ st = .entering) (res : Result) (rest : List LEv)
    (r : Result) (h : specFrom st (.finish res :: rest) = some (.finished r)) :
    ∃ x, .finish res :: rest = [.finish (.raised x)] ∧ r = .raised x := by
  cases res with
  | raised x =>
    have h' : specFrom (.finished (.raised x)) rest = some (.finished r) := by
      rcases hst with rfl | rfl <;> exact h
    obtain ⟨rfl, h2⟩ := from_finished _ _ _ h'
    cases h2
    exact ⟨x, rfl, rfl⟩
  | value v => rcases hst with rfl | rfl <;> cases h
  | none => rcases hst with rfl | rfl <;> cases h

theorem from_entering (l : List LEv) (r : Result) (h : specFrom .entering l = some (.finished r)) :
    (∃ x, l = [.finish (.raised x)] ∧ r = .raised x) ∨
    ∃ o resp, l = [.entered, .bodyBegin, .bodyEnd o, .exit o.exc, .exited resp, .finish (combine o resp)] ∧
      r = combine o resp := by
  cases l with
  | nil => cases h
  | cons e rest =>
    cases e with
    | entered =>
      obtain ⟨o, resp, h1, h2⟩ := from_entered _ _ h
      exact Or.inr ⟨o, resp, by rw [h1], h2⟩
    | finish res => exact Or.inl (from_finish_early (Or.inr rfl) res rest r h)
    | _ => cases h

theorem from_init (l : List LEv) (r : Result) (h : specFrom .init l = some (.finished r)) :
    (∃ x, l = [.finish (.raised x)] ∧ r = .raised x) ∨
    (∃ x, l = [.enter, .finish (.raised x)] ∧ r = .raised x) ∨
    ∃ o resp, l = [.enter, .entered, .bodyBegin, .bodyEnd o, .exit o.exc, .exited resp, .finish (combine o resp)] ∧
      r = combine o resp := by
  cases l with
  | nil => cases h
  | cons e rest =>
    cases e with
    | enter =>
      rcases from_entering _ _ h with ⟨x, h1, h2⟩ | ⟨o, resp, h1, h2⟩
      · exact Or.inr (Or.inl ⟨x, by rw [h1], h2⟩)
      · exact Or.inr (Or.inr ⟨o, resp, by rw [h1], h2⟩)
    | finish res => exact Or.inl (from_finish_early (Or.inl rfl) res rest r h)
    | _ => cases h

/-- the three shapes of the event sequence of a complete call, with its result -/
inductive CompleteShape : List LEv → Result → Prop
  /-- an exception thrown into the call before it ever ran: nothing happens -/
  | thrownBeforeStart (x : Exc) : CompleteShape [.finish (.raised x)] (.raised x)
  /-- entering the context failed (or was cancelled): no body, no exit, the exception leaves -/
  | enterFailed (x : Exc) : CompleteShape [.enter, .finish (.raised x)] (.raised x)
  /-- enter, body, exit handed the body's exception (or none), result combined from both -/
  | paired (o : BodyOut) (resp : ExitResp) :
      CompleteShape [.enter, .entered, .bodyBegin, .bodyEnd o, .exit o.exc, .exited resp, .finish (combine o resp)]
        (combine o resp)

theorem shape_of_accepted (l : List LEv) (r : Result) (h : specFrom .init l = some (.finished r)) :
    CompleteShape l r := by
  rcases from_init l r h with ⟨x, h1, h2⟩ | ⟨x, h1, h2⟩ | ⟨o, resp, h1, h2⟩
  · subst h1; subst h2; exact .thrownBeforeStart x
  · subst h1; subst h2; exact .enterFailed x
  · subst h1; subst h2; exact .paired o resp

/-- every state of the automaton can still reach a final state -/
theorem completion (st : SpecSt) : ∃ rest r, specFrom st rest = some (.finished r) := by
  cases st with
  | init => exact ⟨[.finish (.raised (.user 0))], _, rfl⟩
  | entering => exact ⟨[.finish (.raised (.user 0))], _, rfl⟩
  | entered =>
    exact ⟨[.bodyBegin, .bodyEnd (.returned 0), .exit none, .exited (.returned false), .finish (.value 0)], _, rfl⟩
  | inBody => exact ⟨[.bodyEnd (.returned 0), .exit none, .exited (.returned false), .finish (.value 0)], _, rfl⟩
  | bodyDone o =>
    exact ⟨[.exit o.exc, .exited (.raised (.user 0)), .finish (.raised (.user 0))], .raised (.user 0), by
      simp [specFrom, specStep, combine]⟩
  | exiting o =>
    exact ⟨[.exited (.raised (.user 0)), .finish (.raised (.user 0))], .raised (.user 0), by
      simp [specFrom, specStep, combine]⟩
  | exited o resp => exact ⟨[.finish (combine o resp)], combine o resp, by simp [specFrom, specStep]⟩
  | finished r => exact ⟨[], r, rfl⟩

theorem prefix_of_complete (l : List LEv) (st : SpecSt) (h : specFrom .init l = some st) :
    ∃ full r, l <+: full ∧ CompleteShape full r := by
  obtain ⟨rest, r, hr⟩ := completion st
  refine ⟨l ++ rest, r, List.prefix_append l rest, shape_of_accepted _ _ ?_⟩
  rw [specFrom_append, h]; exact hr

/-! ## progress: every operation on a call brings it strictly closer to completion -/

/-- number of operations on call `c` in a schedule -/
def opsOn (c : Nat) (ops : List Op) : Nat := (ops.filter (fun op => op.call == c)).length

theorem pstep_pot {cfg : Cfg} {p : PState} (h : PInv cfg p) (op : Op) (c : Nat) (cc : CallCfg)
    (hcc : cfg.calls[c]? = some cc) :
    pot cfg.generatorBased cc ((pstep cfg p op).1.calls c) ≤
      pot cfg.generatorBased cc (p.calls c) - (if op.call == c then 1 else 0) := by
  by_cases hc : op.call = c
  · subst hc
    simp only [pstep, hcc, setAt_same, beq_self_eq_true, if_true]
    exact callStep_pot _ _ _ _ (h.coh op.call)
  · have hb : (op.call == c) = false := by simp [hc]
    rw [(pstep_other cfg p op c hc).1]
    simp [hb]

theorem opsOn_cons (c : Nat) (op : Op) (ops : List Op) :
    opsOn c (op :: ops) = opsOn c ops + if op.call == c then 1 else 0 := by
  unfold opsOn
  rw [List.filter_cons]
  split <;> rfl

theorem prun_pot {cfg : Cfg} (ops : List Op) {p : PState} (h : PInv cfg p) (c : Nat) (cc : CallCfg)
    (hcc : cfg.calls[c]? = some cc) :
    pot cfg.generatorBased cc ((prunFrom cfg p ops).1.calls c) ≤ pot cfg.generatorBased cc (p.calls c) - opsOn c ops := by
  induction ops generalizing p with
  | nil => exact Nat.le_refl _
  | cons op rest ih =>
    rw [opsOn_cons]
    exact Nat.le_trans (ih (pinv_step h op)) (Nat.le_trans (Nat.sub_le_sub_right (pstep_pot h op c cc hcc) _)
      (Nat.le_of_eq (by rw [Nat.sub_sub, Nat.add_comm])))

/-- the number of operations (`send`/`throw`) after which a call is certainly done: one per
    suspension of the enter, the body and the exit it can take, plus one -/
def sendBound (gb : Bool) (cc : CallCfg) : Nat :=
  1 + (if gb then cc.gen.preSusp else cc.plain.enterSusp) + cc.bodySusp +
    (if gb then max cc.gen.postSusp cc.gen.thrSusp else cc.plain.exitSusp)

theorem pot_fresh (gb : Bool) (cc : CallCfg) :
    pot gb cc { pc := .fresh, cell := initCell cc } = sendBound gb cc := by
  cases gb <;> rfl

theorem pot_init (cfg : Cfg) (c : Nat) (cc : CallCfg) (hcc : cfg.calls[c]? = some cc) :
    pot cfg.generatorBased cc ((PState.init cfg).calls c) = sendBound cfg.generatorBased cc := by
  simp only [PState.init, hcc]
  exact pot_fresh _ cc

theorem prun_done (cfg : Cfg) (ops : List Op) (c : Nat) (cc : CallCfg) (hcc : cfg.calls[c]? = some cc)
    (h : sendBound cfg.generatorBased cc ≤ opsOn c ops) : ∃ r, ((prun cfg ops).1.calls c).pc = .done r := by
  have hpot := prun_pot (cfg := cfg) ops (pinv_init cfg) c cc hcc
  rw [pot_init cfg c cc hcc, Nat.sub_eq_zero_of_le h] at hpot
  exact pot_zero_done _ cc _ (Nat.le_zero.mp hpot)

end AsyncVerif.Decorator
