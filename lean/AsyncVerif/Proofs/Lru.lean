import AsyncVerif.Proofs.LruKey
/-! Helper lemmas for C10 / C11: refinement of the functools machine, invariants of the store. -/
namespace AsyncVerif.Lru

/-- a bounded cache has room for at least one entry (what `lru_cache` guarantees) -/
def Cfg.ok (c : Cfg) : Prop :=
  match c.var with
  | .bounded n => 1 ≤ n
  | _ => True

instance (c : Cfg) : Decidable c.ok := by
  unfold Cfg.ok
  cases c.var <;> infer_instance

/-- `maxsize` as reported by `cache_info` / `cache_parameters` -/
def Cfg.maxsize (c : Cfg) : Option Nat :=
  match c.var with
  | .uncached => some 0
  | .memo => none
  | .bounded n => some n

theorem lruCache_eq (d : Dec) : Impl.lruCache d = Spec.lruCache d := by
  rcases d with _ | ⟨_ | n, t⟩
  · rfl
  · rfl
  · by_cases h : n < 0 <;> simp [Impl.lruCache, Spec.lruCache, h]

theorem lruCache_ok (d : Dec) : (Impl.lruCache d).ok := by
  rcases d with _ | ⟨_ | n, t⟩
  · decide
  · trivial
  · -- the clamped `maxsize` is not negative
    have : ∀ m : Int, 0 ≤ m → (if m = 0 then (⟨.uncached, t⟩ : Cfg) else ⟨.bounded m.toNat, t⟩).ok := by
      intro m hm
      split
      · trivial
      · show 1 ≤ m.toNat; omega
    exact this _ (by split <;> omega)

/-- an uncached wrapper never counts a hit and never stores -/
def Wf (c : Cfg) (s : St) : Prop := c.var = .uncached → s.hits = 0 ∧ s.store = []

theorem Wf.init (c : Cfg) : Wf c St.init := fun _ => ⟨rfl, rfl⟩

/-! `find` and `erase` are `List.find?` and `List.eraseP` for the predicate "has the key of `q`". -/

theorem find_eq (eqv : Pattern → Pattern → Bool) (q : Pattern) :
    ∀ st : Store, find eqv q st = st.find? fun e => eqv e.1 q := by
  intro st
  induction st with
  | nil => rfl
  | cons e r ih => rw [find, List.find?_cons, ih]; cases eqv e.1 q <;> rfl

theorem erase_eq (eqv : Pattern → Pattern → Bool) (q : Pattern) :
    ∀ st : Store, erase eqv q st = st.eraseP fun e => eqv e.1 q := by
  intro st
  induction st with
  | nil => rfl
  | cons e r ih => rw [erase, List.eraseP_cons, ih]; cases eqv e.1 q <;> rfl

theorem find_mem {eqv : Pattern → Pattern → Bool} {q : Pattern} {st : Store} {e : Pattern × Nat}
    (h : find eqv q st = some e) : e ∈ st ∧ eqv e.1 q = true := by
  rw [find_eq] at h
  exact ⟨List.mem_of_find?_eq_some h, List.find?_some (p := fun e : Pattern × Nat => eqv e.1 q) h⟩

theorem find_none_iff {eqv : Pattern → Pattern → Bool} {q : Pattern} {st : Store} :
    find eqv q st = none ↔ ∀ e ∈ st, eqv e.1 q = false := by
  simp only [find_eq, List.find?_eq_none, Bool.not_eq_true]

theorem find_append_of_some {eqv : Pattern → Pattern → Bool} {q : Pattern} {e : Pattern × Nat}
    {st : Store} (l : Store) (h : find eqv q st = some e) : find eqv q (st ++ l) = some e := by
  rw [find_eq] at h ⊢
  rw [List.find?_append, h]
  rfl

theorem erase_sublist (eqv : Pattern → Pattern → Bool) (q : Pattern) (st : Store) :
    List.Sublist (erase eqv q st) st :=
  erase_eq eqv q st ▸ List.eraseP_sublist

theorem mem_erase_of_mem {eqv : Pattern → Pattern → Bool} {q : Pattern} {e : Pattern × Nat}
    {st : Store} (h : e ∈ erase eqv q st) : e ∈ st :=
  (erase_sublist eqv q st).subset h

theorem erase_length_le (eqv : Pattern → Pattern → Bool) (q : Pattern) :
    ∀ (st : Store), (erase eqv q st).length ≤ st.length :=
  fun st => (erase_sublist eqv q st).length_le

theorem erase_length_of_find {eqv : Pattern → Pattern → Bool} {q : Pattern} :
    ∀ {st : Store} {e : Pattern × Nat}, find eqv q st = some e → (erase eqv q st).length + 1 = st.length := by
  intro st e h
  have ⟨hm, he⟩ := find_mem h
  have := List.length_pos_of_mem hm
  rw [erase_eq, List.length_eraseP_of_mem hm he]
  omega

theorem erase_of_find_none {eqv : Pattern → Pattern → Bool} {q : Pattern} :
    ∀ {st : Store}, find eqv q st = none → erase eqv q st = st := by
  intro st h
  rw [erase_eq]
  exact List.eraseP_of_forall_not fun e he => by simp only [find_none_iff.mp h e he, Bool.false_eq_true, not_false_eq_true]

theorem dictSet_of_find_none (eqv : Pattern → Pattern → Bool) (p : Pattern) (v : Nat) :
    ∀ (st : Store), find eqv p st = none → Spec.dictSet eqv p v st = st ++ [(p, v)] := by
  intro st
  induction st with
  | nil => exact fun _ => rfl
  | cons e r ih =>
    intro h
    have ⟨he, hr⟩ := List.forall_mem_cons.mp (find_none_iff.mp h)
    simp only [Spec.dictSet, he, Bool.false_eq_true, if_false, List.cons_append, ih (find_none_iff.mpr hr)]

theorem begin_bounded_hit {n : Nat} {t : Bool} {s : St} {p : Pattern} {e : Pattern × Nat}
    (h : find (Impl.eqv t) p s.store = some e) :
    Impl.begin ⟨.bounded n, t⟩ s p
      = ({ s with store := erase (Impl.eqv t) p s.store ++ [e], hits := s.hits + 1 }, some e.2) := by
  simp only [Impl.begin, h]

theorem begin_bounded_miss {n : Nat} {t : Bool} {s : St} {p : Pattern}
    (h : find (Impl.eqv t) p s.store = none) :
    Impl.begin ⟨.bounded n, t⟩ s p = ({ s with misses := s.misses + 1 }, none) := by
  simp only [Impl.begin, h]

theorem begin_cases (c : Cfg) (s : St) (p : Pattern) :
    (∃ e st, find (Impl.eqv c.typed) p s.store = some e ∧ c.var ≠ .uncached ∧
      Impl.begin c s p = ({ s with hits := s.hits + 1, store := st }, some e.2) ∧
      (st = s.store ∨ st = erase (Impl.eqv c.typed) p s.store ++ [e])) ∨
    ((c.var = .uncached ∨ find (Impl.eqv c.typed) p s.store = none) ∧
      Impl.begin c s p = ({ s with misses := s.misses + 1 }, none)) := by
  obtain ⟨var, typed⟩ := c
  cases var with
  | uncached => exact .inr ⟨.inl rfl, rfl⟩
  | memo =>
    cases hf : find (Impl.eqv typed) p s.store with
    | none => exact .inr ⟨.inr rfl, by simp only [Impl.begin, hf]⟩
    | some e => exact .inl ⟨e, _, rfl, nofun, by simp only [Impl.begin, hf], .inl rfl⟩
  | bounded n =>
    cases hf : find (Impl.eqv typed) p s.store with
    | none => exact .inr ⟨.inr rfl, begin_bounded_miss hf⟩
    | some e => exact .inl ⟨e, _, rfl, nofun, begin_bounded_hit hf, .inr rfl⟩

theorem resume_of_find_some {c : Cfg} {s : St} {p : Pattern} {e : Pattern × Nat}
    (h : find (Impl.eqv c.typed) p s.store = some e) (v : Nat) : Impl.resume c s p v = s := by
  obtain ⟨var, typed⟩ := c
  cases var <;> simp only [Impl.resume, h, Option.isSome_some, if_true]

theorem resume_bounded_miss {n : Nat} {t : Bool} {s : St} {p : Pattern}
    (h : find (Impl.eqv t) p s.store = none) (v : Nat) :
    Impl.resume ⟨.bounded n, t⟩ s p v
      = { s with store := (if s.store.length < n then s.store else s.store.drop 1) ++ [(p, v)] } := by
  by_cases hl : s.store.length < n
  · simp only [Impl.resume, h, Option.isSome_none, Bool.false_eq_true, if_false, if_neg (Nat.not_le.mpr hl),
      if_pos hl]
  · simp only [Impl.resume, h, Option.isSome_none, Bool.false_eq_true, if_false, if_pos (Nat.not_lt.mp hl),
      if_neg hl]

theorem resume_cases (c : Cfg) (s : St) (p : Pattern) (v : Nat) :
    Impl.resume c s p v = s ∨
    (find (Impl.eqv c.typed) p s.store = none ∧ c.var ≠ .uncached ∧ ∃ st, st.Sublist s.store ∧
      Impl.resume c s p v = { s with store := st ++ [(p, v)] } ∧
      ∀ n, c.var = .bounded n → 1 ≤ n → s.store.length ≤ n → st.length < n) := by
  cases hf : find (Impl.eqv c.typed) p s.store with
  | some e => exact .inl (resume_of_find_some hf v)
  | none =>
    obtain ⟨var, typed⟩ := c
    cases var with
    | uncached => exact .inl rfl
    | memo =>
      refine .inr ⟨rfl, nofun, _, List.Sublist.refl _, ?_, nofun⟩
      simp only [Impl.resume, hf, Option.isSome_none, Bool.false_eq_true, if_false]
    | bounded n =>
      refine .inr ⟨rfl, nofun, _, ?_, resume_bounded_miss hf v, fun m hm _ _ => ?_⟩
      · split
        · exact List.Sublist.refl _
        · exact List.drop_sublist 1 _
      · cases hm
        split
        · assumption
        · rw [List.length_drop]; omega

theorem call_bounded_hit {n : Nat} {t : Bool} {s : St} {p : Pattern} {e : Pattern × Nat}
    (h : find (Impl.eqv t) p s.store = some e) (r : Res) :
    Impl.call ⟨.bounded n, t⟩ s p r
      = ({ s with store := erase (Impl.eqv t) p s.store ++ [e], hits := s.hits + 1 }, .ret e.2 false) := by
  simp only [Impl.call, begin_bounded_hit h]

theorem call_bounded_miss {n : Nat} {t : Bool} {s : St} {p : Pattern}
    (h : find (Impl.eqv t) p s.store = none) (v : Nat) :
    Impl.call ⟨.bounded n, t⟩ s p (.ok v)
      = ({ s with misses := s.misses + 1,
                  store := (if s.store.length < n then s.store else s.store.drop 1) ++ [(p, v)] },
         .ret v true) := by
  simp only [Impl.call, begin_bounded_miss h]
  rw [resume_bounded_miss (s := { s with misses := s.misses + 1 }) h]

theorem call_preserves {c : Cfg} {P : St → Prop} (hb : ∀ s p, P s → P (Impl.begin c s p).1)
    (hr : ∀ s p v, P s → P (Impl.resume c s p v)) (s : St) (h : P s) (p : Pattern) (r : Res) :
    P (Impl.call c s p r).1 := by
  unfold Impl.call
  have hb := hb s p h
  generalize Impl.begin c s p = b at hb
  obtain ⟨s1, _ | v⟩ := b
  · cases r with
    | fail e => exact hb
    | ok v => exact hr s1 p v hb
  · exact hb

theorem step_preserves {c : Cfg} {P : St → Prop} (hb : ∀ s p, P s → P (Impl.begin c s p).1)
    (hr : ∀ s p v, P s → P (Impl.resume c s p v)) (hc : ∀ s, P s → P (Impl.clear c s))
    (hd : ∀ s p, P s → P (Impl.discard c s p)) (s : St) (h : P s) (op : Op) :
    P (Impl.step c s op).1 := by
  cases op with
  | call p r => exact call_preserves hb hr s h p r
  | mcall i p r => exact call_preserves hb hr s h (bind i p) r
  | clear => exact hc s h
  | discard p => exact hd s p h
  | mdiscard i p => exact hd s (bind i p) h
  | info => exact h
  | params => exact h

theorem call_eq (c : Cfg) (hok : c.ok) (s : St) (p : Pattern) (r : Res) :
    Impl.call c s p r = Spec.call c s p r := by
  obtain ⟨var, typed⟩ := c
  cases var with
  | uncached => cases r <;> rfl
  | memo =>
    simp only [Impl.call, Impl.begin, Impl.resume, Spec.call, ← eqv_eq]
    cases hf : find (Impl.eqv typed) p s.store with
    | some e => rfl
    | none =>
      cases r with
      | fail e => rfl
      | ok v => simp only [hf, Option.isSome_none, Bool.false_eq_true, if_false, dictSet_of_find_none _ _ _ _ hf]
  | bounded n =>
    have hn : 1 ≤ n := hok
    simp only [Spec.call, ← eqv_eq]
    cases hf : find (Impl.eqv typed) p s.store with
    | some e => exact call_bounded_hit hf r
    | none =>
      cases r with
      | fail e => simp only [Impl.call, begin_bounded_miss hf]
      | ok v =>
        rw [call_bounded_miss hf]
        -- CPython's "not full" test `len < n ∨ empty` is `len < n` because `1 ≤ n`
        have : (s.store.length < n ∨ s.store = []) ↔ s.store.length < n :=
          ⟨fun h => h.elim id fun h => by rw [h]; exact hn, .inl⟩
        simp only [Option.isSome_none, Bool.false_eq_true, if_false, this]
        split <;> rfl

theorem discard_eq (c : Cfg) (s : St) (hwf : Wf c s) (p : Pattern) : Impl.discard c s p = Spec.discard c s p := by
  obtain ⟨var, typed⟩ := c
  simp only [Impl.discard, Spec.discard, ← eqv_eq]
  cases var with
  | uncached =>
    obtain ⟨h, m, st⟩ := s
    obtain ⟨-, rfl⟩ : h = 0 ∧ st = [] := hwf rfl
    rfl
  | memo => rfl
  | bounded n => rfl

theorem step_eq (c : Cfg) (hok : c.ok) (s : St) (hwf : Wf c s) (op : Op) :
    Impl.step c s op = Spec.step c s op := by
  cases op with
  | call p r => exact call_eq c hok s p r
  | mcall i p r => exact call_eq c hok s (bind i p) r
  | discard p => exact congrArg (·, Out.done) (discard_eq c s hwf p)
  | mdiscard i p => exact congrArg (·, Out.done) (discard_eq c s hwf (bind i p))
  | params => rfl
  | clear | info =>
    -- the two differ on an uncached wrapper only in what `Wf` fixes
    obtain ⟨var, typed⟩ := c
    cases var with
    | uncached =>
      obtain ⟨h, m, st⟩ := s
      obtain ⟨rfl, rfl⟩ : h = 0 ∧ st = [] := hwf rfl
      rfl
    | memo => rfl
    | bounded n => rfl

theorem begin_wf (c : Cfg) (s : St) (hwf : Wf c s) (p : Pattern) : Wf c (Impl.begin c s p).1 := by
  intro hu
  simpa only [Impl.begin, hu] using hwf hu

theorem resume_wf (c : Cfg) (s : St) (hwf : Wf c s) (p : Pattern) (v : Nat) : Wf c (Impl.resume c s p v) := by
  intro hu
  simpa only [Impl.resume, hu] using hwf hu

theorem clear_wf (c : Cfg) (s : St) (hwf : Wf c s) : Wf c (Impl.clear c s) := by
  intro hu
  simpa only [Impl.clear, hu] using hwf hu

theorem discard_wf (c : Cfg) (s : St) (hwf : Wf c s) (p : Pattern) : Wf c (Impl.discard c s p) := by
  intro hu
  simpa only [Impl.discard, hu] using hwf hu

theorem call_wf (c : Cfg) (s : St) (hwf : Wf c s) (p : Pattern) (r : Res) : Wf c (Impl.call c s p r).1 :=
  call_preserves (fun s p h => begin_wf c s h p) (fun s p v h => resume_wf c s h p v) s hwf p r

theorem step_wf (c : Cfg) (s : St) (hwf : Wf c s) (op : Op) : Wf c (Impl.step c s op).1 :=
  step_preserves (fun s p h => begin_wf c s h p) (fun s p v h => resume_wf c s h p v)
    (fun s h => clear_wf c s h) (fun s p h => discard_wf c s h p) s hwf op

theorem run_eq (c : Cfg) (hok : c.ok) : ∀ (ops : List Op) (s : St), Wf c s →
    run (Impl.step c) s ops = run (Spec.step c) s ops := by
  intro ops
  induction ops with
  | nil => exact fun _ _ => rfl
  | cons op rest ih =>
    intro s hwf
    simp only [run]
    rw [← step_eq c hok s hwf op, ih _ (step_wf c s hwf op)]

theorem final_eq (c : Cfg) (hok : c.ok) : ∀ (ops : List Op) (s : St), Wf c s →
    final (Impl.step c) s ops = final (Spec.step c) s ops := by
  intro ops
  induction ops with
  | nil => exact fun _ _ => rfl
  | cons op rest ih =>
    intro s hwf
    simp only [final]
    rw [← step_eq c hok s hwf op, ih _ (step_wf c s hwf op)]

theorem final_append (f : St → Op → St × Out) : ∀ (a b : List Op) (s : St),
    final f s (a ++ b) = final f (final f s a) b := by
  intro a
  induction a with
  | nil => intro b s; rfl
  | cons op rest ih => intro b s; exact ih b _

theorem eqv_refl (t : Bool) (a : Pattern) : Impl.eqv t a a = true := decide_eq_true rfl

theorem eqv_symm (t : Bool) (a b : Pattern) : Impl.eqv t a b = Impl.eqv t b a :=
  decide_eq_decide.mpr ⟨Eq.symm, Eq.symm⟩

theorem eqv_trans (t : Bool) {a b c : Pattern} (h1 : Impl.eqv t a b = true) (h2 : Impl.eqv t b c = true) :
    Impl.eqv t a c = true :=
  decide_eq_true ((of_decide_eq_true h1).trans (of_decide_eq_true h2))

theorem eqv_false_of (t : Bool) {a b q : Pattern} (h1 : Impl.eqv t a q = true) (h2 : Impl.eqv t b q = false) :
    Impl.eqv t b a = false :=
  Bool.eq_false_iff.mpr fun h => Bool.eq_false_iff.mp h2 (eqv_trans t h h1)

/-- no two entries have equal keys -/
def Distinct (t : Bool) (st : Store) : Prop := st.Pairwise fun a b => Impl.eqv t a.1 b.1 = false

structure Inv (c : Cfg) (s : St) : Prop where
  distinct : Distinct c.typed s.store
  bound : ∀ n, c.var = .bounded n → s.store.length ≤ n
  wf : Wf c s

theorem Inv.init (c : Cfg) : Inv c St.init :=
  ⟨List.Pairwise.nil, fun _ _ => Nat.zero_le _, Wf.init c⟩

theorem Inv.length_le {c : Cfg} {s : St} (h : Inv c s) {n : Nat} (hn : c.maxsize = some n) :
    s.store.length ≤ n := by
  obtain ⟨var, typed⟩ := c
  cases var with
  | uncached => rw [(h.wf rfl).2]; exact Nat.zero_le _
  | memo => cases hn
  | bounded m => exact Option.some.inj hn ▸ h.bound m rfl

theorem distinct_sublist {t : Bool} {a b : Store} (h : List.Sublist a b) (hd : Distinct t b) : Distinct t a :=
  List.Pairwise.sublist h hd

theorem distinct_snoc {t : Bool} {st : Store} {e : Pattern × Nat} (hd : Distinct t st)
    (he : ∀ x ∈ st, Impl.eqv t x.1 e.1 = false) : Distinct t (st ++ [e]) :=
  List.pairwise_append.mpr ⟨hd, List.pairwise_singleton _ _,
    fun a ha _ hb => List.mem_singleton.mp hb ▸ he a ha⟩

/-- `erase` removes the first entry with the key of `q`; among distinct keys that is every such entry -/
theorem erase_eq_filter {t : Bool} {q : Pattern} : ∀ {st : Store}, Distinct t st →
    erase (Impl.eqv t) q st = st.filter fun e => !Impl.eqv t e.1 q := by
  intro st
  induction st with
  | nil => exact fun _ => rfl
  | cons y r ih =>
    intro hd
    have ⟨hy, hr⟩ := List.pairwise_cons.mp hd
    cases h : Impl.eqv t y.1 q with
    | false => simp only [erase, List.filter_cons, h, Bool.false_eq_true, if_false, Bool.not_false, if_true, ih hr]
    | true =>
      simp only [erase, List.filter_cons, h, if_true, Bool.not_true, Bool.false_eq_true, if_false]
      refine (List.filter_eq_self.mpr fun x hx => ?_).symm
      rw [eqv_false_of t (eqv_symm t q y.1 ▸ h) (eqv_symm t y.1 x.1 ▸ hy x hx)]
      rfl

theorem begin_inv (c : Cfg) (s : St) (h : Inv c s) (p : Pattern) : Inv c (Impl.begin c s p).1 := by
  refine ⟨?_, ?_, begin_wf _ s h.wf p⟩
  all_goals
    rcases begin_cases c s p with ⟨e, st, hf, _, hb, rfl | rfl⟩ | ⟨_, hb⟩ <;> rw [hb]
  · exact h.distinct
  · refine distinct_snoc (distinct_sublist (erase_sublist _ _ _) h.distinct) fun x hx => ?_
    rw [erase_eq_filter h.distinct, List.mem_filter, Bool.not_eq_true'] at hx
    exact eqv_false_of c.typed (find_mem hf).2 hx.2
  · exact h.distinct
  · exact h.bound
  · intro n hn
    simp only [List.length_append, List.length_singleton, erase_length_of_find hf]
    exact h.bound n hn
  · exact h.bound

theorem resume_inv (c : Cfg) (hok : c.ok) (s : St) (h : Inv c s) (p : Pattern) (v : Nat) :
    Inv c (Impl.resume c s p v) := by
  refine ⟨?_, ?_, resume_wf _ s h.wf p v⟩
  all_goals
    rcases resume_cases c s p v with hr | ⟨hf, _, st, hsub, hr, hlen⟩ <;> rw [hr]
  · exact h.distinct
  · exact distinct_snoc (distinct_sublist hsub h.distinct) fun x hx => find_none_iff.mp hf x (hsub.subset hx)
  · exact h.bound
  · intro n hn
    have hn1 : 1 ≤ n := by unfold Cfg.ok at hok; rwa [hn] at hok
    simp only [List.length_append, List.length_singleton]
    exact hlen n hn hn1 (h.bound n hn)

/-- `cache_clear` and `cache_discard` only ever remove entries -/
theorem Inv.of_sublist {c : Cfg} {s s' : St} (h : Inv c s) (hsub : s'.store.Sublist s.store) (hwf : Wf c s') :
    Inv c s' :=
  ⟨distinct_sublist hsub h.distinct, fun n hn => Nat.le_trans hsub.length_le (h.bound n hn), hwf⟩

theorem clear_inv (c : Cfg) (s : St) (h : Inv c s) : Inv c (Impl.clear c s) := by
  refine h.of_sublist ?_ (clear_wf c s h.wf)
  unfold Impl.clear
  cases c.var
  · exact List.Sublist.refl _
  · exact List.nil_sublist _
  · exact List.nil_sublist _

theorem discard_inv (c : Cfg) (s : St) (h : Inv c s) (p : Pattern) : Inv c (Impl.discard c s p) := by
  refine h.of_sublist ?_ (discard_wf c s h.wf p)
  unfold Impl.discard
  cases c.var
  · exact List.Sublist.refl _
  · exact erase_sublist _ _ _
  · exact erase_sublist _ _ _

theorem step_inv (c : Cfg) (hok : c.ok) (s : St) (h : Inv c s) (op : Op) : Inv c (Impl.step c s op).1 :=
  step_preserves (fun s p h => begin_inv c s h p) (fun s p v h => resume_inv c hok s h p v)
    (fun s h => clear_inv c s h) (fun s p h => discard_inv c s h p) s h op

theorem final_inv (c : Cfg) (hok : c.ok) : ∀ (ops : List Op) (s : St), Inv c s → Inv c (final (Impl.step c) s ops) := by
  intro ops
  induction ops with
  | nil => exact fun _ h => h
  | cons op rest ih => exact fun s h => ih _ (step_inv c hok s h op)

theorem find_filter_self (t : Bool) (p : Pattern) (st : Store) :
    find (Impl.eqv t) p (st.filter fun e => !Impl.eqv t e.1 p) = none :=
  find_none_iff.mpr fun _ he => Bool.not_eq_true' _ ▸ (List.mem_filter.mp he).2

theorem find_filter_other (t : Bool) (p q : Pattern) (hq : Impl.eqv t q p = false) (st : Store) :
    find (Impl.eqv t) q (st.filter fun e => !Impl.eqv t e.1 p) = find (Impl.eqv t) q st := by
  rw [find_eq, find_eq, List.find?_filter]
  congr 1
  funext e
  cases h : Impl.eqv t e.1 q with
  | false => exact decide_eq_false fun h' => Bool.false_ne_true h'.2
  | true =>
    have : Impl.eqv t e.1 p = false := eqv_symm t p e.1 ▸ eqv_false_of t h (eqv_symm t q p ▸ hq)
    exact decide_eq_true ⟨by rw [this]; rfl, rfl⟩

theorem bind_key (t : Bool) (i : Nat) (p : Pattern) :
    ∃ rest, (asKey t (bind i p)).norm = .seq (.sc (.obj i) :: rest) := by
  by_cases hk : p.kwds = []
  · rw [key_nokw t (bind i p) hk]
    simp only [ftKey, bind, hk, List.isEmpty_nil, Bool.and_true]
    cases t with
    | true => exact ⟨_, rfl⟩
    | false => cases p.args <;> exact ⟨_, rfl⟩
  · rw [asKey_kw t (bind i p) hk]
    exact ⟨_, rfl⟩

end AsyncVerif.Lru
