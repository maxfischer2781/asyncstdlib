import AsyncVerif.Proofs.Core
/-!
# Flavour erasure (C03): the kind of an iterable argument never changes items, result or exception

`Sim w w'`: two worlds that agree on everything except the *kinds* of their sources (list, sequence,
sync iterator, async generator, class-based async iterator with `aclose`), the bookkeeping that
depends on the kind (closes, exact status) and the non-yield part of the logs.
`KindFree m`: from `Sim`-related worlds, `m` ends the same way and yields the same values; unless it
ended with a user exception the final worlds are again related.  It is `Compositional`, so every
modelled tool is `KindFree` (Properties/C03.lean).
Callable flavours (def / async def / partial / callable object) have a single primitive `call` in
the model, so there is nothing to erase for them; their interchangeability in the real code is what
the correspondence checks.
-/
namespace AsyncVerif

/-- the values handed to the consumer -/
def yields : List Ev → List Val
  | [] => []
  | .yld v :: r => v :: yields r
  | _ :: r => yields r

@[simp] theorem yields_append (a b : List Ev) : yields (a ++ b) = yields a ++ yields b := by
  induction a with
  | nil => rfl
  | cons x xs ih => cases x <;> simp [yields, ih]

structure Sim (w w' : World) : Prop where
  cons : w.cons = w'.cons
  fns : w.fns = w'.fns
  calls : w.calls = w'.calls
  ylds : yields w.vis = yields w'.vis
  srcs : ∀ s, (w.srcs s).script = (w'.srcs s).script ∧ (w.srcs s).status.live = (w'.srcs s).status.live
  -- a class-based iterator without `aclose` stays live across `closeSrc` (`closeStep_live`), every other
  -- kind does not: it is the one kind whose replacement a later pull can observe
  nc : ∀ s, (w.srcs s).kind ≠ .aobjNc ∧ (w'.srcs s).kind ≠ .aobjNc

def isUser {α : Type} : Except Exc α → Bool
  | .error (.user _) => true
  | _ => false

/-- `Sim` is not promised after a user exception: a failed pull leaves a class-based iterator live and a
    generator not (`pullStep`).  The only code that still runs then is `Quiet` cleanup, whose outcome and
    yields do not depend on the sources (`kf_tryFinally`). -/
structure KindFree {α : Type} (m : M α) : Prop where
  run : ∀ w w', Sim w w' →
    (m w).1 = (m w').1 ∧ yields (m w).2.vis = yields (m w').2.vis ∧
    (isUser (m w).1 = false → Sim (m w).2 (m w').2)

theorem kf_pure {α : Type} (a : α) : KindFree (pure a : M α) :=
  ⟨fun _ _ h => ⟨rfl, h.ylds, fun _ => h⟩⟩

theorem kf_raise {α : Type} (x : Exc) : KindFree (raise x : M α) :=
  ⟨fun _ _ h => ⟨rfl, h.ylds, fun _ => h⟩⟩

theorem kf_liftExc {α : Type} (r : Except Exc α) : KindFree (liftExc r) := by
  refine ⟨fun w w' h => ?_⟩
  unfold liftExc
  cases r <;> exact ⟨rfl, h.ylds, fun _ => h⟩

theorem kf_bind {α β : Type} {m : M α} {f : α → M β} (hm : KindFree m) (hf : ∀ a, KindFree (f a)) :
    KindFree (m >>= f) := by
  refine ⟨fun w w' h => ?_⟩
  have ⟨hr, hy, hs⟩ := hm.run w w' h
  rw [bind_apply, bind_apply]
  revert hr hy hs
  rcases m w with ⟨r, w1⟩
  rcases m w' with ⟨r', w1'⟩
  rintro ⟨⟩ hy hs
  cases r with
  | ok a => exact (hf a).run w1 w1' (hs rfl)
  | error x => exact ⟨rfl, hy, fun hu => hs (by cases x <;> exact hu)⟩

theorem pullStep_sim (s : Nat) {x y : Src} (hsc : x.script = y.script) (hlv : x.status.live = y.status.live) :
    (pullStep s x).1 = (pullStep s y).1 ∧ yields (pullStep s x).2.2 = [] ∧ yields (pullStep s y).2.2 = [] ∧
    (isUser (pullStep s x).1 = false →
      (pullStep s x).2.1.script = (pullStep s y).2.1.script ∧
      (pullStep s x).2.1.status.live = (pullStep s y).2.1.status.live) := by
  unfold pullStep
  rw [← hlv]
  by_cases hl : x.status.live
  · rw [if_pos hl, if_pos hl, ← hsc]
    cases x.script with
    | nil => exact ⟨rfl, rfl, rfl, fun _ => ⟨rfl, rfl⟩⟩
    | cons r rest =>
      cases r with
      | item v => exact ⟨rfl, rfl, rfl, fun _ => ⟨rfl, rfl⟩⟩
      | err e => exact ⟨rfl, rfl, rfl, nofun⟩
  · rw [if_neg hl, if_neg hl]
    exact ⟨rfl, by split <;> rfl, by split <;> rfl, fun _ => ⟨hsc, hlv⟩⟩

theorem kf_pull (s : Nat) : KindFree (pull s) := by
  refine ⟨fun w w' h => ?_⟩
  obtain ⟨hr, hy, hy', hs⟩ := pullStep_sim s (h.srcs s).1 (h.srcs s).2
  have hys : yields (w.vis ++ (pullStep s (w.srcs s)).2.2) = yields (w'.vis ++ (pullStep s (w'.srcs s)).2.2) := by
    rw [yields_append, yields_append, hy, hy', h.ylds]
  rw [pull_eq, pull_eq]
  refine ⟨hr, hys, fun hu => ⟨h.cons, h.fns, h.calls, hys, ?_, ?_⟩⟩
  · exact World.setSrc_rel (R := fun a b => a.script = b.script ∧ a.status.live = b.status.live) s (hs hu) h.srcs
  · exact World.setSrc_rel (R := fun a b => a.kind ≠ .aobjNc ∧ b.kind ≠ .aobjNc) s
      (by rw [pullStep_kind, pullStep_kind]; exact h.nc s) h.nc

theorem kf_call (f : Nat) (args : List Val) : KindFree (call f args) := by
  refine ⟨fun w w' h => ?_⟩
  unfold call
  dsimp only
  rw [← h.fns, ← h.calls]
  have hys : ∀ ev, yields (w.vis ++ [Ev.call f args] ++ [ev]) = yields (w'.vis ++ [Ev.call f args] ++ [ev]) := by
    intro ev; rw [yields_append, yields_append, yields_append, yields_append, h.ylds]
  cases w.fns f (w.calls f) args with
  | ok v => exact ⟨rfl, hys _, fun _ => ⟨h.cons, rfl, rfl, hys _, h.srcs, h.nc⟩⟩
  | error e => exact ⟨rfl, hys _, nofun⟩

theorem kf_yieldV (v : Val) : KindFree (yieldV v) := by
  refine ⟨fun w w' h => ?_⟩
  have hys : yields (w.vis ++ .yld v :: (consStep w.cons).2.2) = yields (w'.vis ++ .yld v :: (consStep w.cons).2.2) := by
    rw [yields_append, yields_append, h.ylds]
  rw [yieldV_eq, yieldV_eq, ← h.cons]
  exact ⟨rfl, hys, fun _ => ⟨rfl, h.fns, h.calls, hys, h.srcs, h.nc⟩⟩

/-- closing makes a source non-live whatever its kind (among kinds with a close protocol or sync) -/
theorem kf_closeSrc (s : Nat) : KindFree (closeSrc s) := by
  refine ⟨fun w w' h => ?_⟩
  obtain ⟨r, e⟩ := closeSrc_eq s w
  obtain ⟨r', e'⟩ := closeSrc_eq s w'
  rw [e, e']
  refine ⟨rfl, h.ylds, fun _ => ⟨h.cons, h.fns, h.calls, h.ylds, ?_, ?_⟩⟩
  · refine World.setSrc_rel (R := fun a b => a.script = b.script ∧ a.status.live = b.status.live) s ⟨?_, ?_⟩ h.srcs
    · rw [closeStep_script, closeStep_script]; exact (h.srcs s).1
    · rw [closeStep_live, closeStep_live, beq_false_of_ne (h.nc s).1, beq_false_of_ne (h.nc s).2]; rfl
  · exact World.setSrc_rel (R := fun a b => a.kind ≠ .aobjNc ∧ b.kind ≠ .aobjNc) s
      (by rw [closeStep_kind, closeStep_kind]; exact h.nc s) h.nc

theorem kf_tryFinally {α : Type} {body : M α} {fin : M Unit} (hb : KindFree body) (hf : KindFree fin) (hq : Quiet fin) :
    KindFree (tryFinally body fin) := by
  refine ⟨fun w w' h => ?_⟩
  obtain ⟨hr, hy, hs⟩ := hb.run w w' h
  rw [tryFinally_eq, tryFinally_eq, (hq _).1, (hq _).1, ← hr]
  split
  · exact ⟨hr, hy, hs⟩
  · have hf' := fun hu => hf.run _ _ (hs hu)
    refine ⟨rfl, ?_, fun hu => (hf' hu).2.2 (by rw [(hq _).1]; rfl)⟩
    rw [(hq _).2.1, (hq _).2.1]; exact hy

theorem kf_tryCatchStop {α : Type} {body handler : M α} (hb : KindFree body) (hh : KindFree handler) :
    KindFree (tryCatchStop body handler) := by
  refine ⟨fun w w' h => ?_⟩
  have ⟨hr, hy, hs⟩ := hb.run w w' h
  unfold tryCatchStop
  revert hr hy hs
  rcases body w with ⟨r, w1⟩
  rcases body w' with ⟨r', w1'⟩
  rintro ⟨⟩ hy hs
  cases r with
  | ok a => exact ⟨rfl, hy, hs⟩
  | error x => cases x <;> first | exact ⟨rfl, hy, hs⟩ | exact hh.run w1 w1' (hs rfl)

theorem kf_compositional : Compositional @KindFree where
  pure := kf_pure
  raise := fun x _ => kf_raise x
  liftExc := fun r _ => kf_liftExc r
  bind := kf_bind
  pull := kf_pull
  call := kf_call
  yieldV := kf_yieldV
  closeSrc := kf_closeSrc
  tryFinally := kf_tryFinally
  tryCatchStop := kf_tryCatchStop

theorem Std.kf_dropwhileLoop (f s : Nat) (fuel : Nat) : ∀ (b : Bool), KindFree (Std.dropwhileLoop f s b fuel) :=
  kf_compositional.dropwhileLoop f s fuel

theorem Std.kf_batched (n : Nat) (strict : Bool) (s : Nat) (fuel : Nat) : KindFree (Std.batched n strict s fuel) :=
  kf_compositional.stdBatched n strict s fuel

theorem Std.kf_iterSentinel (f : Nat) (sv : Val) (fuel : Nat) : KindFree (Std.iterSentinel f sv fuel) :=
  kf_compositional.iterSentinel f sv fuel

end AsyncVerif
