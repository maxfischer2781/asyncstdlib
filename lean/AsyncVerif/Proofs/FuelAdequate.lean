import AsyncVerif.Proofs.Core
import AsyncVerif.Impl.Aggregations
import AsyncVerif.Proofs.Select
/-!
# Fuel adequacy: every fuelled loop of the tool models terminates within a bound read off the world

The fuel parameter of the loops is a model artefact; `.outOfFuel` is raised when it reaches 0.
This file shows that the artefact is never observed when the fuel exceeds the (finite) amount of
scripted input: source scripts are finite lists, every successful `pull s` shortens the script of
`s` by one, and no primitive ever makes a script longer.

* `slen s w`      — length of the remaining script of source `s`
* `NoGrow w w'`   — no script is longer in `w'` than in `w`
* `Tame m`        — `m` never raises `.outOfFuel` and never makes a script longer
* `Triple P m Q`  — partial-correctness triple "from `P`, `m` does not raise `.outOfFuel`, and
                    if it returns `a` then `Q a` holds of the final world"
-/
namespace AsyncVerif

/-- remaining script length of source `s` -/
def slen (s : Nat) (w : World) : Nat := (w.srcs s).script.length

/-- no script grew between `w` and `w'` -/
def NoGrow (w w' : World) : Prop := ∀ t, slen t w' ≤ slen t w

theorem NoGrow.refl (w : World) : NoGrow w w := fun _ => Nat.le_refl _
theorem NoGrow.trans {a b c : World} (h1 : NoGrow a b) (h2 : NoGrow b c) : NoGrow a c :=
  fun t => Nat.le_trans (h2 t) (h1 t)

/-- a program that never reports `.outOfFuel` and never makes a script longer (in any world,
    whatever its outcome) -/
def Tame {α : Type} (m : M α) : Prop := ∀ w, (m w).1 ≠ .error .outOfFuel ∧ NoGrow w (m w).2

/-- `m` never reports `.outOfFuel` -/
def Fueled {α : Type} (m : M α) : Prop := ∀ w, (m w).1 ≠ .error .outOfFuel

theorem Tame.fueled {α : Type} {m : M α} (h : Tame m) : Fueled m := fun w => (h w).1

theorem Tame.pure {α : Type} (a : α) : Tame (pure a : M α) := fun w => ⟨by simp [pure_apply], NoGrow.refl w⟩

theorem Tame.raise {α : Type} (e : Exc) (h : e ≠ .outOfFuel) : Tame (raise e : M α) :=
  fun w => ⟨by simpa [AsyncVerif.raise] using h, NoGrow.refl w⟩

theorem Tame.bind {α β : Type} {m : M α} {f : α → M β} (hm : Tame m) (hf : ∀ a, Tame (f a)) :
    Tame (m >>= f) := by
  intro w
  have h1 := hm w
  simp only [bind_apply]
  rcases hmw : m w with ⟨r, w1⟩
  rw [hmw] at h1
  cases r with
  | ok a =>
    have h2 := hf a w1
    exact ⟨h2.1, NoGrow.trans h1.2 h2.2⟩
  | error e => simpa using h1

theorem Tame.seq {α β : Type} {m : M α} {k : M β} (hm : Tame m) (hk : Tame k) :
    Tame (do let _ ← m; k) := Tame.bind hm (fun _ => hk)

theorem Tame.liftExc {α : Type} (r : Except Exc α) (h : r ≠ .error .outOfFuel) : Tame (liftExc r) := by
  intro w
  cases r with
  | ok a => exact ⟨by simp [AsyncVerif.liftExc], NoGrow.refl w⟩
  | error e => exact ⟨by simpa [AsyncVerif.liftExc] using h, NoGrow.refl w⟩

theorem Val.lt_ne_oof (a b : Val) : Val.lt a b ≠ .error .outOfFuel := by
  unfold Val.lt; split <;> simp

theorem Val.add_ne_oof (a b : Val) : Val.add a b ≠ .error .outOfFuel := by
  unfold Val.add; split <;> simp

theorem Val.asArgs_ne_oof (a : Val) : Val.asArgs a ≠ .error .outOfFuel := by
  unfold Val.asArgs; split <;> simp

theorem Tame.yieldV (v : Val) : Tame (yieldV v) := by
  intro w
  unfold AsyncVerif.yieldV
  rcases hc : w.cons with ⟨n, f⟩ | _
  · cases n <;> cases f <;> simp [hc, NoGrow, slen, World.pushVis]
  · simp [hc, NoGrow, slen, World.pushVis]

theorem Tame.call (f : Nat) (args : List Val) : Tame (call f args) := by
  intro w
  unfold AsyncVerif.call
  cases h : w.fns f (w.calls f) args <;> simp [h, NoGrow, slen, World.pushVis]

theorem Tame.test (fn : Option Nat) (x : Val) : Tame (test fn x) := by
  unfold AsyncVerif.test
  cases fn with
  | none => exact Tame.pure _
  | some f => exact Tame.bind (Tame.call f _) (fun _ => Tame.pure _)

theorem slen_setSrc (w : World) (s t : Nat) (x : Src) :
    slen t (w.setSrc s x) = if t = s then x.script.length else slen t w := by
  unfold slen World.setSrc
  by_cases h : t = s <;> simp [h]

@[simp] theorem slen_pushVis (w : World) (t : Nat) (ev : Ev) : slen t (w.pushVis ev) = slen t w := rfl
@[simp] theorem slen_pushRel (w : World) (t : Nat) (ev : Ev) : slen t (w.pushRel ev) = slen t w := rfl

/-- replacing a source by one whose script is no longer makes no script longer -/
theorem slen_setSrc_le {w : World} {s : Nat} {x : Src} (h : x.script.length ≤ slen s w) (t : Nat) :
    slen t (w.setSrc s x) ≤ slen t w := by
  rw [slen_setSrc]
  split
  · next ht => exact ht ▸ h
  · exact Nat.le_refl _

/-- `pull`: never `.outOfFuel`, no script grows, and an item costs the source one script entry -/
theorem pull_spec (s : Nat) (w : World) :
    (pull s w).1 ≠ .error .outOfFuel ∧ NoGrow w (pull s w).2 ∧
      ∀ v, (pull s w).1 = .ok (some v) → slen s (pull s w).2 + 1 = slen s w := by
  generalize hp : pull s w = p
  have hlen : slen s w = (w.srcs s).script.length := rfl
  unfold pull at hp
  by_cases hl : (w.srcs s).status.live = true
  · rw [if_pos hl] at hp
    split at hp
    · next v rest hs =>
      subst hp
      rw [hs] at hlen
      refine ⟨nofun, slen_setSrc_le (w := w.pushVis _) (by simp [hlen]), fun _ _ => ?_⟩
      simp [slen_setSrc, hlen]
    · next e rest hs =>
      subst hp
      rw [hs] at hlen
      exact ⟨nofun, slen_setSrc_le (w := w.pushVis _) (by simp [hlen]), nofun⟩
    · subst hp
      exact ⟨nofun, slen_setSrc_le (w := w.pushVis _) (Nat.le_refl _), nofun⟩
  · rw [if_neg hl] at hp
    split at hp <;> subst hp <;> exact ⟨nofun, fun _ => Nat.le_refl _, nofun⟩

theorem Tame.pull (s : Nat) : Tame (pull s) := fun w => ⟨(pull_spec s w).1, (pull_spec s w).2.1⟩

theorem closeSrc_ok (s : Nat) (w : World) : (closeSrc s w).1 = .ok () := (closeSrc_quiet s w).1

/-- `closeSrc` changes the status and the close count of its source, never a script -/
theorem closeSrc_slen (s t : Nat) (w : World) : slen t (closeSrc s w).2 = slen t w := by
  have keep : ∀ x : Src, x.script = (w.srcs s).script → slen t (w.setSrc s x) = slen t w := by
    intro x hx
    rw [slen_setSrc]
    split
    · next ht => rw [ht, hx]; rfl
    · rfl
  unfold closeSrc
  dsimp only
  split
  · exact keep _ rfl
  · rfl
  · split
    · exact keep _ rfl
    · exact keep _ rfl
    · rfl
  · split
    · exact keep _ rfl
    · rfl

theorem Tame.closeSrc (s : Nat) : Tame (closeSrc s) := fun w =>
  ⟨by simp [closeSrc_ok], fun t => Nat.le_of_eq (closeSrc_slen s t w)⟩

theorem Tame.closeAll : ∀ l : List Nat, Tame (closeAll l)
  | [] => Tame.pure ()
  | s :: rest => Tame.bind (Tame.closeSrc s) (fun _ => Tame.closeAll rest)

theorem Tame.tryFinally {α : Type} {body : M α} {fin : M Unit} (hb : Tame body) (hf : Tame fin) :
    Tame (tryFinally body fin) := by
  intro w
  rw [tryFinally_eq, if_neg (mt (isFuelOut_iff _).mp (hb w).1)]
  have h2 := hf (body w).2
  refine ⟨?_, NoGrow.trans (hb w).2 h2.2⟩
  cases hr : (fin (body w).2).1 with
  | ok u => exact (hb w).1
  | error e => exact fun h => h2.1 (hr.trans (congrArg _ (Except.error.inj h)))

theorem Tame.scopedIter {α : Type} (s : Nat) {body : M α} (hb : Tame body) : Tame (scopedIter s body) :=
  Tame.tryFinally hb (Tame.closeSrc s)

theorem Tame.tryCatchStop {α : Type} {body handler : M α} (hb : Tame body) (hh : Tame handler) :
    Tame (tryCatchStop body handler) := by
  intro w
  have h1 := hb w
  unfold AsyncVerif.tryCatchStop
  rcases hbw : body w with ⟨r, w1⟩
  rw [hbw] at h1
  cases r with
  | ok a => exact h1
  | error e =>
    cases e <;> first
      | exact h1
      | exact ⟨(hh w1).1, NoGrow.trans h1.2 (hh w1).2⟩

theorem Tame.anext (s : Nat) : Tame (anext s) := by
  unfold AsyncVerif.anext
  refine Tame.bind (Tame.pull s) (fun o => ?_)
  cases o with
  | none => exact Tame.raise _ (by simp)
  | some v => exact Tame.pure v

theorem Tame.keyOf (fn : Option Nat) (x : Val) : Tame (Std.keyOf fn x) := by
  unfold Std.keyOf
  cases fn with
  | none => exact Tame.pure _
  | some f => exact Tame.call f _

theorem Tame.accStep (fn : Option Nat) (t x : Val) : Tame (Std.accStep fn t x) := by
  unfold Std.accStep
  cases fn with
  | none => exact Tame.liftExc _ (Val.add_ne_oof _ _)
  | some f => exact Tame.call f _

theorem Std.sortKeyed_ne_oof (r : Bool) (l : List (Val × Val)) :
    Std.sortKeyed r l ≠ .error .outOfFuel := by
  unfold Std.sortKeyed; split <;> simp

theorem Tame.ite {α : Type} {c : Prop} [Decidable c] {a b : M α} (ha : Tame a) (hb : Tame b) :
    Tame (if c then a else b) := by
  split <;> assumption

/-- hand the item on and go on (or stop): the body of the pass-through loops -/
theorem Tame.yieldThen (x : Val) (b : Bool) : Tame (do AsyncVerif.yieldV x; Pure.pure b) :=
  Tame.seq (Tame.yieldV x) (Tame.pure b)

/-- from a world satisfying `P`, `m` does not report `.outOfFuel`, and a returned value `a`
    comes with a world satisfying `Q a` -/
def Triple {α : Type} (P : World → Prop) (m : M α) (Q : α → World → Prop) : Prop :=
  ∀ w, P w → (m w).1 ≠ .error .outOfFuel ∧ ∀ a, (m w).1 = .ok a → Q a (m w).2

/-- a world predicate that survives script shortening (and any other change of the world) -/
def Stable (P : World → Prop) : Prop := ∀ w w', NoGrow w w' → P w → P w'

theorem Stable.slen_lt (s n : Nat) : Stable (fun w => slen s w < n) :=
  fun _ _ hg h => Nat.lt_of_le_of_lt (hg s) h

theorem Stable.and {P Q : World → Prop} (hP : Stable P) (hQ : Stable Q) : Stable (fun w => P w ∧ Q w) :=
  fun w w' hg h => ⟨hP w w' hg h.1, hQ w w' hg h.2⟩

theorem Stable.true : Stable (fun _ => True) := fun _ _ _ _ => trivial

theorem Triple.fueled {α : Type} {P : World → Prop} {m : M α} {Q : α → World → Prop}
    (h : Triple P m Q) {w : World} (hw : P w) : (m w).1 ≠ .error .outOfFuel := (h w hw).1

theorem Triple.pure {α : Type} {P : World → Prop} {Q : α → World → Prop} (a : α)
    (h : ∀ w, P w → Q a w) : Triple P (pure a) Q := by
  intro w hw
  refine ⟨nofun, ?_⟩
  rintro b ⟨⟩
  exact h w hw

/-- a `pure` when nothing is claimed of the final world -/
theorem Triple.done {α : Type} {P : World → Prop} (a : α) : Triple P (Pure.pure a) (fun _ _ => True) :=
  Triple.pure a fun _ _ => trivial

theorem Triple.raise {α : Type} {P : World → Prop} {Q : α → World → Prop} (e : Exc)
    (h : e ≠ .outOfFuel) : Triple P (raise e : M α) Q :=
  fun _ _ => ⟨fun h' => h (Except.error.inj h'), nofun⟩

theorem Triple.pre {α : Type} {P P' : World → Prop} {m : M α} {Q : α → World → Prop}
    (ht : Triple P m Q) (h : ∀ w, P' w → P w) : Triple P' m Q := fun w hw => ht w (h w hw)

theorem Triple.post {α : Type} {P : World → Prop} {m : M α} {Q Q' : α → World → Prop}
    (ht : Triple P m Q) (h : ∀ a w, Q a w → Q' a w) : Triple P m Q' :=
  fun w hw => ⟨(ht w hw).1, fun a ha => h a _ ((ht w hw).2 a ha)⟩

theorem Triple.bind {α β : Type} {P : World → Prop} {m : M α} {Q : α → World → Prop}
    {f : α → M β} {R : β → World → Prop}
    (h1 : Triple P m Q) (h2 : ∀ a, Triple (Q a) (f a) R) : Triple P (m >>= f) R := by
  intro w hw
  have hm := h1 w hw
  simp only [bind_apply]
  rcases hmw : m w with ⟨r, w1⟩
  rw [hmw] at hm
  cases r with
  | ok a => exact h2 a w1 (hm.2 a rfl)
  | error e => exact ⟨by simpa using hm.1, by simp⟩

theorem Tame.triple {α : Type} {m : M α} (hm : Tame m) {P : World → Prop} (hP : Stable P) :
    Triple P m (fun _ => P) :=
  fun w hw => ⟨(hm w).1, fun _ _ => hP w _ (hm w).2 hw⟩

theorem Triple.bind_tame {α β : Type} {P : World → Prop} {m : M α} {f : α → M β}
    {R : β → World → Prop} (hm : Tame m) (hP : Stable P) (h2 : ∀ a, Triple P (f a) R) :
    Triple P (m >>= f) R := Triple.bind (hm.triple hP) h2

/-- the loop step: an item costs the source one script entry, so a bound on its script length
    can be lowered for the code that runs after a successful pull -/
theorem Triple.bind_pull {β : Type} (s : Nat) {P P' : World → Prop} {f : Option Val → M β}
    {R : β → World → Prop} (hP : Stable P)
    (hdec : ∀ w w', P w → NoGrow w w' → slen s w' < slen s w → P' w')
    (hnone : Triple P (f none) R) (hsome : ∀ x, Triple P' (f (some x)) R) :
    Triple P (pull s >>= f) R := by
  refine Triple.bind (Q := fun o w' => match o with | none => P w' | some _ => P' w') ?_ ?_
  · intro w hw
    obtain ⟨h1, h2, h3⟩ := pull_spec s w
    refine ⟨h1, ?_⟩
    intro o ho
    cases o with
    | none => exact hP w _ h2 hw
    | some v => exact hdec w _ hw h2 (by have := h3 v ho; omega)
  · intro o
    cases o with
    | none => exact hnone
    | some x => exact hsome x

/-- `try … finally` with cleanup that never reports `.outOfFuel` and preserves the postcondition -/
theorem Triple.tryFinally_gen {α : Type} {P : World → Prop} {body : M α} {fin : M Unit}
    {Q : α → World → Prop} (hb : Triple P body Q) (hf : Fueled fin)
    (hQ : ∀ a w, Q a w → Q a (fin w).2) :
    Triple P (tryFinally body fin) Q := by
  intro w hw
  obtain ⟨h1, h1'⟩ := hb w hw
  rw [tryFinally_eq, if_neg (mt (isFuelOut_iff _).mp h1)]
  have h2 := hf (body w).2
  cases hr : (fin (body w).2).1 with
  | ok u => exact ⟨h1, fun a ha => hQ a _ (h1' a ha)⟩
  | error e => exact ⟨fun h => h2 (hr.trans (congrArg _ (Except.error.inj h))), nofun⟩

theorem Triple.tryFinally {α : Type} {P : World → Prop} {body : M α} {fin : M Unit}
    {Q : α → World → Prop} (hb : Triple P body Q) (hf : Tame fin) (hQ : ∀ a, Stable (Q a)) :
    Triple P (tryFinally body fin) Q :=
  Triple.tryFinally_gen hb hf.fueled (fun a w h => hQ a w _ (hf w).2 h)

theorem Triple.scopedIter {α : Type} (s : Nat) {P : World → Prop} {body : M α}
    {Q : α → World → Prop} (hb : Triple P body Q) (hQ : ∀ a, Stable (Q a)) :
    Triple P (scopedIter s body) Q := Triple.tryFinally hb (Tame.closeSrc s) hQ

/-- the form used for the top-level wrappers: no postcondition -/
theorem Triple.scopedIter' {α : Type} (s : Nat) {P : World → Prop} {body : M α}
    {Q : α → World → Prop} (hb : Triple P body Q) :
    Triple P (AsyncVerif.scopedIter s body) (fun _ _ => True) :=
  Triple.scopedIter s (hb.post (fun _ _ _ => trivial)) (fun _ => Stable.true)

/-- `forEach` is adequately fuelled when `fuel` exceeds the script length of `s`, provided the body
    keeps that bound (whatever it is) and the side condition `P` -/
theorem forEach_inv (s : Nat) (body : Val → M Bool) (P : World → Prop) (hP : Stable P)
    (hb : ∀ x n, Triple (fun w => slen s w < n ∧ P w) (body x) (fun _ w => slen s w < n ∧ P w)) :
    ∀ fuel, Triple (fun w => slen s w < fuel ∧ P w) (forEach s body fuel) (fun _ w => P w) := by
  intro fuel
  induction fuel with
  | zero => intro w hw; exact absurd hw.1 (Nat.not_lt_zero _)
  | succ n ih =>
    unfold forEach
    refine Triple.bind_pull s (P' := fun w => slen s w < n ∧ P w)
      ((Stable.slen_lt s (n+1)).and hP) ?_ ?_ ?_
    · intro w w' hw hg hlt
      exact ⟨by have := hw.1; omega, hP w w' hg hw.2⟩
    · exact Triple.pure _ (fun w hw => hw.2)
    · intro x
      refine Triple.bind (hb x n) fun b => ?_
      cases b with
      | true => exact ih
      | false => exact Triple.pure _ (fun w hw => hw.2)

/-- a tame body; any stable side condition `P` is preserved -/
theorem forEach_triple (s : Nat) (body : Val → M Bool) (hb : ∀ x, Tame (body x))
    (P : World → Prop) (hP : Stable P) :
    ∀ fuel, Triple (fun w => slen s w < fuel ∧ P w) (forEach s body fuel) (fun _ w => P w) :=
  forEach_inv s body P hP fun x n => (hb x).triple ((Stable.slen_lt s n).and hP)

/-- a body built from the tame primitives (`yieldV`, `call`, `test`, `liftExc`, `pure`, and binds of
    such — see the `Tame.*` lemmas): `fuel > script length` is enough (and `fuel = script length` is not:
    the last pull, which finds the source exhausted, needs one unit). -/
theorem forEach_fuel_adequate_of_tame (s : Nat) (body : Val → M Bool) (hb : ∀ x, Tame (body x)) :
    ∀ fuel w, slen s w < fuel → (forEach s body fuel w).1 ≠ .error .outOfFuel :=
  fun fuel _ hw => (forEach_triple s body hb (fun _ => True) Stable.true fuel).fueled ⟨hw, trivial⟩

/-- the constant is tight: with `fuel = script length` an all-items source with an accepting
    consumer runs out of fuel (here: one item, fuel 1) -/
example : (forEach 0 (fun _ => pure true) 1
    { srcs := fun _ => { kind := .agen, script := [.item .none] }, fns := fun _ _ _ => .ok .none,
      calls := fun _ => 0, cons := .run 0 .exhaust, vis := [], rel := [] }).1 = .error .outOfFuel := rfl

/-- the fuel that is always enough for a tool reading one source: one unit per scripted reply,
    plus one for the pull that finds the source finished -/
def fuelBound1 (s : Nat) (w : World) : Nat := (w.srcs s).script.length + 1

theorem fuelBound1_lt {s fuel : Nat} {w : World} (h : fuel ≥ fuelBound1 s w) : slen s w < fuel := h

/-- loop step for the plain invariant `slen s w < fuel` -/
theorem Triple.bind_pull_lt {β : Type} (s n : Nat) {f : Option Val → M β} {R : β → World → Prop}
    (hnone : Triple (fun w => slen s w < n + 1) (f none) R)
    (hsome : ∀ x, Triple (fun w => slen s w < n) (f (some x)) R) :
    Triple (fun w => slen s w < n + 1) (pull s >>= f) R :=
  Triple.bind_pull s (Stable.slen_lt s (n+1)) (fun w w' hw hg hlt => by
    have hw' : slen s w < n + 1 := hw; show slen s w' < n; omega) hnone hsome

/-- one tame step under the invariant `slen s w < n` -/
theorem Triple.step {α β : Type} {s n : Nat} {m : M α} {f : α → M β} {R : β → World → Prop}
    (hm : Tame m) (h : ∀ a, Triple (fun w => slen s w < n) (f a) R) :
    Triple (fun w => slen s w < n) (m >>= f) R := Triple.bind_tame hm (Stable.slen_lt s n) h

theorem Triple.zero_fuel {α : Type} (s : Nat) (m : M α) (Q : α → World → Prop) :
    Triple (fun w => slen s w < 0) m Q := fun _ hw => absurd hw (Nat.not_lt_zero _)

theorem Triple.of_tame {α : Type} {P : World → Prop} {m : M α} (h : Tame m) :
    Triple P m (fun _ _ => True) := fun w _ => ⟨(h w).1, fun _ _ => trivial⟩

theorem Triple.ite {α : Type} {P : World → Prop} {c : Prop} [Decidable c] {a b : M α}
    {Q : α → World → Prop} (ha : Triple P a Q) (hb : Triple P b Q) :
    Triple P (if c then a else b) Q := by
  split <;> assumption

/-- a world-independent fact in the precondition can be used as a hypothesis -/
theorem Triple.pure_pre {α : Type} {C : Prop} {P : World → Prop} {m : M α} {Q : α → World → Prop}
    (h : C → Triple P m Q) : Triple (fun w => C ∧ P w) m Q := fun w hw => h hw.1 w hw.2

/-- `forEach` with a tame body and no side condition -/
theorem forEach_plain (s : Nat) (body : Val → M Bool) (hb : ∀ x, Tame (body x)) (fuel : Nat) :
    Triple (fun w => slen s w < fuel) (forEach s body fuel) (fun _ _ => True) :=
  (forEach_triple s body hb (fun _ => True) Stable.true fuel).pre fun _ hw => ⟨hw, trivial⟩

theorem filterLoop_triple (fn : Option Nat) (neg : Bool) (s fuel : Nat) :
    Triple (fun w => slen s w < fuel) (Std.filterLoop fn neg s fuel) (fun _ _ => True) := by
  unfold Std.filterLoop
  refine forEach_plain s _ (fun x => Tame.bind (Tame.test fn x) fun _ => ?_) fuel
  exact Tame.ite (Tame.yieldThen x true) (Tame.pure true)

theorem takewhileLoop_triple (f s fuel : Nat) :
    Triple (fun w => slen s w < fuel) (Std.takewhileLoop f s fuel) (fun _ _ => True) := by
  unfold Std.takewhileLoop
  exact forEach_plain s _ (fun x => Tame.bind (Tame.call f _) fun _ =>
    Tame.ite (Tame.yieldThen x true) (Tame.pure _)) fuel

theorem starmapLoop_triple (f s fuel : Nat) :
    Triple (fun w => slen s w < fuel) (Std.starmapLoop f s fuel) (fun _ _ => True) := by
  unfold Std.starmapLoop
  exact forEach_plain s _ (fun x => Tame.bind (Tame.liftExc _ (Val.asArgs_ne_oof x)) fun _ =>
    Tame.bind (Tame.call f _) fun r => Tame.yieldThen r true) fuel

theorem enumerateLoop_triple (s : Nat) : ∀ fuel (c : Int),
    Triple (fun w => slen s w < fuel) (Std.enumerateLoop s c fuel) (fun _ _ => True) := by
  intro fuel
  induction fuel with
  | zero => intro c; exact Triple.zero_fuel s _ _
  | succ n ih =>
    intro c
    unfold Std.enumerateLoop
    refine Triple.bind_pull_lt s n (Triple.done _) fun x => ?_
    exact Triple.step (Tame.yieldV _) fun _ => ih _

theorem accLoop_triple (fn : Option Nat) (s : Nat) : ∀ fuel (t : Val),
    Triple (fun w => slen s w < fuel) (Std.accLoop fn s t fuel) (fun _ _ => True) := by
  intro fuel
  induction fuel with
  | zero => intro t; exact Triple.zero_fuel s _ _
  | succ n ih =>
    intro t
    unfold Std.accLoop
    refine Triple.bind_pull_lt s n (Triple.done _) fun x => ?_
    exact Triple.step (Tame.accStep fn t x) fun t' => Triple.step (Tame.yieldV t') fun _ => ih _

theorem accumulate_triple (fn : Option Nat) (initial : Option Val) (s fuel : Nat) :
    Triple (fun w => slen s w < fuel) (Std.accumulate fn initial s fuel) (fun _ _ => True) := by
  have rest : ∀ first, Triple (fun w => slen s w < fuel)
      (do yieldV first; Std.accLoop fn s first fuel) (fun _ _ => True) :=
    fun first => Triple.step (Tame.yieldV first) fun _ => accLoop_triple fn s fuel first
  unfold Std.accumulate
  cases initial with
  | some v => exact Triple.step (Tame.pure v) rest
  | none => exact Triple.step (Tame.tryCatchStop (Tame.anext s) (Tame.raise _ (by decide))) rest

theorem pairwiseLoop_triple (s : Nat) : ∀ fuel (old : Val),
    Triple (fun w => slen s w < fuel) (Std.pairwiseLoop s old fuel) (fun _ _ => True) := by
  intro fuel
  induction fuel with
  | zero => intro t; exact Triple.zero_fuel s _ _
  | succ n ih =>
    intro t
    unfold Std.pairwiseLoop
    refine Triple.bind_pull_lt s n (Triple.done _) fun x => ?_
    exact Triple.step (Tame.yieldV _) fun _ => ih _

theorem pairwise_triple (s fuel : Nat) :
    Triple (fun w => slen s w < fuel) (Std.pairwise s fuel) (fun _ _ => True) := by
  refine Triple.step (Tame.pull s) fun o => ?_
  cases o with
  | none => exact Triple.done _
  | some old => exact pairwiseLoop_triple s fuel old

theorem Tame.collect (s : Nat) : ∀ k acc, Tame (Std.collect s k acc) := by
  intro k
  induction k with
  | zero => intro acc; exact Tame.pure _
  | succ k ih =>
    intro acc
    refine Tame.bind (Tame.pull s) (fun o => ?_)
    cases o with
    | none => exact Tame.pure _
    | some x => exact ih _

/-- a full batch of `k ≥ 1` items costs the source at least one script entry -/
theorem collect_triple (s n : Nat) : ∀ k acc,
    Triple (fun w => slen s w < n + 1) (Std.collect s k acc)
      (fun r w => if r.2 = true ∧ 1 ≤ k then slen s w < n else True) := by
  intro k
  cases k with
  | zero => intro acc; exact Triple.pure _ (fun w _ => by simp)
  | succ k =>
    intro acc
    refine Triple.bind_pull_lt s n (Triple.pure _ (fun w _ => by simp)) fun x => ?_
    refine ((Tame.collect s k _).triple (Stable.slen_lt s n)).post ?_
    intro r w hw
    split
    · exact hw
    · trivial

theorem batchedLoop_triple (k : Nat) (hk : 1 ≤ k) (strict : Bool) (s : Nat) : ∀ fuel,
    Triple (fun w => slen s w < fuel) (Std.batchedLoop k strict s fuel) (fun _ _ => True) := by
  intro fuel
  induction fuel with
  | zero => exact Triple.zero_fuel s _ _
  | succ n ih =>
    unfold Std.batchedLoop
    refine Triple.bind (collect_triple s n k []) ?_
    rintro ⟨batch, full⟩
    cases full with
    | true =>
      refine Triple.pre (P := fun w => slen s w < n) ?_ (fun w hw => by simpa [hk] using hw)
      exact Triple.step (Tame.yieldV _) fun _ => ih
    | false =>
      dsimp only
      rw [if_neg Bool.false_ne_true]
      exact Triple.of_tame (Tame.ite (Tame.pure _) (Tame.ite (Tame.raise _ (by decide)) (Tame.yieldV _)))

/-- `dropPhase` hands the remaining fuel on; it is still adequate for the second loop -/
theorem dropPhase_triple (f s : Nat) : ∀ fuel,
    Triple (fun w => slen s w < fuel) (Impl.dropPhase f s fuel)
      (fun o w => match o with | some r => slen s w < r | none => True) := by
  intro fuel
  induction fuel with
  | zero => exact Triple.zero_fuel s _ _
  | succ n ih =>
    unfold Impl.dropPhase
    refine Triple.bind_pull_lt s n (Triple.pure _ (fun _ _ => trivial)) fun x => ?_
    refine Triple.step (Tame.call f _) fun r => ?_
    refine Triple.ite ih ?_
    exact Triple.step (Tame.yieldV x) fun _ => Triple.pure _ (fun w hw => hw)

theorem idxLoop_triple (s step : Nat) (lim : Option Nat) : ∀ fuel idx,
    Triple (fun w => slen s w < fuel) (Impl.idxLoop s step lim idx fuel) (fun _ _ => True) := by
  intro fuel
  induction fuel with
  | zero => intro idx; exact Triple.zero_fuel s _ _
  | succ n ih =>
    intro idx
    unfold Impl.idxLoop
    refine Triple.bind_pull_lt s n (Triple.done _) fun x => ?_
    refine Triple.ite (Triple.step (Tame.yieldV x) fun _ => ?_) ?_ <;>
      exact Triple.ite (Triple.done _) (ih _)

theorem Tame.skipTo (s : Nat) : ∀ k cnt, Tame (Std.skipTo s k cnt) := by
  intro k
  induction k with
  | zero => intro cnt; exact Tame.pure _
  | succ k ih =>
    intro cnt
    refine Tame.bind (Tame.pull s) (fun o => ?_)
    cases o with
    | none => exact Tame.pure _
    | some x => exact ih _

theorem allLoop_triple (s : Nat) : ∀ fuel,
    Triple (fun w => slen s w < fuel) (Std.allLoop s fuel) (fun _ _ => True) := by
  intro fuel
  induction fuel with
  | zero => exact Triple.zero_fuel s _ _
  | succ n ih =>
    unfold Std.allLoop
    exact Triple.bind_pull_lt s n (Triple.done _) fun x => Triple.ite ih (Triple.done _)

theorem anyLoop_triple (s : Nat) : ∀ fuel,
    Triple (fun w => slen s w < fuel) (Std.anyLoop s fuel) (fun _ _ => True) := by
  intro fuel
  induction fuel with
  | zero => exact Triple.zero_fuel s _ _
  | succ n ih =>
    unfold Std.anyLoop
    exact Triple.bind_pull_lt s n (Triple.done _) fun x => Triple.ite (Triple.done _) ih

theorem sumLoop_triple (s : Nat) : ∀ fuel (t : Val),
    Triple (fun w => slen s w < fuel) (Std.sumLoop s t fuel) (fun _ _ => True) := by
  intro fuel
  induction fuel with
  | zero => intro t; exact Triple.zero_fuel s _ _
  | succ n ih =>
    intro t
    unfold Std.sumLoop
    refine Triple.bind_pull_lt s n (Triple.done _) fun x => ?_
    exact Triple.step (Tame.liftExc _ (Val.add_ne_oof t x)) fun _ => ih _

theorem mmLoop_triple (fn : Option Nat) (isMax : Bool) (s : Nat) : ∀ fuel (best bk : Val),
    Triple (fun w => slen s w < fuel) (Std.mmLoop fn isMax s best bk fuel) (fun _ _ => True) := by
  intro fuel
  induction fuel with
  | zero => intro b k; exact Triple.zero_fuel s _ _
  | succ n ih =>
    intro b k
    unfold Std.mmLoop
    refine Triple.bind_pull_lt s n (Triple.done _) fun x => ?_
    refine Triple.step (Tame.keyOf fn x) fun k' => Triple.step (Tame.liftExc _ ?_) fun _ =>
      Triple.ite (ih _ _) (ih _ _)
    split <;> exact Val.lt_ne_oof _ _

theorem minmax_triple (fn : Option Nat) (isMax : Bool) (d : Option Val) (s fuel : Nat) :
    Triple (fun w => slen s w < fuel) (Std.minmax fn isMax d s fuel) (fun _ _ => True) := by
  refine Triple.step (Tame.pull s) fun o => ?_
  cases o with
  | none =>
    cases d with
    | some v => exact Triple.done v
    | none => exact Triple.raise _ (by decide)
  | some x => exact Triple.step (Tame.keyOf fn x) fun _ => mmLoop_triple fn isMax s fuel _ _

theorem reduceLoop_triple (f s : Nat) : ∀ fuel (acc : Val),
    Triple (fun w => slen s w < fuel) (Std.reduceLoop f s acc fuel) (fun _ _ => True) := by
  intro fuel
  induction fuel with
  | zero => intro t; exact Triple.zero_fuel s _ _
  | succ n ih =>
    intro t
    unfold Std.reduceLoop
    refine Triple.bind_pull_lt s n (Triple.done _) fun x => ?_
    exact Triple.step (Tame.call f _) fun _ => ih _

theorem reduce_triple (f : Nat) (ini : Option Val) (s fuel : Nat) :
    Triple (fun w => slen s w < fuel) (Std.reduce f ini s fuel) (fun _ _ => True) := by
  unfold Std.reduce
  cases ini with
  | some v => exact Triple.step (Tame.pure v) (reduceLoop_triple f s fuel)
  | none =>
    exact Triple.step (Tame.tryCatchStop (Tame.anext s) (Tame.raise _ (by decide))) (reduceLoop_triple f s fuel)

theorem collectAll_triple (s : Nat) : ∀ fuel (acc : List Val),
    Triple (fun w => slen s w < fuel) (Std.collectAll s acc fuel) (fun _ _ => True) := by
  intro fuel
  induction fuel with
  | zero => intro t; exact Triple.zero_fuel s _ _
  | succ n ih =>
    intro t
    unfold Std.collectAll
    exact Triple.bind_pull_lt s n (Triple.done _) fun x => ih _

theorem collectKeyed_triple (fn : Option Nat) (s : Nat) : ∀ fuel (acc : List (Val × Val)),
    Triple (fun w => slen s w < fuel) (Std.collectKeyed fn s acc fuel) (fun _ _ => True) := by
  intro fuel
  induction fuel with
  | zero => intro t; exact Triple.zero_fuel s _ _
  | succ n ih =>
    intro t
    unfold Std.collectKeyed
    refine Triple.bind_pull_lt s n (Triple.done _) fun x => ?_
    exact Triple.step (Tame.keyOf fn x) fun _ => ih _

/-! ## Single-source tools: `fuel ≥ fuelBound1 s w` is always enough -/

theorem scoped_adequate {α : Type} {s fuel : Nat} {w : World} {body : M α} {Q : α → World → Prop}
    (ht : Triple (fun w => slen s w < fuel) body Q) (h : fuel ≥ fuelBound1 s w) :
    (scopedIter s body w).1 ≠ .error .outOfFuel :=
  (Triple.scopedIter' s ht).fueled (fuelBound1_lt h)

theorem filter_fuel_adequate (fn : Option Nat) (s : Nat) (w : World) :
    ∀ fuel, fuel ≥ fuelBound1 s w → (Impl.filter fn s fuel w).1 ≠ .error .outOfFuel :=
  fun fuel h => scoped_adequate (filterLoop_triple fn false s fuel) h

theorem filterfalse_fuel_adequate (fn : Option Nat) (s : Nat) (w : World) :
    ∀ fuel, fuel ≥ fuelBound1 s w → (Impl.filterfalse fn s fuel w).1 ≠ .error .outOfFuel :=
  fun fuel h => scoped_adequate (filterLoop_triple fn true s fuel) h

theorem enumerate_fuel_adequate (s : Nat) (start : Int) (w : World) :
    ∀ fuel, fuel ≥ fuelBound1 s w → (Impl.enumerate s start fuel w).1 ≠ .error .outOfFuel :=
  fun fuel h => scoped_adequate (enumerateLoop_triple s fuel start) h

theorem takewhile_fuel_adequate (f s : Nat) (w : World) :
    ∀ fuel, fuel ≥ fuelBound1 s w → (Impl.takewhile f s fuel w).1 ≠ .error .outOfFuel :=
  fun fuel h => scoped_adequate (takewhileLoop_triple f s fuel) h

theorem starmap_fuel_adequate (f s : Nat) (w : World) :
    ∀ fuel, fuel ≥ fuelBound1 s w → (Impl.starmap f s fuel w).1 ≠ .error .outOfFuel :=
  fun fuel h => scoped_adequate (starmapLoop_triple f s fuel) h

theorem accumulate_fuel_adequate (fn : Option Nat) (initial : Option Val) (s : Nat) (w : World) :
    ∀ fuel, fuel ≥ fuelBound1 s w →
      (Impl.accumulate fn initial s fuel w).1 ≠ .error .outOfFuel :=
  fun fuel h => scoped_adequate (accumulate_triple fn initial s fuel) h

theorem pairwise_fuel_adequate (s : Nat) (w : World) :
    ∀ fuel, fuel ≥ fuelBound1 s w → (Impl.pairwise s fuel w).1 ≠ .error .outOfFuel :=
  fun fuel h => scoped_adequate (pairwise_triple s fuel) h

/-- also for invalid `n < 1`: the `ValueError` is raised before any loop starts -/
theorem batched_fuel_adequate (n : Nat) (strict : Bool) (s : Nat) (w : World) :
    ∀ fuel, fuel ≥ fuelBound1 s w → (Impl.batched n strict s fuel w).1 ≠ .error .outOfFuel := by
  intro fuel h
  unfold Impl.batched
  split
  · exact nofun
  · exact scoped_adequate (batchedLoop_triple n (by omega) strict s fuel) h

theorem dropwhile_fuel_adequate (f s : Nat) (w : World) :
    ∀ fuel, fuel ≥ fuelBound1 s w → (Impl.dropwhile f s fuel w).1 ≠ .error .outOfFuel := by
  intro fuel h
  refine scoped_adequate (Q := fun _ _ => True) (Triple.bind (dropPhase_triple f s fuel) fun o => ?_) h
  cases o with
  | none => exact Triple.done _
  | some r => exact forEach_plain s _ (fun x => Tame.yieldThen x true) r

theorem islice_fuel_adequate (s start : Nat) (stop : Option Nat) (step : Nat) (w : World) :
    ∀ fuel, fuel ≥ fuelBound1 s w →
      (Impl.islice s start stop step fuel w).1 ≠ .error .outOfFuel := by
  intro fuel h
  unfold Impl.islice
  refine scoped_adequate (Q := fun _ _ => True) ?_ h
  have hjp : ∀ ok : Bool, Triple (fun w => slen s w < fuel)
      (if (!ok) = true then pure ()
       else match stop with
        | none => Impl.idxLoop s step none 0 fuel
        | some st => if st ≤ start then pure () else Impl.idxLoop s step (some (st - start - 1)) 0 fuel)
      (fun _ _ => True) := by
    intro ok
    refine Triple.ite (Triple.done _) ?_
    cases stop with
    | none => exact idxLoop_triple s step none fuel 0
    | some st => exact Triple.ite (Triple.done _) (idxLoop_triple s step _ fuel 0)
  exact Triple.ite (Triple.step (Tame.bind (Tame.skipTo s _ _) fun _ => Tame.pure _) hjp)
    (Triple.step (Tame.pure _) hjp)

theorem all_fuel_adequate (s : Nat) (w : World) :
    ∀ fuel, fuel ≥ fuelBound1 s w → (Impl.all s fuel w).1 ≠ .error .outOfFuel :=
  fun fuel h => scoped_adequate (allLoop_triple s fuel) h

theorem any_fuel_adequate (s : Nat) (w : World) :
    ∀ fuel, fuel ≥ fuelBound1 s w → (Impl.any s fuel w).1 ≠ .error .outOfFuel :=
  fun fuel h => scoped_adequate (anyLoop_triple s fuel) h

theorem sum_fuel_adequate (start : Option Val) (s : Nat) (w : World) :
    ∀ fuel, fuel ≥ fuelBound1 s w → (Impl.sum start s fuel w).1 ≠ .error .outOfFuel :=
  fun fuel h => scoped_adequate (sumLoop_triple s fuel _) h

theorem minmax_fuel_adequate (fn : Option Nat) (isMax : Bool) (d : Option Val) (s : Nat) (w : World) :
    ∀ fuel, fuel ≥ fuelBound1 s w → (Impl.minmax fn isMax d s fuel w).1 ≠ .error .outOfFuel :=
  fun fuel h => scoped_adequate (minmax_triple fn isMax d s fuel) h

theorem reduce_fuel_adequate (f : Nat) (ini : Option Val) (s : Nat) (w : World) :
    ∀ fuel, fuel ≥ fuelBound1 s w → (Impl.reduce f ini s fuel w).1 ≠ .error .outOfFuel :=
  fun fuel h => scoped_adequate (reduce_triple f ini s fuel) h

theorem list_fuel_adequate (s : Nat) (w : World) :
    ∀ fuel, fuel ≥ fuelBound1 s w → (Impl.list s fuel w).1 ≠ .error .outOfFuel :=
  fun fuel h => scoped_adequate (Q := fun _ _ => True)
    (Triple.bind (collectAll_triple s fuel []) fun _ => Triple.done _) h

theorem tuple_fuel_adequate (s : Nat) (w : World) :
    ∀ fuel, fuel ≥ fuelBound1 s w → (Impl.tuple s fuel w).1 ≠ .error .outOfFuel :=
  fun fuel h => scoped_adequate (Q := fun _ _ => True)
    (Triple.bind (collectAll_triple s fuel []) fun _ => Triple.done _) h

theorem sorted_fuel_adequate (fn : Option Nat) (reverse : Bool) (s : Nat) (w : World) :
    ∀ fuel, fuel ≥ fuelBound1 s w → (Impl.sorted fn reverse s fuel w).1 ≠ .error .outOfFuel := by
  intro fuel h
  refine Triple.fueled (P := fun w => slen s w < fuel) (Q := fun _ _ => True) ?_ (fuelBound1_lt h)
  refine Triple.bind (Triple.scopedIter' s (collectKeyed_triple fn s fuel [])) fun keyed => ?_
  exact Triple.of_tame (Tame.bind (Tame.liftExc _ (Std.sortKeyed_ne_oof _ _)) fun _ => Tame.pure _)

theorem Tame.nbFirst (fn : Option Nat) (s : Nat) : ∀ k acc, Tame (Std.nbFirst fn s k acc) := by
  intro k
  induction k with
  | zero => intro acc; exact Tame.pure _
  | succ k ih =>
    intro acc
    refine Tame.bind (Tame.pull s) (fun o => ?_)
    cases o with
    | none => exact Tame.pure _
    | some x => exact Tame.bind (Tame.keyOf fn x) (fun _ => ih _)

theorem nbScan_triple (c : Sel.Cfg) (fn : Option Nat) (s : Nat) : ∀ fuel (st : List Sel.VE × Int),
    Triple (fun w => slen s w < fuel) (Std.nbScan c fn s st fuel) (fun _ _ => True) := by
  intro fuel
  induction fuel with
  | zero => intro t; exact Triple.zero_fuel s _ _
  | succ n ih =>
    intro t
    unfold Std.nbScan
    refine Triple.bind_pull_lt s n (Triple.done _) fun x => ?_
    exact Triple.step (Tame.keyOf fn x) fun _ =>
      Triple.step (Tame.liftExc _ (Sel.acceptV_ne_oof _ _ _ _)) fun _ => ih _

theorem nBestAlgo_triple (c : Sel.Cfg) (n : Nat) (fn : Option Nat) (s fuel : Nat) :
    Triple (fun w => slen s w < fuel) (Std.nBestAlgo c n fn s fuel) (fun _ _ => True) :=
  Triple.step (Tame.nbFirst fn s n []) fun _ => Triple.ite (Triple.done _)
    (Triple.step (Tame.liftExc _ (Sel.heapifyV_ne_oof _ _)) fun _ =>
      Triple.bind (nbScan_triple c fn s fuel _) fun _ => Triple.done _)

theorem nBest_fuel_adequate (largest : Bool) (n : Nat) (fn : Option Nat) (s : Nat) (w : World) :
    ∀ fuel, fuel ≥ fuelBound1 s w → (Impl.nBest largest n fn s fuel w).1 ≠ .error .outOfFuel :=
  fun fuel h => scoped_adequate (nBestAlgo_triple _ n fn s fuel) h

/-! ## Several sources: the measure is the sum of the script lengths -/

/-- total remaining script length over a list of sources -/
def sumLen : List Nat → World → Nat
  | [], _ => 0
  | s :: rest, w => slen s w + sumLen rest w

/-- the fuel that is always enough for a tool reading the sources `srcs` -/
def fuelBoundN (srcs : List Nat) (w : World) : Nat := sumLen srcs w + 1

theorem sumLen_mono {w w' : World} (hg : NoGrow w w') : ∀ l, sumLen l w' ≤ sumLen l w
  | [] => Nat.le_refl _
  | s :: rest => Nat.add_le_add (hg s) (sumLen_mono hg rest)

theorem sumLen_dec {w w' : World} (hg : NoGrow w w') {s : Nat} (hlt : slen s w' < slen s w) :
    ∀ l, s ∈ l → sumLen l w' < sumLen l w
  | [], h => by simp at h
  | t :: rest, h => by
    rcases List.mem_cons.mp h with h | h
    · subst h
      exact Nat.add_lt_add_of_lt_of_le hlt (sumLen_mono hg rest)
    · exact Nat.add_lt_add_of_le_of_lt (hg t) (sumLen_dec hg hlt rest h)

theorem slen_le_sumLen (w : World) {s : Nat} : ∀ l, s ∈ l → slen s w ≤ sumLen l w
  | [], h => by simp at h
  | t :: rest, h => by
    rcases List.mem_cons.mp h with h | h
    · subst h; exact Nat.le_add_right _ _
    · exact Nat.le_trans (slen_le_sumLen w rest h) (Nat.le_add_left _ _)

theorem Stable.sumLen_lt (l : List Nat) (n : Nat) : Stable (fun w => sumLen l w < n) :=
  fun _ _ hg h => Nat.lt_of_le_of_lt (sumLen_mono hg l) h

theorem Stable.sumLen_add_le (l : List Nat) (k B : Nat) : Stable (fun w => sumLen l w + k ≤ B) :=
  fun _ _ hg h => Nat.le_trans (Nat.add_le_add_right (sumLen_mono hg l) k) h

theorem Stable.sumLen_add_lt (l : List Nat) (k B : Nat) : Stable (fun w => sumLen l w + k < B) :=
  fun _ _ hg h => Nat.lt_of_le_of_lt (Nat.add_le_add_right (sumLen_mono hg l) k) h

theorem fuelBoundN_lt {srcs : List Nat} {fuel : Nat} {w : World} (h : fuel ≥ fuelBoundN srcs w) :
    sumLen srcs w < fuel := by
  unfold fuelBoundN at h; omega

theorem Triple.tryFinally' {α : Type} {P : World → Prop} {body : M α} {fin : M Unit}
    {Q : α → World → Prop} (hb : Triple P body Q) (hf : Tame fin) :
    Triple P (AsyncVerif.tryFinally body fin) (fun _ _ => True) :=
  Triple.tryFinally (hb.post (fun _ _ _ => trivial)) hf (fun _ => Stable.true)

/-! ### `zip`, `map`, `compress`: the first source is pulled in every row -/

theorem Tame.zipRow : ∀ (l : List Nat) (acc : List Val), Tame (Std.zipRow l acc)
  | [], acc => by unfold Std.zipRow; exact Tame.pure _
  | s :: rest, acc => by
    unfold Std.zipRow
    refine Tame.bind (Tame.pull s) (fun o => ?_)
    cases o with
    | none => exact Tame.pure _
    | some x => exact Tame.zipRow rest _

theorem zipRow_triple (s : Nat) (rest : List Nat) (acc : List Val) (n : Nat) :
    Triple (fun w => slen s w < n + 1) (Std.zipRow (s :: rest) acc)
      (fun o w => match o with | none => True | some _ => slen s w < n) := by
  unfold Std.zipRow
  refine Triple.bind_pull_lt s n ?_ ?_
  · exact Triple.pure _ (fun _ _ => trivial)
  · intro x
    refine ((Tame.zipRow rest _).triple (Stable.slen_lt s n)).post ?_
    intro o w hw
    cases o <;> first | trivial | exact hw

/-- `zipLoop` over a non-empty list of sources with a tame row handler -/
theorem zipLoop_triple (s : Nat) (rest : List Nat) (k : List Val → M Unit) (hk : ∀ row, Tame (k row)) :
    ∀ fuel, Triple (fun w => slen s w < fuel) (Std.zipLoop (s :: rest) k fuel) (fun _ _ => True) := by
  intro fuel
  induction fuel with
  | zero => exact Triple.zero_fuel s _ _
  | succ n ih =>
    unfold Std.zipLoop
    refine Triple.bind (zipRow_triple s rest [] n) ?_
    intro o
    cases o with
    | none => exact Triple.done _
    | some row => exact Triple.step (hk row) fun _ => ih

theorem compress_fuel_adequate (d sel : Nat) (w : World) :
    ∀ fuel, fuel ≥ fuelBound1 d w → (Impl.compress d sel fuel w).1 ≠ .error .outOfFuel := by
  intro fuel h
  unfold Impl.compress
  refine scoped_adequate (Q := fun _ _ => True) ?_ h
  refine Triple.scopedIter' sel (Triple.tryFinally' (zipLoop_triple d [sel] _ ?_ fuel) (Tame.closeAll _))
  intro row
  split
  · exact Tame.ite (Tame.yieldV _) (Tame.pure _)
  · exact Tame.pure _

theorem head_lt_of_bound {s : Nat} {rest : List Nat} {fuel : Nat} {w : World}
    (h : fuel ≥ fuelBoundN (s :: rest) w) : slen s w < fuel := by
  have := fuelBoundN_lt h
  have := slen_le_sumLen w (s :: rest) (List.mem_cons_self)
  omega

/-- the `zip` family: every row pulls the first source, so the script of the first source alone bounds
    the number of rows, whatever the other sources hold -/
theorem zipFamily_adequate (srcs : List Nat) (body : M Unit) (fuel : Nat) (w : World)
    (hb : ∀ s rest, srcs = s :: rest → Triple (fun w => slen s w < fuel) body (fun _ _ => True))
    (h : ∀ s rest, srcs = s :: rest → slen s w < fuel) :
    ((if srcs.isEmpty then pure () else tryFinally body (closeAll srcs)) w).1 ≠ .error .outOfFuel := by
  cases srcs with
  | nil => exact nofun
  | cons s rest => exact (Triple.tryFinally' (hb s rest rfl) (Tame.closeAll _)).fueled (h s rest rfl)

theorem zip_fuel_adequate (srcs : List Nat) (w : World) :
    ∀ fuel, fuel ≥ fuelBoundN srcs w → (Impl.zip srcs fuel w).1 ≠ .error .outOfFuel :=
  fun fuel h => zipFamily_adequate srcs _ fuel w
    (fun s rest e => e ▸ zipLoop_triple s rest _ (fun _ => Tame.yieldV _) fuel) (fun _ _ e => head_lt_of_bound (e ▸ h))

theorem map_fuel_adequate (f : Nat) (srcs : List Nat) (w : World) :
    ∀ fuel, fuel ≥ fuelBoundN srcs w → (Impl.map f srcs fuel w).1 ≠ .error .outOfFuel :=
  fun fuel h => zipFamily_adequate srcs _ fuel w
    (fun s rest e => e ▸ zipLoop_triple s rest _ (fun row => Tame.bind (Tame.call f row) fun r => Tame.yieldV r) fuel)
    (fun _ _ e => head_lt_of_bound (e ▸ h))

theorem Tame.zipRowStrict : ∀ (l : List Nat) (i : Nat) (acc : List Val), Tame (Std.zipRowStrict l i acc)
  | [], i, acc => by unfold Std.zipRowStrict; exact Tame.pure _
  | s :: rest, i, acc => by
    unfold Std.zipRowStrict
    refine Tame.bind (Tame.pull s) (fun o => ?_)
    cases o with
    | none => exact Tame.pure _
    | some x => exact Tame.zipRowStrict rest _ _

theorem Tame.checkRestEmpty : ∀ l : List Nat, Tame (Std.checkRestEmpty l)
  | [] => by unfold Std.checkRestEmpty; exact Tame.pure _
  | s :: rest => by
    unfold Std.checkRestEmpty
    refine Tame.bind (Tame.pull s) (fun o => ?_)
    cases o with
    | none => exact Tame.checkRestEmpty rest
    | some x => exact Tame.raise _ (by simp)

theorem zipRowStrict_triple (s : Nat) (rest : List Nat) (i : Nat) (acc : List Val) (n : Nat) :
    Triple (fun w => slen s w < n + 1) (Std.zipRowStrict (s :: rest) i acc)
      (fun o w => match o with | .error _ => True | .ok _ => slen s w < n) := by
  unfold Std.zipRowStrict
  refine Triple.bind_pull_lt s n ?_ ?_
  · exact Triple.pure _ (fun _ _ => trivial)
  · intro x
    refine ((Tame.zipRowStrict rest _ _).triple (Stable.slen_lt s n)).post ?_
    intro o w hw
    cases o <;> first | trivial | exact hw

theorem zipStrictLoop_triple (s : Nat) (rest : List Nat) :
    ∀ fuel, Triple (fun w => slen s w < fuel) (Std.zipStrictLoop (s :: rest) fuel) (fun _ _ => True) := by
  intro fuel
  induction fuel with
  | zero => exact Triple.zero_fuel s _ _
  | succ n ih =>
    unfold Std.zipStrictLoop
    refine Triple.bind (zipRowStrict_triple s rest 0 [] n) ?_
    intro o
    cases o with
    | ok row => exact Triple.step (Tame.yieldV _) fun _ => ih
    | error i =>
      refine Triple.of_tame ?_
      cases i with
      | zero => exact Tame.checkRestEmpty _
      | succ j => exact Tame.raise _ (by simp)

theorem zipStrict_fuel_adequate (srcs : List Nat) (w : World) :
    ∀ fuel, fuel ≥ fuelBoundN srcs w → (Impl.zipStrict srcs fuel w).1 ≠ .error .outOfFuel :=
  fun fuel h => zipFamily_adequate srcs _ fuel w
    (fun s rest e => e ▸ zipStrictLoop_triple s rest fuel) (fun _ _ e => head_lt_of_bound (e ▸ h))

/-! ### `zip_longest`: needs the invariant "`numactive` = number of sources still marked active" -/

/-- number of sources still marked active -/
def activeCount (st : List (Nat × Bool)) : Nat := st.countP (fun p => p.2)

theorem activeCount_append (a b : List (Nat × Bool)) :
    activeCount (a ++ b) = activeCount a + activeCount b := by
  simp [activeCount, List.countP_append]

theorem activeCount_cons (s : Nat) (b : Bool) (st : List (Nat × Bool)) :
    activeCount ((s, b) :: st) = (if b then 1 else 0) + activeCount st := by
  cases b <;> simp [activeCount, Nat.add_comm]

theorem activeCount_snoc (st : List (Nat × Bool)) (s : Nat) (b : Bool) :
    activeCount (st ++ [(s, b)]) = activeCount st + (if b then 1 else 0) := by
  rw [activeCount_append, activeCount_cons]; rfl

/-- one row: `na` is the number of active sources (≥ 1), `done` the part of the row already built.
    An active entry of `done` stands for an item pulled in this row, which took one entry off the
    total script length: this is the `min 1 …` of the precondition.  A row that is produced has an
    active entry, so the total has dropped below `n`. -/
theorem longestRow_triple (fillv : Val) (srcs : List Nat) (n : Nat) :
    ∀ (rest : List (Nat × Bool)) (acc : List Val) (done : List (Nat × Bool)) (na : Nat),
      (done ++ rest).map Prod.fst = srcs → na = activeCount done + activeCount rest → 1 ≤ na →
      Triple (fun w => sumLen srcs w + min 1 (activeCount done) ≤ n)
        (Std.longestRow fillv rest acc done na)
        (fun o w' => match o with
          | none => True
          | some (_, st', na') =>
            st'.map Prod.fst = srcs ∧ na' = activeCount st' ∧ 1 ≤ na' ∧ sumLen srcs w' < n) := by
  intro rest
  induction rest with
  | nil =>
    intro acc done na hmap hna h1
    unfold Std.longestRow
    have hna' : na = activeCount done := hna
    refine Triple.pure _ fun w hw => ⟨by simpa using hmap, hna', h1, ?_⟩
    omega
  | cons p rest ih =>
    intro acc done na hmap hna h1
    obtain ⟨s, b⟩ := p
    have hmap' : ∀ b', (done ++ [(s, b')] ++ rest).map Prod.fst = srcs := fun b' => by simpa using hmap
    rw [activeCount_cons] at hna
    cases b with
    | false =>
      unfold Std.longestRow
      refine (ih _ _ na (hmap' false) ?_ h1).pre fun w hw => ?_ <;> rw [activeCount_snoc]
      · simpa using hna
      · exact hw
    | true =>
      have hs : s ∈ srcs :=
        hmap ▸ List.mem_map_of_mem (f := Prod.fst) (List.mem_append_right done (List.mem_cons_self (a := (s, true))))
      unfold Std.longestRow
      refine Triple.bind_pull s (P' := fun w => sumLen srcs w + 1 ≤ n)
        (Stable.sumLen_add_le srcs _ n) ?_ ?_ fun x => ?_
      · intro w w' hw hg hlt
        have := sumLen_dec hg hlt srcs hs
        show sumLen srcs w' + 1 ≤ n
        omega
      · dsimp only
        split
        · exact Triple.pure _ (fun _ _ => trivial)
        · refine (ih _ _ (na - 1) (hmap' false) ?_ (by omega)).pre fun w hw => ?_ <;> rw [activeCount_snoc]
          · simp at hna ⊢; omega
          · exact hw
      · refine (ih _ _ na (hmap' true) ?_ h1).pre fun w hw => ?_ <;> rw [activeCount_snoc]
        · simp at hna ⊢; omega
        · omega

theorem zipLongestLoop_triple (fillv : Val) (srcs : List Nat) :
    ∀ fuel (st : List (Nat × Bool)) (na : Nat),
      st.map Prod.fst = srcs → na = activeCount st → 1 ≤ na →
      Triple (fun w => sumLen srcs w < fuel) (Std.zipLongestLoop fillv st na fuel) (fun _ _ => True) := by
  intro fuel
  induction fuel with
  | zero => intro st na _ _ _ w hw; exact absurd hw (Nat.not_lt_zero _)
  | succ n ih =>
    intro st na hmap hna h1
    unfold Std.zipLongestLoop
    refine Triple.bind ((longestRow_triple fillv srcs n st [] [] na hmap (by simpa [activeCount] using hna)
      h1).pre fun w hw => Nat.le_of_lt_succ hw) fun o => ?_
    cases o with
    | none => exact Triple.done _
    | some r =>
      obtain ⟨row, st', na'⟩ := r
      refine Triple.pure_pre (fun hA => Triple.pure_pre (fun hB => Triple.pure_pre (fun hC => ?_)))
      exact Triple.bind_tame (Tame.yieldV _) (Stable.sumLen_lt srcs n) (fun _ => ih st' na' hA hB hC)

theorem zipLongest_fuel_adequate (fillv : Val) (srcs : List Nat) (w : World) :
    ∀ fuel, fuel ≥ fuelBoundN srcs w → (Impl.zipLongest fillv srcs fuel w).1 ≠ .error .outOfFuel := by
  intro fuel h
  unfold Impl.zipLongest
  split
  · simp [pure_apply]
  · rename_i hne
    have hlen : 1 ≤ srcs.length := by
      cases srcs with
      | nil => simp at hne
      | cons a l => simp
    have hmap : (srcs.map (·, true)).map Prod.fst = srcs := by
      simp [List.map_map, Function.comp_def]
    have hact : srcs.length = activeCount (srcs.map (·, true)) := by
      simp [activeCount, List.countP_map, Function.comp_def]
    exact (Triple.tryFinally' (zipLongestLoop_triple fillv srcs fuel _ _ hmap hact hlen)
      (Tame.closeAll _)).fueled (fuelBoundN_lt h)

/-! ### `chain`: one `forEach` per source, all with the same fuel -/

theorem Stable.forall_slen_lt (l : List Nat) (n : Nat) : Stable (fun w => ∀ s ∈ l, slen s w < n) :=
  fun _ _ hg h s hs => Nat.lt_of_le_of_lt (hg s) (h s hs)

theorem chainIter_triple (fuel : Nat) : ∀ srcs : List Nat,
    Triple (fun w => ∀ s ∈ srcs, slen s w < fuel) (Impl.chainIter srcs fuel) (fun _ _ => True) := by
  intro srcs
  induction srcs with
  | nil => exact Triple.done _
  | cons s rest ih =>
    unfold Impl.chainIter
    refine Triple.bind (Q := fun _ w => ∀ t ∈ rest, slen t w < fuel) ?_ (fun _ => ih)
    refine Triple.scopedIter s ?_ (fun _ => Stable.forall_slen_lt rest fuel)
    refine (forEach_triple s _ ?_ _ (Stable.forall_slen_lt rest fuel) fuel).pre ?_
    · exact fun x => Tame.yieldThen x true
    · intro w hw
      exact ⟨hw s List.mem_cons_self, fun t ht => hw t (List.mem_cons_of_mem _ ht)⟩

theorem Tame.closeIfOwned (s : Nat) : Tame (Impl.closeIfOwned s) := by
  intro w
  unfold Impl.closeIfOwned
  split
  · exact Tame.closeSrc s w
  · exact ⟨by simp, NoGrow.refl w⟩

theorem Tame.closeOwned : ∀ l : List Nat, Tame (Impl.closeOwned l)
  | [] => by unfold Impl.closeOwned; exact Tame.pure _
  | s :: rest => by
    unfold Impl.closeOwned
    exact Tame.bind (Tame.closeIfOwned s) (fun _ => Tame.closeOwned rest)

theorem chain_fuel_adequate (srcs : List Nat) (w : World) :
    ∀ fuel, fuel ≥ fuelBoundN srcs w → (Impl.chain srcs fuel w).1 ≠ .error .outOfFuel := by
  intro fuel h
  have hpre : ∀ s ∈ srcs, slen s w < fuel := by
    intro s hs
    have := fuelBoundN_lt h
    have := slen_le_sumLen w srcs hs
    omega
  have hi := (chainIter_triple fuel srcs).fueled hpre
  unfold Impl.chain
  rcases hc : Impl.chainIter srcs fuel w with ⟨r, w1⟩
  rw [hc] at hi
  cases r with
  | ok u => simp
  | error e =>
    cases e <;> try (simp at hi ⊢)
    have ho := (Tame.closeOwned srcs w1).1
    rcases hco : Impl.closeOwned srcs w1 with ⟨r2, w2⟩
    rw [hco] at ho
    cases r2 with
    | ok u => simp
    | error e2 => simpa using ho

theorem popMin_spec (reverse : Bool) : ∀ (heap : List Std.Entry) (e : Std.Entry) (others : List Std.Entry),
    Std.popMin reverse heap = some (e, others) →
      e ∈ heap ∧ (∀ x ∈ others, x ∈ heap) ∧ others.length + 1 = heap.length := by
  intro heap
  induction heap with
  | nil => intro e others h; simp [Std.popMin] at h
  | cons a rest ih =>
    intro e others h
    unfold Std.popMin at h
    rcases hp : Std.popMin reverse rest with _ | ⟨m, os⟩
    · rw [hp] at h
      simp only [Option.some.injEq, Prod.mk.injEq] at h
      obtain ⟨rfl, rfl⟩ := h
      cases rest with
      | nil => simp
      | cons b r => unfold Std.popMin at hp; split at hp <;> (try split at hp) <;> simp at hp
    · rw [hp] at h
      obtain ⟨h1, h2, h3⟩ := ih m os hp
      simp only at h
      split at h
      · simp only [Option.some.injEq, Prod.mk.injEq] at h
        obtain ⟨rfl, rfl⟩ := h
        refine ⟨List.mem_cons_of_mem _ h1, ?_, by simp; omega⟩
        intro x hx
        rcases List.mem_cons.mp hx with hx | hx
        · subst hx; exact List.mem_cons_self
        · exact List.mem_cons_of_mem _ (h2 x hx)
      · simp only [Option.some.injEq, Prod.mk.injEq] at h
        obtain ⟨rfl, rfl⟩ := h
        refine ⟨List.mem_cons_self, ?_, by simp; omega⟩
        intro x hx
        rcases List.mem_cons.mp hx with hx | hx
        · subst hx; exact List.mem_cons_of_mem _ h1
        · exact List.mem_cons_of_mem _ (h2 x hx)

/-- collecting the heads: every head taken costs its source one script entry -/
theorem heads_triple (fn : Option Nat) (srcs : List Nat) (B : Nat) :
    ∀ (l : List Nat) (idx : Nat) (acc : List Std.Entry),
      (∀ s ∈ l, s ∈ srcs) → (∀ e ∈ acc, e.src ∈ srcs) →
      Triple (fun w => sumLen srcs w + acc.length ≤ B) (Std.heads fn l idx acc)
        (fun hs w' => (∀ e ∈ hs, e.src ∈ srcs) ∧ sumLen srcs w' + hs.length ≤ B) := by
  intro l
  induction l with
  | nil =>
    intro idx acc _ hacc
    unfold Std.heads
    exact Triple.pure _ (fun w hw => ⟨hacc, hw⟩)
  | cons s rest ih =>
    intro idx acc hl hacc
    have hs : s ∈ srcs := hl s List.mem_cons_self
    have hrest : ∀ t ∈ rest, t ∈ srcs := fun t ht => hl t (List.mem_cons_of_mem _ ht)
    unfold Std.heads
    refine Triple.bind_pull s (P' := fun w => sumLen srcs w + (acc.length + 1) ≤ B)
      (Stable.sumLen_add_le srcs _ B) ?_ ?_ ?_
    · intro w w' hw hg hlt
      have := sumLen_dec hg hlt srcs hs
      show sumLen srcs w' + (acc.length + 1) ≤ B
      omega
    · exact ih _ acc hrest hacc
    · intro x
      dsimp only
      refine Triple.bind_tame (Tame.keyOf fn x) (Stable.sumLen_add_le srcs _ B) ?_
      intro k
      refine (ih _ _ hrest ?_).pre ?_
      · intro e he
        rcases List.mem_append.mp he with he | he
        · exact hacc e he
        · simp only [List.mem_singleton] at he; subst he; exact hs
      · intro w hw
        simpa using hw

/-- the merging loop: every round either takes an item (total script length drops) or retires an
    input (the heap shrinks) -/
theorem mergeLoop_triple (fn : Option Nat) (reverse : Bool) (srcs : List Nat) :
    ∀ fuel (heap : List Std.Entry), (∀ e ∈ heap, e.src ∈ srcs) →
      Triple (fun w => sumLen srcs w + heap.length < fuel) (Std.mergeLoop fn reverse heap fuel)
        (fun _ _ => True) := by
  intro fuel
  induction fuel with
  | zero => intro heap _ w hw; exact absurd hw (Nat.not_lt_zero _)
  | succ n ih =>
    intro heap hheap
    match heap, hheap with
    | [], _ => exact Triple.done _
    | [e], hheap =>
      unfold Std.mergeLoop
      have he : e.src ∈ srcs := hheap e List.mem_cons_self
      refine Triple.bind_tame (Tame.yieldV _) (Stable.sumLen_add_lt srcs _ _) ?_
      intro _
      refine (forEach_triple e.src _ ?_ (fun _ => True) Stable.true n).pre ?_
      · exact fun x => Tame.yieldThen x true
      · intro w hw
        have := slen_le_sumLen w srcs he
        simp only [List.length_cons, List.length_nil] at hw
        exact ⟨by omega, trivial⟩
    | a :: b :: rest, hheap =>
      unfold Std.mergeLoop
      rcases hp : Std.popMin reverse (a :: b :: rest) with _ | ⟨e, others⟩
      · exact Triple.done _
      · obtain ⟨hmem, hoth, hlen⟩ := popMin_spec reverse _ e others hp
        have he : e.src ∈ srcs := hheap e hmem
        have hothers : ∀ x ∈ others, x.src ∈ srcs := fun x hx => hheap x (hoth x hx)
        dsimp only
        refine Triple.bind_tame (Tame.yieldV _) (Stable.sumLen_add_lt srcs _ _) ?_
        intro _
        refine Triple.bind_pull e.src (P' := fun w => sumLen srcs w + (a :: b :: rest).length < n)
          (Stable.sumLen_add_lt srcs _ _) ?_ ?_ ?_
        · intro w w' hw hg hlt
          have := sumLen_dec hg hlt srcs he
          have hw' : sumLen srcs w + (a :: b :: rest).length < n + 1 := hw
          show sumLen srcs w' + (a :: b :: rest).length < n
          omega
        · refine (ih others hothers).pre ?_
          intro w hw
          have hw' : sumLen srcs w + (a :: b :: rest).length < n + 1 := hw
          show sumLen srcs w + others.length < n
          omega
        · intro x
          dsimp only
          refine Triple.bind_tame (Tame.keyOf fn x) (Stable.sumLen_add_lt srcs _ _) ?_
          intro k
          refine (ih _ ?_).pre ?_
          · intro y hy
            rcases List.mem_cons.mp hy with hy | hy
            · subst hy; exact he
            · exact hothers y hy
          · intro w hw
            have hw' : sumLen srcs w + (a :: b :: rest).length < n := hw
            show sumLen srcs w + (_ :: others).length < n
            simp only [List.length_cons] at hw' hlen ⊢
            omega

theorem merge_fuel_adequate (fn : Option Nat) (reverse : Bool) (srcs : List Nat) (w : World) :
    ∀ fuel, fuel ≥ fuelBoundN srcs w →
      (Impl.merge fn reverse srcs fuel w).1 ≠ .error .outOfFuel := by
  intro fuel h
  have hlt := fuelBoundN_lt h
  unfold Impl.merge Std.merge
  refine (Triple.tryFinally' (P := fun w => sumLen srcs w + ([] : List Std.Entry).length ≤ fuel - 1)
    (Q := fun _ _ => True) ?_ (Tame.closeAll _)).fueled (by simp; omega)
  refine Triple.bind (heads_triple fn srcs (fuel - 1) srcs 0 [] (fun _ h => h) (by simp)) ?_
  intro hs
  refine Triple.pure_pre (fun hmem => ?_)
  refine (mergeLoop_triple fn reverse srcs fuel hs hmem).pre ?_
  intro w' hw'
  show sumLen srcs w' + hs.length < fuel
  omega

/-! ## `cycle`: terminates because the consumer is finite

`cycle` replays its buffer for ever; with an exhausting consumer (`.run n .exhaust`) and a
non-empty input the model genuinely runs out of fuel for every fuel (that is Python's behaviour:
the generator never ends).  For a consumer that closes or throws after finitely many items the
number of `yield`s is bounded, and so is the fuel needed. -/

/-- how many more `yield`s the consumer can be offered (the last one fails); `none` = unbounded -/
def cbudget : Cons → Option Nat
  | .run _ .exhaust => none
  | .run n _ => some (n + 1)
  | .done => some 0

/-- the consumer accepts at most `k` more `yield`s -/
def BudLe (k : Nat) (c : Cons) : Prop := ∃ k', cbudget c = some k' ∧ k' ≤ k

theorem pull_keeps_cons (s : Nat) (w : World) : (pull s w).2.cons = w.cons := by
  unfold pull
  dsimp only
  split
  · split <;> rfl
  · split <;> rfl

theorem closeSrc_keeps_cons (s : Nat) (w : World) : (closeSrc s w).2.cons = w.cons := (closeSrc_quiet s w).2.2

/-- a `yield` that succeeds uses up one unit of the consumer's budget; scripts are untouched -/
theorem yieldV_budget (v : Val) (k : Nat) (s n : Nat) :
    Triple (fun w => slen s w < n ∧ BudLe k w.cons) (yieldV v)
      (fun _ w' => 1 ≤ k ∧ (slen s w' < n ∧ BudLe (k - 1) w'.cons)) := by
  intro w hw
  obtain ⟨hs, k', hk', hle⟩ := hw
  refine ⟨(Tame.yieldV v w).1, ?_⟩
  intro a ha
  have hsl : slen s (yieldV v w).2 < n := Nat.lt_of_le_of_lt ((Tame.yieldV v w).2 s) hs
  have key : 1 ≤ k ∧ BudLe (k - 1) (yieldV v w).2.cons := by
    unfold AsyncVerif.yieldV at ha ⊢
    rcases hc : w.cons with ⟨m, f⟩ | _
    · rw [hc] at hk'
      cases m <;> cases f <;> simp [hc, cbudget, World.pushVis, BudLe] at ha hk' ⊢ <;> omega
    · simp [hc] at ha
  exact ⟨key.1, hsl, key.2⟩

theorem cycleFirst_triple (s k : Nat) : ∀ fuel (buf : List Val),
    Triple (fun w => slen s w < fuel ∧ BudLe k w.cons) (Std.cycleFirst s buf fuel)
      (fun _ w' => BudLe k w'.cons) := by
  intro fuel
  induction fuel with
  | zero => intro buf w hw; exact absurd hw.1 (Nat.not_lt_zero _)
  | succ n ih =>
    intro buf
    unfold Std.cycleFirst
    refine Triple.bind (Q := fun o w' => match o with
      | none => BudLe k w'.cons
      | some _ => slen s w' < n ∧ BudLe k w'.cons) ?_ ?_
    · intro w hw
      obtain ⟨h1, h2, h3⟩ := pull_spec s w
      refine ⟨h1, ?_⟩
      intro o ho
      cases o with
      | none => simpa [pull_keeps_cons] using hw.2
      | some x =>
        refine ⟨?_, by simpa [pull_keeps_cons] using hw.2⟩
        have := h3 x ho
        have := hw.1
        omega
    · intro o
      cases o with
      | none => exact Triple.pure _ (fun _ hw => hw)
      | some x =>
        dsimp only
        refine Triple.bind (yieldV_budget x k s n) ?_
        intro _
        refine (ih _).pre ?_
        rintro w ⟨_, hs, k', hk', hle⟩
        exact ⟨hs, k', hk', by omega⟩

/-- Every `yield` costs one unit of fuel, and so does every wrap-around (`pos = []`); a wrap-around of a
    non-empty buffer is followed by a `yield`, so there is at most one per `yield`: hence `2 * k`.  `+ 1` is
    the unit for the step at which the consumer's budget is found exhausted, and the `if` the wrap-around
    that is due at once. -/
theorem replay_triple (buffer : List Val) : ∀ fuel (pos : List Val) (k : Nat),
    2 * k + 1 + (if pos.isEmpty then 1 else 0) < fuel →
    Triple (fun w => BudLe k w.cons) (Std.replay buffer pos fuel) (fun _ _ => True) := by
  intro fuel
  induction fuel with
  | zero => intro pos k h; omega
  | succ n ih =>
    intro pos k h
    cases pos with
    | nil =>
      unfold Std.replay
      split
      · exact Triple.done _
      · rename_i hne
        refine ih buffer k ?_
        simp only [List.isEmpty_nil, if_true] at h
        simp only [hne]
        simp only [Bool.false_eq_true, if_false]
        omega
    | cons x rest =>
      unfold Std.replay
      simp only [List.isEmpty_cons, Bool.false_eq_true, if_false] at h
      refine Triple.bind (Q := fun _ w' => 1 ≤ k ∧ BudLe (k - 1) w'.cons) ?_ ?_
      · intro w hw
        have := yieldV_budget x k 0 (slen 0 w + 1) w ⟨Nat.lt_succ_self _, hw⟩
        exact ⟨this.1, fun a ha => ⟨(this.2 a ha).1, (this.2 a ha).2.2⟩⟩
      · intro _
        refine Triple.pure_pre (fun hk => ih rest (k - 1) ?_)
        split <;> omega

/-- `cycle` with a consumer that closes or throws after finitely many items (`cbudget = some k`,
    i.e. `k = steps + 1` for `.run steps fin`, `k = 0` for `.done`) -/
theorem cycle_fuel_adequate (s : Nat) (w : World) (k : Nat) (hk : cbudget w.cons = some k) :
    ∀ fuel, fuel ≥ fuelBound1 s w → fuel ≥ 2 * k + 3 →
      (Impl.cycle s fuel w).1 ≠ .error .outOfFuel := by
  intro fuel h1 h2
  unfold Impl.cycle
  refine Triple.fueled (P := fun w => slen s w < fuel ∧ BudLe k w.cons) (Q := fun _ _ => True) ?_
    ⟨fuelBound1_lt h1, k, hk, Nat.le_refl _⟩
  refine Triple.bind (Q := fun _ w' => BudLe k w'.cons) ?_ ?_
  · refine Triple.tryFinally_gen (cycleFirst_triple s k fuel []) (Tame.closeSrc s).fueled ?_
    intro _ w hw
    rw [closeSrc_keeps_cons]; exact hw
  · intro buf
    exact replay_triple buf fuel [] k (by simp; omega)

end AsyncVerif
