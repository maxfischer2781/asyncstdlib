import AsyncVerif.Proofs.FuelAdequate
import AsyncVerif.Proofs.SetDict
/-!
# fuel adequacy for `set` / `dict`
-/
namespace AsyncVerif

theorem setLoop_triple (s : Nat) : ∀ fuel (acc : List Val),
    Triple (fun w => slen s w < fuel) (Std.setLoop s acc fuel) (fun _ _ => True) := by
  intro fuel
  induction fuel with
  | zero => intro t; exact Triple.zero_fuel s _ _
  | succ n ih =>
    intro t
    unfold Std.setLoop
    exact Triple.bind_pull_lt s n (Triple.done _) fun x => Triple.ite (ih _) (Triple.raise _ (by decide))

theorem unpackPair_ne_oof (x : Val) : Std.unpackPair x ≠ .error .outOfFuel := by
  unfold Std.unpackPair; split <;> simp

theorem dictLoop_triple (s : Nat) : ∀ fuel (acc : List (Val × Val)),
    Triple (fun w => slen s w < fuel) (Std.dictLoop s acc fuel) (fun _ _ => True) := by
  intro fuel
  induction fuel with
  | zero => intro t; exact Triple.zero_fuel s _ _
  | succ n ih =>
    intro t
    unfold Std.dictLoop
    refine Triple.bind_pull_lt s n (Triple.done _) fun x => ?_
    exact Triple.step (Tame.liftExc _ (unpackPair_ne_oof x)) fun _ => Triple.ite (ih _) (Triple.raise _ (by decide))

theorem set_fuel_adequate (s : Nat) (w : World) :
    ∀ fuel, fuel ≥ fuelBound1 s w → (Impl.set s fuel w).1 ≠ .error .outOfFuel := by
  intro fuel h
  unfold Impl.set Std.set
  exact scoped_adequate (Q := fun _ _ => True) (Triple.bind (setLoop_triple s fuel []) fun _ => Triple.done _) h

theorem dict_fuel_adequate (s : Nat) (w : World) :
    ∀ fuel, fuel ≥ fuelBound1 s w → (Impl.dict s fuel w).1 ≠ .error .outOfFuel := by
  intro fuel h
  unfold Impl.dict Std.dict
  exact scoped_adequate (Q := fun _ _ => True) (Triple.bind (dictLoop_triple s fuel []) fun _ => Triple.done _) h

end AsyncVerif
