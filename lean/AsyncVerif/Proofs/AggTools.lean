import AsyncVerif.Proofs.Faithful
import AsyncVerif.Proofs.KindFree
import AsyncVerif.Proofs.Release
import AsyncVerif.Impl.Aggregations
import AsyncVerif.Proofs.Select
/-! The aggregation and merge loops have every `Compositional` property. -/
namespace AsyncVerif

theorem Val.lt_ne_user (x y : Val) (e : Nat) : Val.lt x y ≠ .error (.user e) := by
  unfold Val.lt; split <;> simp

theorem Std.sortKeyed_ne_user (r : Bool) (l : List (Val × Val)) (e : Nat) :
    Std.sortKeyed r l ≠ .error (.user e) := by
  unfold Std.sortKeyed; split <;> simp

namespace Compositional
variable {P : ∀ {α : Type}, M α → Prop} (h : Compositional @P)
include h

theorem keyOf (fn : Option Nat) (x : Val) : P (Std.keyOf fn x) :=
  match fn with
  | none => h.pure _
  | some f => h.call f _

theorem sumLoop (s : Nat) : ∀ (fuel : Nat) (t : Val), P (Std.sumLoop s t fuel)
  | 0, _ => h.outOfFuel
  | fuel+1, t => h.bind (h.pull s) fun
    | none => h.pure _
    | some x => h.bind (h.liftExc _ (Val.add_ne_user t x)) fun t' => sumLoop s fuel t'

theorem mmLoop (fn : Option Nat) (isMax : Bool) (s : Nat) : ∀ (fuel : Nat) (b k : Val), P (Std.mmLoop fn isMax s b k fuel)
  | 0, _, _ => h.outOfFuel
  | fuel+1, b, k => h.bind (h.pull s) fun
    | none => h.pure _
    | some x => h.bind (h.keyOf fn x) fun k' =>
      h.bind (h.liftExc _ fun e => by split <;> exact Val.lt_ne_user _ _ e) fun _ =>
        ite_both _ (mmLoop fn isMax s fuel x k') (mmLoop fn isMax s fuel b k)

theorem stdMinmax (fn : Option Nat) (isMax : Bool) (d : Option Val) (s fuel : Nat) : P (Std.minmax fn isMax d s fuel) :=
  h.bind (h.pull s) fun
    | none => match d with
      | some _ => h.pure _
      | none => h.raise _ nofun
    | some x => h.bind (h.keyOf fn x) fun k => h.mmLoop fn isMax s fuel x k

theorem reduceLoop (f s : Nat) : ∀ (fuel : Nat) (a : Val), P (Std.reduceLoop f s a fuel)
  | 0, _ => h.outOfFuel
  | fuel+1, a => h.bind (h.pull s) fun
    | none => h.pure _
    | some x => h.bind (h.call f [a, x]) fun t => reduceLoop f s fuel t

theorem stdReduce (f : Nat) (ini : Option Val) (s fuel : Nat) : P (Std.reduce f ini s fuel) :=
  have k := fun first => h.reduceLoop f s fuel first
  match ini with
  | some v => h.bind (h.pure v) k
  | none => h.bind (h.tryCatchStop (h.anext s) (h.raise _ nofun)) k

theorem collectAll (s : Nat) : ∀ (fuel : Nat) (acc : List Val), P (Std.collectAll s acc fuel)
  | 0, _ => h.outOfFuel
  | fuel+1, acc => h.bind (h.pull s) fun
    | none => h.pure _
    | some x => collectAll s fuel (acc ++ [x])

theorem collectKeyed (fn : Option Nat) (s : Nat) : ∀ (fuel : Nat) (acc : List (Val × Val)), P (Std.collectKeyed fn s acc fuel)
  | 0, _ => h.outOfFuel
  | fuel+1, acc => h.bind (h.pull s) fun
    | none => h.pure _
    | some x => h.bind (h.keyOf fn x) fun k => collectKeyed fn s fuel (acc ++ [(k, x)])

theorem nbFirst (fn : Option Nat) (s : Nat) : ∀ (k : Nat) (acc : List (Val × Val)), P (Std.nbFirst fn s k acc)
  | 0, _ => h.pure _
  | k+1, acc => h.bind (h.pull s) fun
    | none => h.pure _
    | some x => h.bind (h.keyOf fn x) fun key => nbFirst fn s k (acc ++ [(key, x)])

theorem nbScan (c : Sel.Cfg) (fn : Option Nat) (s : Nat) : ∀ (fuel : Nat) (st : List Sel.VE × Int), P (Std.nbScan c fn s st fuel)
  | 0, _ => h.outOfFuel
  | fuel+1, st => h.bind (h.pull s) fun
    | none => h.pure _
    | some x => h.bind (h.keyOf fn x) fun key =>
      h.bind (h.liftExc _ fun _ he => nomatch Sel.acceptV_error c st key x _ he) fun st' => nbScan c fn s fuel st'

theorem nBestAlgo (c : Sel.Cfg) (n : Nat) (fn : Option Nat) (s fuel : Nat) : P (Std.nBestAlgo c n fn s fuel) :=
  h.bind (h.nbFirst fn s n []) fun first => ite_both _ (h.pure _)
    (h.bind (h.liftExc _ fun _ he => nomatch Sel.heapifyV_error c first _ he) fun _ =>
      h.bind (h.nbScan c fn s fuel _) fun _ => h.pure _)

theorem heads (fn : Option Nat) : ∀ (srcs : List Nat) (idx : Nat) (acc : List Std.Entry), P (Std.heads fn srcs idx acc)
  | [], _, _ => h.pure _
  | s :: rest, idx, acc => h.bind (h.pull s) fun
    | none => heads fn rest (idx + 1) acc
    | some x => h.bind (h.keyOf fn x) fun _ => heads fn rest (idx + 1) _

theorem mergeLoop (fn : Option Nat) (reverse : Bool) : ∀ (fuel : Nat) (heap : List Std.Entry), P (Std.mergeLoop fn reverse heap fuel)
  | 0, _ => h.outOfFuel
  | _+1, [] => h.pure _
  | fuel+1, [e] => h.bind (h.yieldV e.head) fun _ => h.passLoop e.src fuel
  | fuel+1, a :: b :: rest => by
    unfold Std.mergeLoop
    split
    · exact h.pure _
    · exact h.bind (h.yieldV _) fun _ => h.bind (h.pull _) fun
        | none => mergeLoop fn reverse fuel _
        | some x => h.bind (h.keyOf fn x) fun _ => mergeLoop fn reverse fuel _

theorem stdMerge (fn : Option Nat) (reverse : Bool) (srcs : List Nat) (fuel : Nat) : P (Std.merge fn reverse srcs fuel) :=
  h.bind (h.heads fn srcs 0 []) fun hs => h.mergeLoop fn reverse fuel hs

theorem sum (start : Option Val) (s fuel : Nat) : P (Impl.sum start s fuel) :=
  h.scopedIter s (h.sumLoop s fuel _)

theorem minmax (fn : Option Nat) (isMax : Bool) (d : Option Val) (s fuel : Nat) : P (Impl.minmax fn isMax d s fuel) :=
  h.scopedIter s (h.stdMinmax fn isMax d s fuel)

theorem reduce (f : Nat) (ini : Option Val) (s fuel : Nat) : P (Impl.reduce f ini s fuel) :=
  h.scopedIter s (h.stdReduce f ini s fuel)

theorem list (s fuel : Nat) : P (Impl.list s fuel) :=
  h.scopedIter s (h.bind (h.collectAll s fuel []) fun _ => h.pure _)

theorem tuple (s fuel : Nat) : P (Impl.tuple s fuel) :=
  h.scopedIter s (h.bind (h.collectAll s fuel []) fun _ => h.pure _)

theorem sorted (fn : Option Nat) (reverse : Bool) (s fuel : Nat) : P (Impl.sorted fn reverse s fuel) :=
  h.bind (h.scopedIter s (h.collectKeyed fn s fuel [])) fun keyed =>
    h.bind (h.liftExc _ (Std.sortKeyed_ne_user reverse keyed)) fun _ => h.pure _

theorem nBest (largest : Bool) (n : Nat) (fn : Option Nat) (s fuel : Nat) : P (Impl.nBest largest n fn s fuel) :=
  h.scopedIter s (h.nBestAlgo _ n fn s fuel)

theorem merge (fn : Option Nat) (reverse : Bool) (srcs : List Nat) (fuel : Nat) : P (Impl.merge fn reverse srcs fuel) :=
  h.finallyCloseAll srcs (h.stdMerge fn reverse srcs fuel)

end Compositional

namespace Std

theorem faithful_nBest (largest : Bool) (n : Nat) (fn : Option Nat) (s fuel : Nat) : Faithful (nBest largest n fn s fuel) :=
  faithful_compositional.nBestAlgo _ n fn s fuel

theorem kf_nBest (largest : Bool) (n : Nat) (fn : Option Nat) (s fuel : Nat) : KindFree (nBest largest n fn s fuel) :=
  kf_compositional.nBestAlgo _ n fn s fuel

end Std

end AsyncVerif
