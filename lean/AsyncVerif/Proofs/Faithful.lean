import AsyncVerif.Proofs.Core
/-!
# Faithful exceptions (C06, C18): a user exception is never swallowed, replaced or deferred

`Faithful m`: in every world, the visible events `m` adds either contain no fault event and `m` does
not end with a user exception, or they end with exactly one fault event (a source failing, a callable
failing, the consumer throwing) carrying exception `e`, nothing visible happens after it, and `m`
ends by raising that very `e`.  It is `Compositional`, so every tool model has it.
-/
namespace AsyncVerif

def isFault (e : Nat) : Ev → Bool
  | .srcErr _ e' => e == e'
  | .callErr _ e' => e == e'
  | .thrown e' => e == e'
  | _ => false

def anyFault : Ev → Bool
  | .srcErr _ _ => true
  | .callErr _ _ => true
  | .thrown _ => true
  | _ => false

/-- the events `new` added by a run and how it ended -/
def FaithfulRun {α : Type} (new : List Ev) (r : Except Exc α) : Prop :=
  ((∀ ev ∈ new, anyFault ev = false) ∧ (∀ e, r ≠ .error (.user e)))
  ∨ (∃ pre e ev, new = pre ++ [ev] ∧ isFault e ev = true ∧ (∀ x ∈ pre, anyFault x = false) ∧ r = .error (.user e))

structure Faithful {α : Type} (m : M α) : Prop where
  run : ∀ w, ∃ new, (m w).2.vis = w.vis ++ new ∧ FaithfulRun new (m w).1

/-- on a concrete log the absence of faults is a computation -/
theorem noFault_of_all {l : List Ev} (h : l.all (fun ev => !anyFault ev) = true) : ∀ ev ∈ l, anyFault ev = false := by
  simpa using h

theorem FaithfulRun.noFault {α : Type} {new : List Ev} {r : Except Exc α} (h : FaithfulRun new r)
    (hr : ∀ e, r ≠ .error (.user e)) : ∀ ev ∈ new, anyFault ev = false := by
  rcases h with ⟨h, _⟩ | ⟨_, e, _, _, _, _, he⟩
  · exact h
  · exact absurd he (hr e)

theorem FaithfulRun.append {α : Type} {n1 n2 : List Ev} {r : Except Exc α} (h1 : ∀ ev ∈ n1, anyFault ev = false)
    (h2 : FaithfulRun n2 r) : FaithfulRun (n1 ++ n2) r := by
  rcases h2 with ⟨hnf, hne⟩ | ⟨pre, e, ev, rfl, hfe, hpre, hr⟩
  · exact Or.inl ⟨fun ev hev => (List.mem_append.mp hev).elim (h1 ev) (hnf ev), hne⟩
  · exact Or.inr ⟨n1 ++ pre, e, ev, (List.append_assoc ..).symm, hfe,
      fun x hx => (List.mem_append.mp hx).elim (h1 x) (hpre x), hr⟩

/-- an exception that propagates through code of another result type -/
theorem FaithfulRun.error {α β : Type} {new : List Ev} {x : Exc} (h : FaithfulRun new (.error x : Except Exc α)) :
    FaithfulRun new (.error x : Except Exc β) := by
  rcases h with ⟨hnf, hne⟩ | ⟨pre, e, ev, hnew, hfe, hpre, hr⟩
  · exact Or.inl ⟨hnf, fun e he => hne e (by cases he; rfl)⟩
  · exact Or.inr ⟨pre, e, ev, hnew, hfe, hpre, by cases hr; rfl⟩

theorem faithful_pure {α : Type} (a : α) : Faithful (pure a : M α) :=
  ⟨fun _ => ⟨[], (List.append_nil _).symm, Or.inl ⟨noFault_of_all rfl, nofun⟩⟩⟩

theorem faithful_raise {α : Type} (x : Exc) (h : ∀ e, x ≠ .user e) : Faithful (raise x : M α) :=
  ⟨fun _ => ⟨[], (List.append_nil _).symm, Or.inl ⟨noFault_of_all rfl, fun e he => h e (by cases he; rfl)⟩⟩⟩

theorem faithful_bind {α β : Type} {m : M α} {f : α → M β} (hm : Faithful m) (hf : ∀ a, Faithful (f a)) :
    Faithful (m >>= f) := by
  refine ⟨fun w => ?_⟩
  have ⟨n1, hv1, hr1⟩ := hm.run w
  rw [bind_apply]
  revert hv1 hr1
  rcases m w with ⟨r, w1⟩
  intro hv1 hr1
  cases r with
  | ok a =>
    obtain ⟨n2, hv2, hr2⟩ := (hf a).run w1
    exact ⟨n1 ++ n2, by rw [hv2, hv1, List.append_assoc], hr2.append (hr1.noFault nofun)⟩
  | error x => exact ⟨n1, hv1, hr1.error⟩

theorem pullStep_faithful (s : Nat) (x : Src) : FaithfulRun (pullStep s x).2.2 (pullStep s x).1 := by
  unfold pullStep
  split
  · split
    · exact Or.inl ⟨noFault_of_all rfl, nofun⟩
    · exact Or.inr ⟨[.pull s], _, _, rfl, beq_self_eq_true _, noFault_of_all rfl, rfl⟩
    · exact Or.inl ⟨noFault_of_all rfl, nofun⟩
  · exact Or.inl ⟨by split <;> exact noFault_of_all rfl, nofun⟩

theorem faithful_pull (s : Nat) : Faithful (pull s) :=
  ⟨fun w => ⟨(pullStep s (w.srcs s)).2.2, by rw [pull_eq]; rfl, by rw [pull_eq]; exact pullStep_faithful s _⟩⟩

theorem faithful_call (f : Nat) (args : List Val) : Faithful (call f args) := by
  refine ⟨fun w => ?_⟩
  unfold call
  dsimp only
  cases w.fns f (w.calls f) args with
  | ok v =>
    exact ⟨[.call f args, .ret f v], List.append_assoc .., Or.inl ⟨noFault_of_all rfl, nofun⟩⟩
  | error e =>
    exact ⟨[.call f args, .callErr f e], List.append_assoc ..,
      Or.inr ⟨[.call f args], e, .callErr f e, rfl, beq_self_eq_true e, noFault_of_all rfl, rfl⟩⟩

theorem consStep_faithful (v : Val) (c : Cons) : FaithfulRun (.yld v :: (consStep c).2.2) (consStep c).1 := by
  have ok : ∀ r : Except Exc Unit, (∀ e, r ≠ .error (.user e)) → FaithfulRun [.yld v] r :=
    fun r hr => Or.inl ⟨noFault_of_all rfl, hr⟩
  cases c with
  | done => exact ok _ nofun
  | run n fin =>
    cases n with
    | succ n => exact ok _ nofun
    | zero =>
      cases fin with
      | exhaust => exact ok _ nofun
      | close => exact Or.inl ⟨noFault_of_all rfl, nofun⟩
      | throw e => exact Or.inr ⟨[.yld v], e, .thrown e, rfl, beq_self_eq_true e, noFault_of_all rfl, rfl⟩

theorem faithful_yieldV (v : Val) : Faithful (yieldV v) :=
  ⟨fun w => ⟨.yld v :: (consStep w.cons).2.2, by rw [yieldV_eq], by rw [yieldV_eq]; exact consStep_faithful v _⟩⟩

theorem faithful_liftExc {α : Type} (r : Except Exc α) (h : ∀ e, r ≠ .error (.user e)) :
    Faithful (liftExc r) := by
  refine ⟨fun w => ⟨[], ?_, Or.inl ⟨noFault_of_all rfl, ?_⟩⟩⟩
  · cases r <;> exact (List.append_nil _).symm
  · cases r
    · exact h
    · exact fun _ => nofun

theorem faithful_tryFinally {α : Type} {body : M α} {fin : M Unit} (hb : Faithful body) (hq : Quiet fin) :
    Faithful (tryFinally body fin) := by
  refine ⟨fun w => ?_⟩
  obtain ⟨n, hv, hr⟩ := hb.run w
  have h := tryFinally_quiet body fin hq w
  exact ⟨n, by rw [h.2.1, hv], by rw [h.1]; exact hr⟩

theorem faithful_tryCatchStop {α : Type} {body handler : M α} (hb : Faithful body) (hh : Faithful handler) :
    Faithful (tryCatchStop body handler) := by
  refine ⟨fun w => ?_⟩
  have ⟨n1, hv1, hr1⟩ := hb.run w
  unfold tryCatchStop
  revert hv1 hr1
  rcases body w with ⟨r, w1⟩
  intro hv1 hr1
  by_cases hstop : r = .error .stop
  · subst hstop
    obtain ⟨n2, hv2, hr2⟩ := hh.run w1
    exact ⟨n1 ++ n2, by rw [hv2, hv1, List.append_assoc], hr2.append (hr1.noFault nofun)⟩
  · cases r with
    | ok a => exact ⟨n1, hv1, hr1⟩
    | error x => cases x <;> first | exact ⟨n1, hv1, hr1⟩ | exact absurd rfl hstop

theorem faithful_closeSrc (s : Nat) : Faithful (closeSrc s) := by
  refine ⟨fun w => ?_⟩
  have h := closeSrc_quiet s w
  exact ⟨[], by simp [h.2.1], Or.inl ⟨by simp, by simp [h.1]⟩⟩

theorem Faithful.surfaces {α : Type} {m : M α} (h : Faithful m) (w : World) (e : Nat)
    (he : (m w).1 = .error (.user e)) :
    ∃ pre ev, (m w).2.vis = w.vis ++ pre ++ [ev] ∧ isFault e ev = true ∧ ∀ x ∈ pre, anyFault x = false := by
  obtain ⟨new, hv, hr⟩ := h.run w
  rcases hr with ⟨_, hne⟩ | ⟨pre, e', ev, hnew, hfe, hpre, hr⟩
  · exact absurd he (hne e)
  · cases he.symm.trans hr
    exact ⟨pre, ev, by rw [hv, hnew, List.append_assoc], hfe, hpre⟩

theorem faithful_compositional : Compositional @Faithful where
  pure := faithful_pure
  raise := faithful_raise
  liftExc := faithful_liftExc
  bind := faithful_bind
  pull := faithful_pull
  call := faithful_call
  yieldV := faithful_yieldV
  closeSrc := faithful_closeSrc
  tryFinally := fun hb _ hq => faithful_tryFinally hb hq
  tryCatchStop := faithful_tryCatchStop

theorem faithful_closeAll (l : List Nat) : Faithful (closeAll l) := faithful_compositional.closeAll l

theorem faithful_ite {α : Type} (c : Prop) [Decidable c] {a b : M α} (ha : Faithful a) (hb : Faithful b) :
    Faithful (if c then a else b) := ite_both c ha hb

theorem Std.faithful_dropwhileLoop (f s : Nat) (fuel : Nat) : ∀ (b : Bool), Faithful (Std.dropwhileLoop f s b fuel) :=
  faithful_compositional.dropwhileLoop f s fuel

theorem Std.faithful_batched (n : Nat) (strict : Bool) (s : Nat) (fuel : Nat) : Faithful (Std.batched n strict s fuel) :=
  faithful_compositional.stdBatched n strict s fuel

end AsyncVerif
