import AsyncVerif.Machines.ChainObj
import AsyncVerif.Proofs.Cleanup
/-! The `chain` object machine (`Machines/ChainObj.lean`), for `Properties/C20ChainObj.lean`.

Invariant `Inv`: the scope of argument `i` is open exactly when the generator's pc is inside it;
with `owned` fixed it makes `Reach`.  Every operation is reduced to `leaveScope` (the one place a
scope is left: exhaustion in `answer`, `genAclose` at the `yield`, `cancel` inside a pull) and to
`closeOwned`, whose failure is that of `Cleanup.closeAllRobust` on `ownedBehs`
(`closeOwned_failure`) and which touches nothing but the log and `closedBy` (`CloseFrame`). -/
namespace AsyncVerif.ChainObj

/-- where the generator is relative to the scope of argument `i` -/
def scopeAt (st : State) (i : Nat) : Option Scope := st.status[i]?.map (·.scope)

/-- who invoked `aclose` on (the iterator of) argument `i` so far -/
def closedByAt (st : State) (i : Nat) : Option (List Closer) := st.status[i]?.map (·.closedBy)

/-- no argument's scope is open -/
def NoOpen (st : State) : Prop := ∀ i, scopeAt st i ≠ some .open

/-- invariant of reachable states: the status table covers the arguments, and the scope of
    argument `i` is open exactly when the generator's pc is inside it -/
def Inv (n : Nat) (st : State) : Prop :=
  st.status.length = n ∧ ∀ i, scopeAt st i = some .open ↔ st.pc.current = some i

/-- the close event (if visible) of `ScopedIter.__aexit__` for argument `idx` -/
def scopeCloseEv (a : Arg) (idx : Nat) : List Ev := if a.closeVisible then [.close idx] else []

/-- events of `self._iterator.aclose()` / of a cancellation: the scope the generator is in is left -/
def innerClose (args : List Arg) : Pc → List Ev
  | .suspendedAtYield idx =>
    match args[idx]? with
    | some a => scopeCloseEv a idx
    | none => []
  | _ => []

/-- what `self._iterator.aclose()` awaits, as a `Cleanup.CloseBeh` (`noAclose`: nothing) -/
def innerBeh (args : List Arg) : Pc → Cleanup.CloseBeh
  | .suspendedAtYield idx =>
    match args[idx]? with
    | some a => a.scopeBeh
    | none => .noAclose
  | _ => .noAclose

/-- the `aclose` behaviours of the owned iterators, in the order of `_owned_iterators` -/
def ownedBehs (args : List Arg) (owned : List Nat) : List Cleanup.CloseBeh :=
  owned.filterMap (fun i => args[i]?.map (·.close.toCleanup))

/-- answer of `aclose()` / `cancel` given the exception that leaves (none: `dflt`) -/
def outOf (dflt : Out) : Option ExcId → Out
  | some e => .raised e
  | none => dflt

@[simp] theorem emit_owned (st : State) (e : Ev) : (st.emit e).owned = st.owned := rfl
@[simp] theorem emit_pc (st : State) (e : Ev) : (st.emit e).pc = st.pc := rfl
@[simp] theorem emit_status (st : State) (e : Ev) : (st.emit e).status = st.status := rfl
@[simp] theorem emit_cur (st : State) (e : Ev) : (st.emit e).cur = st.cur := rfl
@[simp] theorem emit_log (st : State) (e : Ev) : (st.emit e).log = st.log ++ [e] := rfl

@[simp] theorem setScope_owned (st : State) (i : Nat) (s : Scope) : (st.setScope i s).owned = st.owned := rfl
@[simp] theorem setScope_pc (st : State) (i : Nat) (s : Scope) : (st.setScope i s).pc = st.pc := rfl
@[simp] theorem setScope_cur (st : State) (i : Nat) (s : Scope) : (st.setScope i s).cur = st.cur := rfl
@[simp] theorem setScope_log (st : State) (i : Nat) (s : Scope) : (st.setScope i s).log = st.log := rfl
@[simp] theorem setScope_len (st : State) (i : Nat) (s : Scope) :
    (st.setScope i s).status.length = st.status.length := by simp [State.setScope]

@[simp] theorem addCloser_owned (st : State) (i : Nat) (c : Closer) : (st.addCloser i c).owned = st.owned := rfl
@[simp] theorem addCloser_pc (st : State) (i : Nat) (c : Closer) : (st.addCloser i c).pc = st.pc := rfl
@[simp] theorem addCloser_cur (st : State) (i : Nat) (c : Closer) : (st.addCloser i c).cur = st.cur := rfl
@[simp] theorem addCloser_log (st : State) (i : Nat) (c : Closer) : (st.addCloser i c).log = st.log := rfl
@[simp] theorem addCloser_len (st : State) (i : Nat) (c : Closer) :
    (st.addCloser i c).status.length = st.status.length := by simp [State.addCloser]

@[simp] theorem scopeAt_emit (st : State) (e : Ev) (j : Nat) : scopeAt (st.emit e) j = scopeAt st j := rfl
@[simp] theorem closedByAt_emit (st : State) (e : Ev) (j : Nat) :
    closedByAt (st.emit e) j = closedByAt st j := rfl

theorem scopeAt_setScope (st : State) (i j : Nat) (s : Scope) :
    scopeAt (st.setScope i s) j = if i = j then (scopeAt st j).map (fun _ => s) else scopeAt st j := by
  simp only [scopeAt, State.setScope, List.getElem?_modify]
  cases st.status[j]? <;> by_cases h : i = j <;> simp [h]

@[simp] theorem closedByAt_setScope (st : State) (i j : Nat) (s : Scope) :
    closedByAt (st.setScope i s) j = closedByAt st j := by
  simp only [closedByAt, State.setScope, List.getElem?_modify]
  cases st.status[j]? <;> by_cases h : i = j <;> simp [h]

@[simp] theorem scopeAt_addCloser (st : State) (i j : Nat) (c : Closer) :
    scopeAt (st.addCloser i c) j = scopeAt st j := by
  simp only [scopeAt, State.addCloser, List.getElem?_modify]
  cases st.status[j]? <;> by_cases h : i = j <;> simp [h]

theorem closedByAt_addCloser (st : State) (i j : Nat) (c : Closer) :
    closedByAt (st.addCloser i c) j
      = if i = j then (closedByAt st j).map (· ++ [c]) else closedByAt st j := by
  simp only [closedByAt, State.addCloser, List.getElem?_modify]
  cases st.status[j]? <;> by_cases h : i = j <;> simp [h]

@[simp] theorem scopeAt_pc (st : State) (p : Pc) (j : Nat) : scopeAt { st with pc := p } j = scopeAt st j := rfl
@[simp] theorem scopeAt_cur (st : State) (c : List Val) (j : Nat) :
    scopeAt { st with cur := c } j = scopeAt st j := rfl
@[simp] theorem closedByAt_pc (st : State) (p : Pc) (j : Nat) :
    closedByAt { st with pc := p } j = closedByAt st j := rfl
@[simp] theorem closedByAt_cur (st : State) (c : List Val) (j : Nat) :
    closedByAt { st with cur := c } j = closedByAt st j := rfl

theorem leaveScope_owned (a : Arg) (idx : Nat) (st : State) : (leaveScope a idx st).1.owned = st.owned := by
  unfold leaveScope; cases a.kind <;> rfl

theorem leaveScope_pc (a : Arg) (idx : Nat) (st : State) : (leaveScope a idx st).1.pc = st.pc := by
  unfold leaveScope; cases a.kind <;> rfl

theorem leaveScope_cur (a : Arg) (idx : Nat) (st : State) : (leaveScope a idx st).1.cur = st.cur := by
  unfold leaveScope; cases a.kind <;> rfl

theorem leaveScope_len (a : Arg) (idx : Nat) (st : State) :
    (leaveScope a idx st).1.status.length = st.status.length := by
  unfold leaveScope; cases a.kind <;> simp

theorem leaveScope_log (a : Arg) (idx : Nat) (st : State) :
    (leaveScope a idx st).1.log = st.log ++ scopeCloseEv a idx := by
  unfold leaveScope scopeCloseEv Arg.closeVisible; cases a.kind <;> simp

theorem leaveScope_exc (a : Arg) (idx : Nat) (st : State) :
    (leaveScope a idx st).2 = a.scopeBeh.exc := by
  unfold leaveScope Arg.scopeBeh
  cases a.kind <;> simp [Cleanup.CloseBeh.exc] <;> cases a.close <;> rfl

theorem leaveScope_scopeAt (a : Arg) (idx : Nat) (st : State) (j : Nat) :
    scopeAt (leaveScope a idx st).1 j
      = if idx = j then (scopeAt st j).map (fun _ => .left) else scopeAt st j := by
  unfold leaveScope; cases a.kind <;> simp [scopeAt_setScope]

theorem leaveScope_closedByAt (a : Arg) (idx : Nat) (st : State) (j : Nat) :
    closedByAt (leaveScope a idx st).1 j
      = if idx = j ∧ a.scopeBeh ≠ .noAclose then (closedByAt st j).map (· ++ [.scope])
        else closedByAt st j := by
  unfold leaveScope Arg.scopeBeh
  cases a.kind <;> simp [closedByAt_addCloser] <;> cases a.close <;> simp [CloseBeh.toCleanup]

theorem leaveScope_noOpen (a : Arg) (idx : Nat) (st : State)
    (h : ∀ i, scopeAt st i = some .open → i = idx) : NoOpen (leaveScope a idx st).1 := by
  intro i hi
  rw [leaveScope_scopeAt] at hi
  by_cases hx : idx = i
  · simp only [hx, if_true] at hi
    cases hs : scopeAt st i <;> simp [hs] at hi
  · simp only [hx, if_false] at hi
    exact hx (h i hi).symm

/-- the state in which the scope of `idx` is left after its pull answered StopAsyncIteration -/
def afterEnd (a : Arg) (idx : Nat) (st : State) : State :=
  (leaveScope a idx ((st.emit (.pull idx)).emit (.end_ idx))).1

theorem replyPull_cases (a : Arg) (idx : Nat) (st : State) :
    (∃ v r, replyPull a idx st = ({ (st.emit (.pull idx)).emit (.item v) with cur := r }, .item v))
    ∨ replyPull a idx st = (afterEnd a idx st, .exhausted)
    ∨ (∃ e, replyPull a idx st = (afterEnd a idx st, .failed e)) := by
  unfold replyPull afterEnd
  dsimp only
  split
  · exact Or.inl ⟨_, _, rfl⟩
  · split <;> rename_i heq <;> rw [heq]
    · exact Or.inr (Or.inr ⟨_, rfl⟩)
    · exact Or.inr (Or.inl rfl)

theorem afterEnd_owned (a : Arg) (idx : Nat) (st : State) : (afterEnd a idx st).owned = st.owned := by
  simp [afterEnd, leaveScope_owned]

theorem afterEnd_pc (a : Arg) (idx : Nat) (st : State) : (afterEnd a idx st).pc = st.pc := by
  simp [afterEnd, leaveScope_pc]

theorem afterEnd_len (a : Arg) (idx : Nat) (st : State) :
    (afterEnd a idx st).status.length = st.status.length := by
  simp [afterEnd, leaveScope_len]

theorem afterEnd_noOpen (a : Arg) (idx : Nat) (st : State)
    (h : ∀ i, scopeAt st i = some .open → i = idx) : NoOpen (afterEnd a idx st) := by
  apply leaveScope_noOpen
  simpa using h

theorem replyPull_owned (a : Arg) (idx : Nat) (st : State) : (replyPull a idx st).1.owned = st.owned := by
  rcases replyPull_cases a idx st with ⟨v, r, h⟩ | h | ⟨e, h⟩ <;> rw [h]
  · rfl
  · exact afterEnd_owned a idx st
  · exact afterEnd_owned a idx st

/-- the pull of argument `idx` answers (in `advance` as in `continuePull`): an item is passed on, a failing close
    of the argument's scope ends the generator, an exhausted argument is followed by the remaining ones `rest` -/
def answer (rest : List Arg) (a : Arg) (idx : Nat) (st : State) : State × Out :=
  match replyPull a idx st with
  | (st, .item v) => ({ st with pc := .suspendedAtYield idx }, .item v)
  | (st, .failed e) => ({ st with pc := .done }, .raised e)
  | (st, .exhausted) => advance rest (idx + 1) st

theorem advance_cons (a : Arg) (rest : List Arg) (idx : Nat) (st : State) :
    advance (a :: rest) idx st =
      if 0 < a.pullSusp then
        ({ ({ st.setScope idx .open with cur := a.items } : State) with pc := .runningInPull idx 1 }, .susp idx)
      else answer rest a idx { st.setScope idx .open with cur := a.items } := by
  rw [advance]; rfl

theorem continuePull_eq (args : List Arg) (a : Arg) (idx k : Nat) (st : State) :
    continuePull args a idx k st =
      if k < a.pullSusp then ({ st with pc := .runningInPull idx (k + 1) }, .susp idx)
      else answer (args.drop (idx + 1)) a idx st := rfl

theorem answer_cases (rest : List Arg) (a : Arg) (idx : Nat) (st : State) :
    (∃ v r, answer rest a idx st =
      ({ ({ (st.emit (.pull idx)).emit (.item v) with cur := r } : State) with pc := .suspendedAtYield idx }, .item v))
    ∨ answer rest a idx st = advance rest (idx + 1) (afterEnd a idx st)
    ∨ (∃ e, answer rest a idx st = ({ afterEnd a idx st with pc := .done }, .raised e)) := by
  unfold answer
  rcases replyPull_cases a idx st with ⟨v, r, h⟩ | h | ⟨e, h⟩ <;> rw [h]
  · exact Or.inl ⟨v, r, rfl⟩
  · exact Or.inr (Or.inl rfl)
  · exact Or.inr (Or.inr ⟨e, rfl⟩)

theorem answer_owned (rest : List Arg) (a : Arg) (idx : Nat) (st : State)
    (ih : ∀ st', (advance rest (idx + 1) st').1.owned = st'.owned) :
    (answer rest a idx st).1.owned = st.owned := by
  rcases answer_cases rest a idx st with ⟨v, r, h⟩ | h | ⟨e, h⟩ <;> rw [h]
  · rfl
  · rw [ih]; exact afterEnd_owned a idx st
  · exact afterEnd_owned a idx st

theorem advance_owned (rest : List Arg) (idx : Nat) (st : State) :
    (advance rest idx st).1.owned = st.owned := by
  induction rest generalizing idx st with
  | nil => rfl
  | cons a rest ih =>
    rw [advance_cons]
    split
    · rfl
    · exact answer_owned rest a idx _ (ih _)

theorem continuePull_owned (args : List Arg) (a : Arg) (idx k : Nat) (st : State) :
    (continuePull args a idx k st).1.owned = st.owned := by
  rw [continuePull_eq]
  split
  · rfl
  · exact answer_owned _ a idx st (advance_owned _ _)

theorem noOpen_inv (n : Nat) (st : State) (hn : st.status.length = n) (h : NoOpen st)
    (hpc : st.pc.current = none) : Inv n st := by
  refine ⟨hn, fun i => ⟨fun hi => absurd hi (h i), fun hi => ?_⟩⟩
  rw [hpc] at hi; cases hi

theorem inv_noOpen (n : Nat) (st : State) (h : Inv n st) (hpc : st.pc.current = none) : NoOpen st := by
  intro i hi
  have := (h.2 i).mp hi
  rw [hpc] at this; cases this

theorem inv_onlyOpen (n : Nat) (st : State) (h : Inv n st) (idx : Nat) (hpc : st.pc.current = some idx) :
    ∀ i, scopeAt st i = some .open → i = idx := by
  intro i hi
  have := (h.2 i).mp hi
  rw [hpc] at this; cases this; rfl

theorem inv_at (n : Nat) (st : State) (idx : Nat) (hn : st.status.length = n)
    (ho : scopeAt st idx = some .open) (h : ∀ i, scopeAt st i = some .open → i = idx)
    (p : Pc) (hp : p.current = some idx) : Inv n { st with pc := p } := by
  refine ⟨hn, fun i => ?_⟩
  simp only [scopeAt_pc, hp]
  constructor
  · intro hi; rw [h i hi]
  · intro hi; cases hi; exact ho

theorem answer_inv (n : Nat) (rest : List Arg) (a : Arg) (idx : Nat) (st : State)
    (hn : st.status.length = n) (ho : scopeAt st idx = some .open)
    (hon : ∀ i, scopeAt st i = some .open → i = idx)
    (ih : ∀ st', st'.status.length = n → NoOpen st' → Inv n (advance rest (idx + 1) st').1) :
    Inv n (answer rest a idx st).1 := by
  rcases answer_cases rest a idx st with ⟨v, r, h⟩ | h | ⟨e, h⟩ <;> rw [h]
  · exact inv_at n _ idx hn ho hon _ rfl
  · exact ih _ ((afterEnd_len a idx st).trans hn) (afterEnd_noOpen a idx st hon)
  · exact noOpen_inv n _ ((afterEnd_len a idx st).trans hn) (afterEnd_noOpen a idx st hon) rfl

theorem advance_inv (n : Nat) (rest : List Arg) (idx : Nat) (st : State)
    (hn : st.status.length = n) (hi : idx + rest.length = n) (h : NoOpen st) :
    Inv n (advance rest idx st).1 := by
  induction rest generalizing idx st with
  | nil => exact noOpen_inv n _ hn h rfl
  | cons a rest ih =>
    have hlt : idx < st.status.length := by rw [List.length_cons] at hi; omega
    have hn1 : (st.setScope idx .open).status.length = n := (setScope_len st idx .open).trans hn
    have ho1 : scopeAt (st.setScope idx .open) idx = some .open := by
      rw [scopeAt_setScope, if_pos rfl, scopeAt, List.getElem?_eq_getElem hlt]; rfl
    have hon1 : ∀ i, scopeAt (st.setScope idx .open) i = some .open → i = idx := by
      intro i hi'
      rw [scopeAt_setScope] at hi'
      by_cases hx : idx = i
      · exact hx.symm
      · rw [if_neg hx] at hi'; exact absurd hi' (h i)
    rw [advance_cons]
    split
    · exact inv_at n { st.setScope idx .open with cur := a.items } idx hn1 ho1 hon1 _ rfl
    · exact answer_inv n rest a idx { st.setScope idx .open with cur := a.items } hn1 ho1 hon1
        (fun st' h1 h2 => ih (idx + 1) st' h1 (by rw [List.length_cons] at hi; omega) h2)

theorem continuePull_inv (args : List Arg) (a : Arg) (idx k : Nat) (st : State)
    (h : Inv args.length st) (hpc : st.pc.current = some idx) (ha : idx < args.length) :
    Inv args.length (continuePull args a idx k st).1 := by
  have ho : scopeAt st idx = some .open := (h.2 idx).mpr hpc
  have hon := inv_onlyOpen _ st h idx hpc
  rw [continuePull_eq]
  split
  · exact inv_at _ st idx h.1 ho hon _ rfl
  · exact answer_inv _ _ a idx st h.1 ho hon
      (fun st' h1 h2 => advance_inv _ _ _ st' h1 (by rw [List.length_drop]; omega) h2)

theorem next_owned (args : List Arg) (st : State) : (next args st).1.owned = st.owned := by
  unfold next
  split
  · rfl
  · exact advance_owned _ _ _
  · split
    · exact continuePull_owned _ _ _ _ _
    · rfl
  · split
    · exact continuePull_owned _ _ _ _ _
    · rfl

theorem inv_current_lt (n : Nat) (st : State) (h : Inv n st) (idx : Nat) (hpc : st.pc.current = some idx) :
    idx < n := by
  have ho : scopeAt st idx = some .open := (h.2 idx).mpr hpc
  unfold scopeAt at ho
  cases hs : st.status[idx]? with
  | none => rw [hs] at ho; cases ho
  | some s => rw [← h.1]; exact (List.getElem?_eq_some_iff.1 hs).1

theorem next_inv (args : List Arg) (st : State) (h : Inv args.length st) :
    Inv args.length (next args st).1 := by
  unfold next
  split
  · exact h
  · rename_i hpc
    apply advance_inv _ _ _ _ h.1 (by simp)
    exact inv_noOpen _ st h (by rw [hpc]; rfl)
  · rename_i idx hpc
    split
    · rename_i a ha
      exact continuePull_inv args a idx 0 st h (by rw [hpc]; rfl) ((List.getElem?_eq_some_iff.1 ha).1)
    · exact h
  · rename_i idx k hpc
    split
    · rename_i a ha
      exact continuePull_inv args a idx k st h (by rw [hpc]; rfl) ((List.getElem?_eq_some_iff.1 ha).1)
    · exact h

/-- `close_all` writes only the log and who closed which argument -/
structure CloseFrame (st st' : State) : Prop where
  owned : st'.owned = st.owned
  pc : st'.pc = st.pc
  cur : st'.cur = st.cur
  len : st'.status.length = st.status.length
  scope : ∀ j, scopeAt st' j = scopeAt st j

theorem closeOne_frame (args : List Arg) (sf : State × Option ExcId) (i : Nat) :
    CloseFrame sf.1 (closeOne args sf i).1 := by
  unfold closeOne
  split
  · exact ⟨rfl, rfl, rfl, addCloser_len _ _ _, fun _ => scopeAt_addCloser _ _ _ _⟩
  · exact ⟨rfl, rfl, rfl, rfl, fun _ => rfl⟩

theorem closeOwned_frame (args : List Arg) (l : List Nat) (st : State) :
    CloseFrame st (closeOwned args l st).1 := by
  suffices ∀ sf : State × Option ExcId, CloseFrame sf.1 (l.foldl (closeOne args) sf).1 from this (st, none)
  induction l with
  | nil => exact fun _ => ⟨rfl, rfl, rfl, rfl, fun _ => rfl⟩
  | cons i l ih =>
    intro sf
    have h1 := closeOne_frame args sf i
    have h2 := ih (closeOne args sf i)
    exact ⟨h2.owned.trans h1.owned, h2.pc.trans h1.pc, h2.cur.trans h1.cur, h2.len.trans h1.len,
      fun j => (h2.scope j).trans (h1.scope j)⟩

theorem closeOwned_inv (n : Nat) (args : List Arg) (l : List Nat) (st : State) (h : Inv n st) :
    Inv n (closeOwned args l st).1 := by
  have hf := closeOwned_frame args l st
  refine ⟨hf.len.trans h.1, fun i => ?_⟩
  rw [hf.scope, hf.pc]; exact h.2 i

theorem closeOne_lt (args : List Arg) (sf : State × Option ExcId) (i : Nat) (hi : i < args.length) :
    closeOne args sf i
      = ((sf.1.addCloser i .owner).emit (.close i), Cleanup.replaceBy args[i].close.exc sf.2) := by
  rw [closeOne, List.getElem?_eq_getElem hi]

theorem closeOwned_log (args : List Arg) (l : List Nat) (sf : State × Option ExcId)
    (h : ∀ i ∈ l, i < args.length) :
    (l.foldl (closeOne args) sf).1.log = sf.1.log ++ l.map Ev.close := by
  induction l generalizing sf with
  | nil => exact (List.append_nil _).symm
  | cons i l ih =>
    rw [List.foldl_cons, ih _ (fun j hj => h j (List.mem_cons_of_mem _ hj)), closeOne_lt args sf i (h i List.mem_cons_self)]
    exact List.append_assoc _ _ _

theorem toCleanup_exc (c : CloseBeh) : c.toCleanup.exc = c.exc := by cases c <;> rfl

theorem foldl_closeOne_failure (args : List Arg) (l : List Nat) (sf : State × Option ExcId) :
    (l.foldl (closeOne args) sf).2 = Cleanup.replaceBy (Cleanup.lastFailure (ownedBehs args l)) sf.2 := by
  induction l generalizing sf with
  | nil => rfl
  | cons i l ih =>
    rw [List.foldl_cons, ih]
    unfold ownedBehs closeOne
    cases ha : args[i]? with
    | none => simp [ha]
    | some a =>
      simp only [List.filterMap_cons, ha, Option.map_some]
      rw [Cleanup.lastFailure_cons, Cleanup.replaceBy_assoc, toCleanup_exc]

/-- the `failure` of `close_all(owned)` is what `Machines/Cleanup.lean`'s `closeAllRobust` raises -/
theorem closeOwned_failure (args : List Arg) (l : List Nat) (st : State) :
    (closeOwned args l st).2 = (Cleanup.closeAllRobust (ownedBehs args l)).2 := by
  unfold closeOwned
  rw [foldl_closeOne_failure, Cleanup.closeAllRobust_closed, Cleanup.replaceBy_none_right]

theorem closeOwned_closedByAt (args : List Arg) (l : List Nat) (sf : State × Option ExcId)
    (h : ∀ i ∈ l, i < args.length) (j : Nat) :
    closedByAt (l.foldl (closeOne args) sf).1 j
      = (closedByAt sf.1 j).map (· ++ List.replicate (l.count j) .owner) := by
  induction l generalizing sf with
  | nil => simp
  | cons i l ih =>
    rw [List.foldl_cons, ih _ (fun j hj => h j (List.mem_cons_of_mem _ hj)), closeOne_lt args sf i (h i List.mem_cons_self)]
    simp only [closedByAt_emit, closedByAt_addCloser]
    by_cases hx : i = j
    · subst hx
      cases closedByAt sf.1 i <;> simp [List.replicate_succ]
    · simp [hx]

/-- result of `self._iterator.aclose()` given the exception leaving the generator -/
def genCloseOf : Option ExcId → GenClose
  | some e => .raised e
  | none => .ok

theorem genAclose_running (args : List Arg) (st : State) (h : st.pc.running = true) :
    genAclose args st = (st, .busy) := by
  unfold genAclose
  cases hpc : st.pc <;> simp [hpc, Pc.running] at h ⊢

/-- `self._iterator.aclose()` at the `yield`: GeneratorExit leaves the scope the generator is in, like a
    cancellation inside the pull does (`cancel_running`) -/
theorem genAclose_yield (args : List Arg) (st : State) (idx : Nat) (a : Arg)
    (hpc : st.pc = .suspendedAtYield idx) (ha : args[idx]? = some a) :
    genAclose args st = ({ (leaveScope a idx st).1 with pc := .done }, genCloseOf a.scopeBeh.exc) := by
  unfold genAclose
  rw [hpc]
  dsimp only
  rw [ha]
  dsimp only
  rw [← leaveScope_exc a idx st]
  split <;> rename_i heq <;> rw [heq] <;> rfl

/-- what `self._iterator.aclose()` does to a generator that is not running: it is finished, the scope it was
    suspended in (if any) is left, nothing else happens -/
structure GenClosed (args : List Arg) (st : State) (r : State × GenClose) : Prop where
  pc : r.1.pc = .done
  log : r.1.log = st.log ++ innerClose args st.pc
  result : r.2 = genCloseOf (innerBeh args st.pc).exc
  len : r.1.status.length = st.status.length
  closedByAt : ∀ j, closedByAt r.1 j
      = if st.pc = .suspendedAtYield j ∧ innerBeh args st.pc ≠ .noAclose
        then (closedByAt st j).map (· ++ [.scope]) else closedByAt st j
  noOpen : (∀ i, scopeAt st i = some .open → st.pc.current = some i) → NoOpen r.1

theorem genAclose_idle (args : List Arg) (st : State) (h : st.pc.running = false)
    (hin : ∀ idx, st.pc = .suspendedAtYield idx → idx < args.length) :
    GenClosed args st (genAclose args st) := by
  obtain ⟨owned, pc, status, cur, log⟩ := st
  cases pc with
  | unstarted =>
    exact ⟨rfl, (List.append_nil _).symm, rfl, rfl, fun j => (if_neg (fun h => nomatch h.1)).symm,
      fun ho i hi => nomatch ho i hi⟩
  | done =>
    exact ⟨rfl, (List.append_nil _).symm, rfl, rfl, fun j => (if_neg (fun h => nomatch h.1)).symm,
      fun ho i hi => nomatch ho i hi⟩
  | runningInPull idx k => cases h
  | suspendedAtYield idx =>
    have hlt := hin idx rfl
    rw [genAclose_yield args _ idx args[idx] rfl (List.getElem?_eq_getElem hlt)]
    refine ⟨rfl, ?_, ?_, leaveScope_len _ _ _, fun j => ?_, fun ho => ?_⟩
    · simp only [innerClose, List.getElem?_eq_getElem hlt]; exact leaveScope_log _ _ _
    · simp only [innerBeh, List.getElem?_eq_getElem hlt]
    · simp only [innerBeh, List.getElem?_eq_getElem hlt, Pc.suspendedAtYield.injEq]
      exact leaveScope_closedByAt _ _ _ j
    · exact leaveScope_noOpen _ idx _ fun i hi => (Option.some.inj (ho i hi)).symm

theorem genAclose_owned (args : List Arg) (st : State) : (genAclose args st).1.owned = st.owned := by
  unfold genAclose
  cases st.pc with
  | unstarted => rfl
  | done => rfl
  | runningInPull idx k => rfl
  | suspendedAtYield idx =>
    dsimp only
    cases args[idx]? with
    | none => rfl
    | some a =>
      dsimp only
      have ho := leaveScope_owned a idx st
      split <;> (rename_i heq; rw [heq] at ho; exact ho)

theorem genAclose_inv (args : List Arg) (st : State) (h : Inv args.length st) :
    Inv args.length (genAclose args st).1 := by
  cases hr : st.pc.running with
  | true => rw [genAclose_running args st hr]; exact h
  | false =>
    have hin : ∀ idx, st.pc = .suspendedAtYield idx → idx < args.length :=
      fun idx hpc => inv_current_lt _ st h idx (by rw [hpc]; rfl)
    have hg := genAclose_idle args st hr hin
    exact noOpen_inv _ _ (hg.len.trans h.1) (hg.noOpen fun i hi => (h.2 i).mp hi) (by rw [hg.pc]; rfl)

/-- `chain.aclose()` in terms of its two halves: the `finally` clause decides the answer unless it succeeds -/
theorem aclose_eq (args : List Arg) (st : State) :
    aclose args st = ((genAclose args (closeOwned args st.owned st).1).1,
      match (genAclose args (closeOwned args st.owned st).1).2 with
      | .busy => .busy
      | .raised e => .raised e
      | .ok => outOf .closed (closeOwned args st.owned st).2) := by
  unfold aclose
  dsimp only
  split <;> rename_i heq <;> rw [heq]
  cases (closeOwned args st.owned st).2 <;> rfl

theorem aclose_owned (args : List Arg) (st : State) : (aclose args st).1.owned = st.owned := by
  rw [aclose_eq]
  exact (genAclose_owned args _).trans (closeOwned_frame args _ st).owned

theorem aclose_inv (args : List Arg) (st : State) (h : Inv args.length st) :
    Inv args.length (aclose args st).1 := by
  rw [aclose_eq]
  exact genAclose_inv args _ (closeOwned_inv _ args _ st h)

theorem aclose_running (args : List Arg) (st : State) (h : st.pc.running = true) :
    aclose args st = ((closeOwned args st.owned st).1, .busy) := by
  rw [aclose_eq, genAclose_running args _ (by rw [(closeOwned_frame args _ st).pc]; exact h)]

theorem aclose_snd_idle (args : List Arg) (st : State) (h : st.pc.running = false)
    (hin : ∀ idx, st.pc = .suspendedAtYield idx → idx < args.length) :
    (aclose args st).2
      = outOf .closed (Cleanup.closeAllRobust (ownedBehs args st.owned ++ [innerBeh args st.pc])).2 := by
  have hpc := (closeOwned_frame args st.owned st).pc
  have hg := (genAclose_idle args (closeOwned args st.owned st).1
    (by rw [hpc]; exact h) (by rw [hpc]; exact hin)).result
  rw [aclose_eq, hg, hpc, closeOwned_failure, Cleanup.closeAllRobust_closed, Cleanup.closeAllRobust_closed,
    Cleanup.lastFailure_snoc]
  cases (innerBeh args st.pc).exc <;> rfl

theorem aclose_done_log (args : List Arg) (st : State) (hpc : st.pc = .done)
    (hlt : ∀ i ∈ st.owned, i < args.length) :
    (aclose args st).1.log = st.log ++ st.owned.map Ev.close := by
  have hf := closeOwned_frame args st.owned st
  rw [aclose_eq, (genAclose_idle args _ (by rw [hf.pc, hpc]; rfl) (fun _ h => by rw [hf.pc, hpc] at h; cases h)).log,
    hf.pc, hpc]
  exact (List.append_nil _).trans (closeOwned_log args _ (st, none) hlt)

theorem cancel_idle (args : List Arg) (st : State) (h : st.pc.running = false) :
    cancel args st = (st, .idle) := by
  unfold cancel
  cases hpc : st.pc <;> simp [hpc, Pc.running] at h ⊢

theorem cancel_running (args : List Arg) (st : State) (idx k : Nat) (a : Arg)
    (hpc : st.pc = .runningInPull idx k) (ha : args[idx]? = some a) :
    cancel args st
      = ({ (leaveScope a idx st).1 with pc := .done }, outOf .cancelled a.scopeBeh.exc) := by
  unfold cancel
  rw [hpc]
  dsimp only
  rw [ha]
  dsimp only
  rw [← leaveScope_exc a idx st]
  split <;> rename_i heq <;> rw [heq] <;> rfl

theorem cancel_owned (args : List Arg) (st : State) : (cancel args st).1.owned = st.owned := by
  cases hr : st.pc.running with
  | false => rw [cancel_idle args st hr]
  | true =>
    cases hpc : st.pc with
    | runningInPull idx k =>
      cases ha : args[idx]? with
      | some a => rw [cancel_running args st idx k a hpc ha]; exact leaveScope_owned a idx st
      | none => unfold cancel; rw [hpc]; dsimp only; rw [ha]
    | _ => rw [hpc] at hr; cases hr

theorem leave_inv (n : Nat) (a : Arg) (idx : Nat) (st : State) (h : Inv n st) (hpc : st.pc.current = some idx) :
    Inv n { (leaveScope a idx st).1 with pc := .done } :=
  noOpen_inv n _ ((leaveScope_len a idx st).trans h.1)
    (leaveScope_noOpen a idx st (inv_onlyOpen n st h idx hpc)) rfl

theorem cancel_inv (args : List Arg) (st : State) (h : Inv args.length st) :
    Inv args.length (cancel args st).1 := by
  cases hpc : st.pc with
  | runningInPull idx k =>
    have hcur : st.pc.current = some idx := by rw [hpc]; rfl
    rw [cancel_running args st idx k _ hpc (List.getElem?_eq_getElem (inv_current_lt _ st h idx hcur))]
    exact leave_inv _ _ idx st h hcur
  | _ => rw [cancel_idle args st (by rw [hpc]; rfl)]; exact h

theorem step_owned (args : List Arg) (st : State) (op : Op) : (step args st op).1.owned = st.owned := by
  cases op
  · exact next_owned args st
  · exact aclose_owned args st
  · exact aclose_owned args st
  · exact cancel_owned args st

theorem step_inv (args : List Arg) (st : State) (op : Op) (h : Inv args.length st) :
    Inv args.length (step args st op).1 := by
  cases op
  · exact next_inv args st h
  · exact aclose_inv args st h
  · exact aclose_inv args st h
  · exact cancel_inv args st h

/-- what every state of a run of `chain(*args)` / `chain.from_iterable(args)` satisfies -/
structure Reach (mode : Mode) (args : List Arg) (st : State) : Prop where
  inv : Inv args.length st
  owned : st.owned = ownedOf mode args

theorem Reach.step {mode : Mode} {args : List Arg} {st : State} (h : Reach mode args st) (op : Op) :
    Reach mode args (step args st op).1 :=
  ⟨step_inv args st op h.inv, (step_owned args st op).trans h.owned⟩

theorem init_inv (mode : Mode) (args : List Arg) : Inv args.length (init mode args) := by
  apply noOpen_inv
  · simp [init]
  · intro i hi
    simp only [scopeAt, init, List.getElem?_replicate] at hi
    split at hi <;> simp at hi
  · rfl

theorem reach_reach (mode : Mode) (args : List Arg) (ops : List Op) : Reach mode args (reach mode args ops) := by
  suffices ∀ st, Reach mode args st → Reach mode args (run args st ops).1 from this _ ⟨init_inv mode args, rfl⟩
  induction ops with
  | nil => exact fun _ h => h
  | cons op ops ih => exact fun st h => ih _ (h.step op)

theorem mem_ownedOf (mode : Mode) (args : List Arg) (i : Nat) :
    i ∈ ownedOf mode args ↔ mode = .positional ∧ ∃ a, args[i]? = some a ∧ a.ownable = true := by
  cases mode with
  | fromIterable => exact ⟨fun h => (nomatch h), fun h => (nomatch h.1)⟩
  | positional => exact (Cleanup.mem_positions Arg.ownable args i).trans ⟨fun h => ⟨rfl, h⟩, fun h => h.2⟩

theorem ownedOf_pairwise (mode : Mode) (args : List Arg) : (ownedOf mode args).Pairwise (· < ·) := by
  cases mode with
  | fromIterable => exact List.Pairwise.nil
  | positional => exact Cleanup.pairwise_positions _ args 0

theorem ownedOf_lt (mode : Mode) (args : List Arg) : ∀ i ∈ ownedOf mode args, i < args.length := by
  intro i hi
  obtain ⟨-, a, ha, -⟩ := (mem_ownedOf mode args i).mp hi
  exact (List.getElem?_eq_some_iff.1 ha).1

theorem ownedOf_length_le (mode : Mode) (args : List Arg) : (ownedOf mode args).length ≤ args.length := by
  cases mode with
  | fromIterable => exact Nat.zero_le _
  | positional =>
    rw [ownedOf, List.length_map]
    exact Nat.le_trans (List.length_filter_le _ _) (Nat.le_of_eq List.length_zipIdx)

theorem ownedOf_kinds (mode : Mode) (args args' : List Arg) (h : args.map (·.kind) = args'.map (·.kind)) :
    ownedOf mode args = ownedOf mode args' := by
  have key : ∀ l : List Arg, ownedOf .positional l
      = ((l.map (·.kind)).zipIdx.filter (·.1 == .asyncIteratorWithClose)).map (·.2) := fun l => by
    rw [List.zipIdx_map, List.filter_map, List.map_map]; rfl
  cases mode with
  | fromIterable => rfl
  | positional => rw [key, key, h]

theorem countP_le_one_of_unique {α : Type} (p : α → Bool) (l : List α)
    (h : ∀ (i j : Nat) a b, l[i]? = some a → l[j]? = some b → p a = true → p b = true → i = j) :
    l.countP p ≤ 1 := by
  induction l with
  | nil => exact Nat.zero_le _
  | cons x xs ih =>
    rw [List.countP_cons]
    by_cases hx : p x = true
    · have hz : xs.countP p = 0 := List.countP_eq_zero.2 fun a ha hpa => by
        obtain ⟨i, hi⟩ := List.mem_iff_getElem?.mp ha
        exact Nat.succ_ne_zero i (h (i + 1) 0 a x hi rfl hpa hx)
      rw [hz, if_pos hx]; exact Nat.le_refl _
    · rw [if_neg hx]
      exact ih fun i j a b hi hj ha hb => Nat.succ.inj (h (i + 1) (j + 1) a b hi hj ha hb)

theorem ownedBehs_length (args : List Arg) (l : List Nat) (h : ∀ i ∈ l, i < args.length) :
    (ownedBehs args l).length = l.length := by
  induction l with
  | nil => rfl
  | cons i l ih =>
    rw [ownedBehs, List.filterMap_cons, List.getElem?_eq_getElem (h i List.mem_cons_self)]
    exact congrArg (· + 1) (ih fun j hj => h j (List.mem_cons_of_mem _ hj))

theorem next_running (args : List Arg) (st : State) (idx k : Nat) (a : Arg)
    (hpc : st.pc = .runningInPull idx k) (ha : args[idx]? = some a) :
    next args st = continuePull args a idx k st := by
  unfold next; rw [hpc]; dsimp only; rw [ha]

end AsyncVerif.ChainObj
