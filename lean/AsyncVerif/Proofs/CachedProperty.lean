import AsyncVerif.Machines.CachedProperty
/-!
# cached_property — the invariant `Inv` of reachable states and its preservation

`Inv.setPc_lock` / `Inv.setPc` / `Inv.setPc_idle` (one task moves) and `endRun_inv` (a getter run
ends) carry the field-by-field work; every micro-step and operation is an instance of one of them,
up to `exec_inv`.
-/
namespace AsyncVerif.CachedProperty

def RunSt.live : RunSt → Prop
  | .running => True | .returned => True | _ => False

/-- v is the value of a getter run on instance i that returned -/
def Good (cfg : Cfg) (s : State) (i v : Nat) : Prop :=
  v < s.nRuns ∧ (s.run v).st = .returned ∧ (s.run v).inst = i ∧ cfg.ok v = true

/-- `returned_gone`: once a run for placeholder `p` has returned, `p` is not what its instance's slot
    holds, so the re-check under `p`'s lock never starts a second run after a success.
    `live_unique`: with a lock, at most one run per placeholder is running or returned.
    `df_inj`, `df_none` ("del-free"): on an instance whose attribute was never deleted there is at most
    one placeholder, and none as long as the slot is empty. -/
structure Inv (cfg : Cfg) (s : State) : Prop where
  fresh_task : ∀ t, s.nTasks ≤ t → s.pc t = .unborn
  pc_start : ∀ t p, s.pc t = .start (.ph p) → p < s.nextP ∧ s.phInst p = s.tinst t
  pc_entered : ∀ t p, s.pc t = .entered p → p < s.nextP ∧ s.phInst p = s.tinst t
  pc_lockwait : ∀ t p, s.pc t = .lockwait p → p < s.nextP ∧ s.phInst p = s.tinst t
  pc_holding : ∀ t p, s.pc t = .holding p → p < s.nextP ∧ s.phInst p = s.tinst t
  pc_getter : ∀ t p r k, s.pc t = .getter p r k → p < s.nextP ∧ s.phInst p = s.tinst t
  handle_ph : ∀ t p, t < s.nTasks → s.thandle t = .ph p → p < s.nextP ∧ s.phInst p = s.tinst t
  slot_ph : ∀ i p, s.slot i = some (.ph p) → p < s.nextP ∧ s.phInst p = i
  lock_owner : ∀ p t, s.lock p = some t → s.pc t = .holding p ∨ ∃ r k, s.pc t = .getter p r k
  owner_holding : cfg.lock = true → ∀ p t, s.pc t = .holding p → s.lock p = some t
  owner_getter : cfg.lock = true → ∀ p t r k, s.pc t = .getter p r k → s.lock p = some t
  nolock : cfg.lock = false → ∀ p, s.lock p = none
  lockwait_lock : ∀ t p, s.pc t = .lockwait p → cfg.lock = true
  getter_run : ∀ t p r k, s.pc t = .getter p r k → r < s.nRuns ∧ s.run r = ⟨s.phInst p, p, t, .running⟩
  run_getter : ∀ r, r < s.nRuns → (s.run r).st = .running → ∃ k, s.pc (s.run r).task = .getter (s.run r).ph r k
  run_ph : ∀ r, r < s.nRuns → (s.run r).ph < s.nextP ∧ (s.run r).inst = s.phInst (s.run r).ph
  slot_val : ∀ i v, s.slot i = some (.val v) → Good cfg s i v
  task_val : ∀ t v, (s.pc t = .done (.ok v) ∨ s.pc t = .start (.val v)) → Good cfg s (s.tinst t) v
  handle_val : ∀ t v, t < s.nTasks → s.thandle t = .val v → Good cfg s (s.tinst t) v
  returned_gone : ∀ r, r < s.nRuns → (s.run r).st = .returned → s.slot (s.run r).inst ≠ some (.ph (s.run r).ph)
  live_unique : cfg.lock = true → ∀ r r', r < s.nRuns → r' < s.nRuns → (s.run r).ph = (s.run r').ph →
    (s.run r).st.live → (s.run r').st.live → r = r'
  df_inj : ∀ p p', p < s.nextP → p' < s.nextP → s.phInst p = s.phInst p' → s.dels (s.phInst p) = 0 → p = p'
  df_none : ∀ i p, s.slot i = none → s.dels i = 0 → p < s.nextP → s.phInst p ≠ i


/-- the placeholder a program counter refers to -/
def Pc.ph? : Pc → Option Nat
  | .start (.ph p) | .entered p | .lockwait p | .holding p | .getter p _ _ => some p
  | _ => none

/-- the program counter is inside `async with p._lock:` -/
def Pc.owns (x : Pc) (p : Nat) : Prop := x = .holding p ∨ ∃ r k, x = .getter p r k

theorem pc_setPc {s : State} {t t' : Nat} {x y : Pc} (h : (setPc s t x).pc t' = y) :
    (t' = t ∧ x = y) ∨ (t' ≠ t ∧ s.pc t' = y) := by
  by_cases e : t' = t
  · exact .inl ⟨e, by simpa [setPc, e] using h⟩
  · exact .inr ⟨e, by simpa [setPc, e] using h⟩

theorem pc_setPc_self (s : State) (t : Nat) (x : Pc) : (setPc s t x).pc t = x := by
  simp only [setPc, if_true]

theorem access_cases (s : State) (i : Nat) :
    (∃ x, s.slot i = some x ∧ access s i = (s, x)) ∨ (s.slot i = none ∧ access s i = (newPh s i, .ph s.nextP)) := by
  unfold access; cases h : s.slot i <;> simp

namespace Inv
variable {cfg : Cfg} {s : State}

theorem born (h : Inv cfg s) {t : Nat} (hpc : s.pc t ≠ .unborn) : t < s.nTasks :=
  Nat.lt_of_not_le fun hle => hpc (h.fresh_task t hle)

/-- a running getter run pins the program counter of its task -/
theorem not_running (h : Inv cfg s) {t r : Nat} (hpc : ∀ p k, s.pc t ≠ .getter p r k) (hr : r < s.nRuns)
    (hst : (s.run r).st = .running) : (s.run r).task ≠ t := by
  intro e
  obtain ⟨k, hk⟩ := h.run_getter r hr hst
  exact hpc _ k (e ▸ hk)

/-- **Moving one task.**  Task `t` goes to program counter `x` while the lock table becomes `lk`: the
    invariant survives if `x` is consistent with the rest of the state (its placeholder exists and
    belongs to `t`'s instance, it holds exactly the locks `lk` gives it, a value it carries is good, a
    getter run it is in is recorded as running) and nobody else's lock is touched.  Every field that
    reads neither `pc` nor `lock` carries over unchanged. -/
theorem setPc_lock (h : Inv cfg s) {t : Nat} {x : Pc} {lk : Nat → Option Nat} (ht : t < s.nTasks)
    (hph : ∀ p, x.ph? = some p → p < s.nextP ∧ s.phInst p = s.tinst t)
    (hlw : ∀ p, x = .lockwait p → cfg.lock = true)
    (hval : ∀ v, x = .done (.ok v) ∨ x = .start (.val v) → Good cfg s (s.tinst t) v)
    (hgr : ∀ p r k, x = .getter p r k → r < s.nRuns ∧ s.run r = ⟨s.phInst p, p, t, .running⟩)
    (hrg : ∀ r, r < s.nRuns → (s.run r).st = .running → (s.run r).task = t →
      ∃ k, x = .getter (s.run r).ph r k)
    (hlk : ∀ p, lk p = some t → x.owns p)
    (hown : cfg.lock = true → ∀ p, x.owns p → lk p = some t)
    (hoth : ∀ p t', t' ≠ t → (lk p = some t' ↔ s.lock p = some t'))
    (hnl : cfg.lock = false → ∀ p, lk p = none) :
    Inv cfg (setPc { s with lock := lk } t x) :=
  { h with
    fresh_task := fun t' (ht' : s.nTasks ≤ t') => by
      have e : t' ≠ t := by omega
      simpa [setPc, e] using h.fresh_task t' ht'
    pc_start := fun t' p hp => by
      rcases pc_setPc hp with ⟨rfl, rfl⟩ | ⟨_, hp⟩
      · exact hph p rfl
      · exact h.pc_start t' p hp
    pc_entered := fun t' p hp => by
      rcases pc_setPc hp with ⟨rfl, rfl⟩ | ⟨_, hp⟩
      · exact hph p rfl
      · exact h.pc_entered t' p hp
    pc_lockwait := fun t' p hp => by
      rcases pc_setPc hp with ⟨rfl, rfl⟩ | ⟨_, hp⟩
      · exact hph p rfl
      · exact h.pc_lockwait t' p hp
    pc_holding := fun t' p hp => by
      rcases pc_setPc hp with ⟨rfl, rfl⟩ | ⟨_, hp⟩
      · exact hph p rfl
      · exact h.pc_holding t' p hp
    pc_getter := fun t' p r k hp => by
      rcases pc_setPc hp with ⟨rfl, rfl⟩ | ⟨_, hp⟩
      · exact hph p rfl
      · exact h.pc_getter t' p r k hp
    lock_owner := fun p t' hl => by
      by_cases e : t' = t
      · subst e; simpa [setPc, Pc.owns] using hlk p hl
      · simpa [setPc, e] using h.lock_owner p t' ((hoth p t' e).1 hl)
    owner_holding := fun hc p t' hp => by
      rcases pc_setPc hp with ⟨rfl, rfl⟩ | ⟨e, hp⟩
      · exact hown hc p (.inl rfl)
      · exact (hoth p t' e).2 (h.owner_holding hc p t' hp)
    owner_getter := fun hc p t' r k hp => by
      rcases pc_setPc hp with ⟨rfl, rfl⟩ | ⟨e, hp⟩
      · exact hown hc p (.inr ⟨r, k, rfl⟩)
      · exact (hoth p t' e).2 (h.owner_getter hc p t' r k hp)
    nolock := hnl
    lockwait_lock := fun t' p hp => by
      rcases pc_setPc hp with ⟨rfl, rfl⟩ | ⟨_, hp⟩
      · exact hlw p rfl
      · exact h.lockwait_lock t' p hp
    getter_run := fun t' p r k hp => by
      rcases pc_setPc hp with ⟨rfl, rfl⟩ | ⟨_, hp⟩
      · exact hgr p r k rfl
      · exact h.getter_run t' p r k hp
    run_getter := fun r hr hst => by
      by_cases e : (s.run r).task = t
      · obtain ⟨k, hk⟩ := hrg r hr hst e
        exact ⟨k, by simp [setPc, e, hk]⟩
      · obtain ⟨k, hk⟩ := h.run_getter r hr hst
        exact ⟨k, by simpa [setPc, e] using hk⟩
    task_val := fun t' v hp => by
      by_cases e : t' = t
      · subst e; exact hval v (by simpa [setPc] using hp)
      · exact h.task_val t' v (by simpa [setPc, e] using hp) }

/-- `setPc_lock` with the lock table left alone -/
theorem setPc (h : Inv cfg s) {t : Nat} {x : Pc} (ht : t < s.nTasks)
    (hph : ∀ p, x.ph? = some p → p < s.nextP ∧ s.phInst p = s.tinst t)
    (hlw : ∀ p, x = .lockwait p → cfg.lock = true)
    (hval : ∀ v, x = .done (.ok v) ∨ x = .start (.val v) → Good cfg s (s.tinst t) v)
    (hgr : ∀ p r k, x = .getter p r k → r < s.nRuns ∧ s.run r = ⟨s.phInst p, p, t, .running⟩)
    (hrg : ∀ r, r < s.nRuns → (s.run r).st = .running → (s.run r).task = t →
      ∃ k, x = .getter (s.run r).ph r k)
    (hlk : ∀ p, s.lock p = some t → x.owns p)
    (hown : cfg.lock = true → ∀ p, x.owns p → s.lock p = some t) :
    Inv cfg (CachedProperty.setPc s t x) :=
  h.setPc_lock ht hph hlw hval hgr hrg hlk hown (fun _ _ _ => Iff.rfl) h.nolock

/-- a task outside every `async with` moves to a program counter outside every `async with` -/
theorem setPc_idle (h : Inv cfg s) {t : Nat} {x : Pc} (hb : s.pc t ≠ .unborn)
    (hold : ∀ p, ¬ (s.pc t).owns p) (hnew : ∀ p, ¬ x.owns p)
    (hph : ∀ p, x.ph? = some p → p < s.nextP ∧ s.phInst p = s.tinst t)
    (hlw : ∀ p, x = .lockwait p → cfg.lock = true)
    (hval : ∀ v, x = .done (.ok v) ∨ x = .start (.val v) → Good cfg s (s.tinst t) v) :
    Inv cfg (CachedProperty.setPc s t x) :=
  h.setPc (h.born hb) hph hlw hval
    (fun p r k hx => absurd (.inr ⟨r, k, hx⟩) (hnew p))
    (fun r hr hst ht => absurd ht (h.not_running (fun p k e => hold p (.inr ⟨r, k, e⟩)) hr hst))
    (fun p hl => absurd (h.lock_owner _ _ hl) (hold p))
    (fun _ p hx => absurd hx (hnew p))

/-- whoever is inside `async with p._lock` is the only one who can be recorded as its owner -/
theorem lock_holder (h : Inv cfg s) {p t t' : Nat} (ho : (s.pc t).owns p) (hl : s.lock p = some t') :
    t' = t := by
  cases hc : cfg.lock
  · rw [h.nolock hc p] at hl; cases hl
  · have : s.lock p = some t := by
      rcases ho with ho | ⟨r, k, ho⟩
      · exact h.owner_holding hc p t ho
      · exact h.owner_getter hc p t r k ho
    rw [this] at hl; exact (Option.some.inj hl).symm

/-- `release` is "free the lock" also without a lock type: then every lock is free already -/
theorem release_eq (h : Inv cfg s) {s' : State} (hs' : s'.lock = s.lock) (p : Nat) :
    release cfg s' p = setLock s' p none := by
  unfold release
  split
  · rfl
  · rename_i hc
    have hl : s'.lock = fun _ => none := hs' ▸ funext (h.nolock (by simpa using hc))
    cases s'; cases hl; simp [setLock]

end Inv

theorem newPh_ph {s : State} {i p j : Nat} (h : p < s.nextP ∧ s.phInst p = j) :
    p < (newPh s i).nextP ∧ (newPh s i).phInst p = j :=
  ⟨Nat.lt_succ_of_lt h.1, by simp [newPh, Nat.ne_of_lt h.1, h.2]⟩

theorem newPh_inv (cfg : Cfg) (s : State) (i : Nat) (h : Inv cfg s) (hs : s.slot i = none) : Inv cfg (newPh s i) :=
  { h with
    pc_start := fun t p hp => newPh_ph (h.pc_start t p hp)
    pc_entered := fun t p hp => newPh_ph (h.pc_entered t p hp)
    pc_lockwait := fun t p hp => newPh_ph (h.pc_lockwait t p hp)
    pc_holding := fun t p hp => newPh_ph (h.pc_holding t p hp)
    pc_getter := fun t p r k hp => newPh_ph (h.pc_getter t p r k hp)
    handle_ph := fun t p ht hp => newPh_ph (h.handle_ph t p ht hp)
    slot_ph := fun j p hj => by
      by_cases e : j = i
      · obtain rfl : s.nextP = p := by simpa [newPh, e] using hj
        simp [newPh, e]
      · exact newPh_ph (h.slot_ph j p (by simpa [newPh, e] using hj))
    lock_owner := fun p t hl => by
      by_cases e : p = s.nextP
      · simp [newPh, e] at hl
      · exact h.lock_owner p t (by simpa [newPh, e] using hl)
    owner_holding := fun hc p t hp => by
      have e := Nat.ne_of_lt (h.pc_holding t p hp).1
      simpa [newPh, e] using h.owner_holding hc p t hp
    owner_getter := fun hc p t r k hp => by
      have e := Nat.ne_of_lt (h.pc_getter t p r k hp).1
      simpa [newPh, e] using h.owner_getter hc p t r k hp
    nolock := fun hc p => by simp [newPh, h.nolock hc p]
    getter_run := fun t p r k hp => by
      have e := Nat.ne_of_lt (h.pc_getter t p r k hp).1
      simpa [newPh, e] using h.getter_run t p r k hp
    run_ph := fun r hr =>
      let ⟨a, b⟩ := h.run_ph r hr
      ⟨Nat.lt_succ_of_lt a, by simp [newPh, Nat.ne_of_lt a, b]⟩
    slot_val := fun j v hj => by
      by_cases e : j = i
      · simp [newPh, e] at hj
      · exact h.slot_val j v (by simpa [newPh, e] using hj)
    returned_gone := fun r hr hst => by
      have e := Nat.ne_of_lt (h.run_ph r hr).1
      have := h.returned_gone r hr hst
      simp only [newPh]; split
      · simpa using Ne.symm e
      · exact this
    df_inj := fun p p' hp hp' he hd => by
      -- a placeholder created for `i` while `i` has an empty slot and no `del`s is the only one for `i`
      have := h.df_inj p p'; have := h.df_none i p hs; have := h.df_none i p' hs
      simp only [newPh] at hp hp' he hd; grind
    df_none := fun j p hj hd hp => by
      have := h.df_none j p
      simp only [newPh] at hj hd hp ⊢; grind }

theorem blocked_inv (cfg : Cfg) (s : State) (t p : Nat) (h : Inv cfg s) (hpc : s.pc t = .entered p)
    (hl : cfg.lock = true) : Inv cfg (setPc s t (.lockwait p)) :=
  h.setPc_idle (by simp [hpc]) (by simp [hpc, Pc.owns]) (by simp [Pc.owns])
    (fun _ e => Option.some.inj e ▸ h.pc_entered t p hpc) (fun _ _ => hl) (by simp)

theorem acquire_inv (cfg : Cfg) (s : State) (t p : Nat) (h : Inv cfg s)
    (hpc : s.pc t = .entered p ∨ s.pc t = .lockwait p)
    (hl : cfg.lock = true) (hf : s.lock p = none) : Inv cfg (setPc (setLock s p (some t)) t (.holding p)) := by
  have hidle : ∀ q, ¬ (s.pc t).owns q := by rcases hpc with e | e <;> simp [e, Pc.owns]
  refine h.setPc_lock (h.born (by rcases hpc with e | e <;> simp [e])) (fun q e => ?_) (by simp) (by simp)
    (by simp) (fun r hr hst => ?_) (fun q hq => ?_) (fun _ q hq => ?_) (fun q t' ht' => ?_) (by simp [hl])
  · obtain rfl : p = q := Option.some.inj e
    rcases hpc with e | e
    · exact h.pc_entered t p e
    · exact h.pc_lockwait t p e
  · exact fun e => absurd e (h.not_running (fun q k e => hidle q (.inr ⟨r, k, e⟩)) hr hst)
  · by_cases e : q = p
    · exact .inl (e ▸ rfl)
    · exact absurd (h.lock_owner _ _ (by simpa [e] using hq)) (hidle q)
  · obtain rfl : p = q := by simpa [Pc.owns] using hq
    simp
  · by_cases e : q = p
    · subst e; simp [hf, Ne.symm ht']
    · simp [e]

theorem enter_nolock_inv (cfg : Cfg) (s : State) (t p : Nat) (h : Inv cfg s) (hpc : s.pc t = .entered p)
    (hl : cfg.lock = false) : Inv cfg (setPc s t (.holding p)) :=
  h.setPc (h.born (by simp [hpc])) (fun _ e => Option.some.inj e ▸ h.pc_entered t p hpc) (by simp) (by simp)
    (by simp)
    (fun r hr hst e => absurd e (h.not_running (by simp [hpc]) hr hst))
    (fun q hq => by simp [h.nolock hl q] at hq) (by simp [hl])

theorem awaitStored_entered_inv (cfg : Cfg) (s : State) (t p : Nat) (x : Stored) (h : Inv cfg s)
    (hpc : s.pc t = .entered p) (hs : s.slot (s.phInst p) = some x) : Inv cfg (awaitStored s t x).1 := by
  have hi := (h.pc_entered t p hpc).2
  cases x with
  | val v =>
    exact h.setPc_idle (by simp [hpc]) (by simp [hpc, Pc.owns]) (by simp [Pc.owns]) (by simp [Pc.ph?]) (by simp)
      (fun w e => by obtain rfl : v = w := by simpa using e
                     exact hi ▸ h.slot_val _ v hs)
  | ph p' =>
    exact h.setPc_idle (by simp [hpc]) (by simp [hpc, Pc.owns]) (by simp [Pc.owns])
      (fun _ e => Option.some.inj e ▸ hi ▸ h.slot_ph _ p' hs) (by simp) (by simp)

/-- leaving `async with p._lock` without having run the getter -/
theorem awaitStored_holding_inv (cfg : Cfg) (s : State) (t p : Nat) (x : Stored) (h : Inv cfg s)
    (hpc : s.pc t = .holding p) (hs : s.slot (s.phInst p) = some x) (hne : x ≠ .ph p) :
    Inv cfg (awaitStored (release cfg s p) t x).1 := by
  have hi := (h.pc_holding t p hpc).2
  have hown : (s.pc t).owns p := .inl hpc
  have hleave : ∀ y : Pc, (∀ q, ¬ y.owns q) →
      (∀ q, y.ph? = some q → q < s.nextP ∧ s.phInst q = s.tinst t) → (∀ q, y ≠ .lockwait q) →
      (∀ v, y = .done (.ok v) ∨ y = .start (.val v) → Good cfg s (s.tinst t) v) →
      Inv cfg (setPc (release cfg s p) t y) := by
    intro y hy hph hlw hval
    rw [h.release_eq rfl]
    refine h.setPc_lock (h.born (by simp [hpc])) hph (fun q e => absurd e (hlw q)) hval
      (fun q r k e => absurd (.inr ⟨r, k, e⟩) (hy q))
      (fun r hr hst e => absurd e (h.not_running (by simp [hpc]) hr hst))
      (fun q hq => ?_) (fun _ q hq => absurd hq (hy q)) (fun q t' ht' => ?_)
      (fun hc q => by simp [h.nolock hc q])
    · by_cases e : q = p
      · simp [e] at hq
      · have := h.lock_owner q t (by simpa [e] using hq)
        simp [hpc, Pc.owns] at this
        exact absurd this.symm e
    · by_cases e : q = p
      · subst e
        simpa using fun hq => ht' (h.lock_holder hown hq)
      · simp [e]
  cases x with
  | val v =>
    exact hleave _ (by simp [Pc.owns]) (by simp [Pc.ph?]) (by simp)
      (fun w e => by obtain rfl : v = w := by simpa using e
                     exact hi ▸ h.slot_val _ v hs)
  | ph p' =>
    exact hleave _ (by simp [Pc.owns]) (fun _ e => Option.some.inj e ▸ hi ▸ h.slot_ph _ p' hs) (by simp)
      (by simp)

/-- the state in which task `t`, holding the lock of `p`, has started getter run `s.nRuns` -/
abbrev startRunSt (cfg : Cfg) (s : State) (t p : Nat) : State :=
  setPc { s with nRuns := s.nRuns + 1,
                 run := fun r' => if r' = s.nRuns then ⟨s.phInst p, p, t, .running⟩ else s.run r' }
    t (.getter p s.nRuns (cfg.susp s.nRuns))

/-- `holding p` with the slot still this placeholder: a new getter run starts -/
theorem startRun_inv (cfg : Cfg) (s : State) (t p : Nat) (h : Inv cfg s)
    (hpc : s.pc t = .holding p) (hs : s.slot (s.phInst p) = some (.ph p)) :
    Inv cfg (startRunSt cfg s t p) := by
  have hph := h.pc_holding t p hpc
  have hold : ∀ {r}, r < s.nRuns → r ≠ s.nRuns := fun hr => Nat.ne_of_lt hr
  have hgood : ∀ {i v}, Good cfg s i v → Good cfg (startRunSt cfg s t p) i v := fun {i v} hg =>
    ⟨Nat.lt_succ_of_lt hg.1, by simpa [setPc, hold hg.1] using hg.2⟩
  have hcase : ∀ {t' y}, (startRunSt cfg s t p).pc t' = y →
      (t' = t ∧ Pc.getter p s.nRuns (cfg.susp s.nRuns) = y) ∨ (t' ≠ t ∧ s.pc t' = y) := pc_setPc
  have hpc' : ∀ {t' y}, (startRunSt cfg s t p).pc t' = y →
      (∀ q r k, y ≠ .getter q r k) → s.pc t' = y := fun e hy => by
    rcases hcase e with ⟨_, rfl⟩ | ⟨_, e⟩
    · exact absurd rfl (hy _ _ _)
    · exact e
  -- no earlier run of placeholder `p` is live: a running one would hold `p`'s lock, which `t` holds;
  -- a returned one would have replaced the placeholder in the slot
  have hfirst : cfg.lock = true → ∀ r, r < s.nRuns → (s.run r).ph = p → ¬ (s.run r).st.live := by
    intro hc r hr hp hl
    cases hst : (s.run r).st <;> rw [hst] at hl <;> try exact hl
    · obtain ⟨k, hk⟩ := h.run_getter r hr hst
      have := h.lock_holder (.inl hpc) (hp ▸ h.owner_getter hc _ _ r k hk)
      rw [this, hpc] at hk; cases hk
    · have := h.returned_gone r hr hst
      rw [(h.run_ph r hr).2, hp] at this
      exact this hs
  exact { h with
    fresh_task := fun t' (ht' : s.nTasks ≤ t') => by
      have e : t' ≠ t := by have := h.born (t := t) (by simp [hpc]); omega
      simpa [setPc, e] using h.fresh_task t' ht'
    pc_start := fun t' q e => h.pc_start t' q (hpc' e (by simp))
    pc_entered := fun t' q e => h.pc_entered t' q (hpc' e (by simp))
    pc_lockwait := fun t' q e => h.pc_lockwait t' q (hpc' e (by simp))
    pc_holding := fun t' q e => h.pc_holding t' q (hpc' e (by simp))
    pc_getter := fun t' q r k e => by
      rcases hcase e with ⟨rfl, e'⟩ | ⟨_, e⟩
      · cases e'; exact hph
      · exact h.pc_getter t' q r k e
    lock_owner := fun q t' hl => by
      by_cases e : t' = t
      · subst e
        have := h.lock_owner _ _ hl
        obtain rfl : p = q := by simpa [hpc, Pc.owns] using this
        exact .inr ⟨s.nRuns, cfg.susp s.nRuns, by simp [setPc]⟩
      · simpa [setPc, e] using h.lock_owner q t' hl
    owner_holding := fun hc q t' e => h.owner_holding hc q t' (hpc' e (by simp))
    owner_getter := fun hc q t' r k e => by
      rcases hcase e with ⟨rfl, e'⟩ | ⟨_, e⟩
      · cases e'; exact h.owner_holding hc p t' hpc
      · exact h.owner_getter hc q t' r k e
    lockwait_lock := fun t' q e => h.lockwait_lock t' q (hpc' e (by simp))
    getter_run := fun t' q r k e => by
      rcases hcase e with ⟨rfl, e'⟩ | ⟨_, e⟩
      · cases e'; exact ⟨Nat.lt_succ_self _, by simp [setPc]⟩
      · have := h.getter_run t' q r k e
        exact ⟨Nat.lt_succ_of_lt this.1, by simpa [setPc, hold this.1] using this.2⟩
    run_getter := fun r hr hst => by
      by_cases hrn : r = s.nRuns
      · subst hrn; exact ⟨cfg.susp s.nRuns, by simp [setPc]⟩
      · have hr : r < s.nRuns := by have : r < s.nRuns + 1 := hr; omega
        simp only [setPc, hrn, if_false] at hst ⊢
        obtain ⟨k, hk⟩ := h.run_getter r hr hst
        have := h.not_running (t := t) (by simp [hpc]) hr hst
        exact ⟨k, by simp [this, hk]⟩
    run_ph := fun r hr => by
      by_cases hrn : r = s.nRuns
      · subst hrn; simpa [setPc] using hph.1
      · simpa [setPc, hrn] using h.run_ph r (by have : r < s.nRuns + 1 := hr; omega)
    slot_val := fun i v e => hgood (h.slot_val i v e)
    task_val := fun t' v e => by
      have e' : s.pc t' = .done (.ok v) ∨ s.pc t' = .start (.val v) :=
        e.imp (hpc' · (by simp)) (hpc' · (by simp))
      exact hgood (h.task_val t' v e')
    handle_val := fun t' v ht' e => hgood (h.handle_val t' v ht' e)
    returned_gone := fun r hr hst => by
      by_cases hrn : r = s.nRuns
      · simp [setPc, hrn] at hst
      · simp only [setPc, hrn, if_false] at hst ⊢
        exact h.returned_gone r (by have : r < s.nRuns + 1 := hr; omega) hst
    live_unique := fun hc r r' hr hr' hp hl hl' => by
      have hr : r < s.nRuns + 1 := hr
      have hr' : r' < s.nRuns + 1 := hr'
      by_cases e : r = s.nRuns <;> by_cases e' : r' = s.nRuns
      · rw [e, e']
      · simp only [setPc, e, e', if_true, if_false] at hp hl'
        exact absurd hl' (hfirst hc r' (by omega) hp.symm)
      · simp only [setPc, e, e', if_true, if_false] at hp hl
        exact absurd hl (hfirst hc r (by omega) hp)
      · simp only [setPc, e, e', if_false] at hp hl hl'
        exact h.live_unique hc r r' (by omega) (by omega) hp hl hl' }

theorem getterStep_inv (cfg : Cfg) (s : State) (t p r k : Nat) (h : Inv cfg s)
    (hpc : s.pc t = .getter p r (k + 1)) : Inv cfg (setPc s t (.getter p r k)) := by
  have hsame : ∀ q, (Pc.getter p r k).owns q → q = p := by simp [Pc.owns]
  refine h.setPc (h.born (by simp [hpc])) (fun _ e => Option.some.inj e ▸ h.pc_getter t p r _ hpc) (by simp)
    (by simp) (fun q r' k' e => ?_) (fun r' hr hst e => ?_) (fun q hq => ?_) (fun hc q hq => ?_)
  · cases e; exact h.getter_run t p r _ hpc
  · obtain ⟨k', hk⟩ := h.run_getter r' hr hst
    rw [e, hpc] at hk; cases hk
    exact ⟨k, rfl⟩
  · have := h.lock_owner _ _ hq
    obtain rfl : p = q := by simpa [hpc, Pc.owns] using this
    exact .inr ⟨r, k, rfl⟩
  · rw [hsame q hq]; exact h.owner_getter hc p t r _ hpc

/-- the state in which run `r` of task `t` has ended as `st` with the slots `sl` and the lock of `p` free -/
abbrev endRunSt (s : State) (sl : Nat → Option Stored) (t p r : Nat) (st : RunSt) (res : Res) : State :=
  setPc (setRunSt (setLock { s with slot := sl } p none) r st) t (.done res)

/-- **A getter run ends.**  Task `t`, inside run `r` of placeholder `p`, leaves `async with p._lock`
    with result `res`; the run is recorded as `st`; the slot table becomes `sl`.  Either the run
    returned and its value was stored on `p`'s instance, or it did not return and nothing was stored. -/
theorem endRun_inv {cfg : Cfg} {s : State} (h : Inv cfg s) {t p r k : Nat} (hpc : s.pc t = .getter p r k)
    {st : RunSt} {res : Res} {sl : Nat → Option Stored} (hst : st ≠ .running)
    (hsl : ∀ j, j ≠ s.phInst p → sl j = s.slot j)
    (hslp : sl (s.phInst p) = s.slot (s.phInst p) ∧ st ≠ .returned ∨
      sl (s.phInst p) = some (.val r) ∧ st = .returned ∧ cfg.ok r = true)
    (hres : ∀ v, res = .ok v → v = r ∧ st = .returned ∧ cfg.ok r = true) :
    Inv cfg (endRunSt s sl t p r st res) := by
  obtain ⟨hr, hrun⟩ := h.getter_run t p r k hpc
  have hph := h.pc_getter t p r k hpc
  have hown : (s.pc t).owns p := .inr ⟨r, k, hpc⟩
  have hpc' : ∀ {t' y}, (endRunSt s sl t p r st res).pc t' = y →
      (∀ res', y ≠ .done res') → t' ≠ t ∧ s.pc t' = y := fun e hy => by
    rcases (pc_setPc e : (_ = t ∧ Pc.done res = _) ∨ _) with ⟨_, rfl⟩ | e
    · exact absurd rfl (hy _)
    · exact e
  have hrun' : ∀ {r'}, r' ≠ r →
      (endRunSt s sl t p r st res).run r' = s.run r' :=
    fun {r'} e => by simp [setPc, setRunSt, setLock, e]
  have hgood : ∀ {i v}, Good cfg s i v → Good cfg (endRunSt s sl t p r st res) i v :=
    fun {i v} hg => by
      have e : v ≠ r := fun e => by have := hg.2.1; rw [e, hrun] at this; cases this
      exact ⟨hg.1, by rw [hrun' e]; exact hg.2⟩
  have hgoodr : st = .returned → cfg.ok r = true →
      Good cfg (endRunSt s sl t p r st res) (s.phInst p) r :=
    fun e hok => ⟨hr, by simp [setPc, setRunSt, setLock, e, hrun], by simp [setPc, setRunSt, setLock, hrun], hok⟩
  have hslot : ∀ {j x}, sl j = x → (∀ v, x ≠ some (.val v)) → s.slot j = x := fun {j x} e hx => by
    by_cases ej : j = s.phInst p
    · rcases hslp with ⟨e', _⟩ | ⟨e', _⟩
      · rw [ej, ← e', ← ej]; exact e
      · rw [ej, e'] at e; exact absurd e.symm (hx r)
    · rw [← hsl j ej]; exact e
  exact { h with
    fresh_task := fun t' (ht' : s.nTasks ≤ t') => by
      have e : t' ≠ t := by have := h.born (t := t) (by simp [hpc]); omega
      simpa [setPc, setRunSt, setLock, e] using h.fresh_task t' ht'
    pc_start := fun t' q e => h.pc_start t' q (hpc' e (by simp)).2
    pc_entered := fun t' q e => h.pc_entered t' q (hpc' e (by simp)).2
    pc_lockwait := fun t' q e => h.pc_lockwait t' q (hpc' e (by simp)).2
    pc_holding := fun t' q e => h.pc_holding t' q (hpc' e (by simp)).2
    pc_getter := fun t' q r' k' e => h.pc_getter t' q r' k' (hpc' e (by simp)).2
    slot_ph := fun j q e => h.slot_ph j q (hslot e (by simp))
    lock_owner := fun q t' (hl : (if q = p then none else s.lock q) = some t') => by
      have eq : q ≠ p := fun e => by simp [e] at hl
      rw [if_neg eq] at hl
      have et : t' ≠ t := fun e => by
        have := h.lock_owner _ _ (e ▸ hl)
        exact eq (by simpa [hpc, Pc.owns] using this : p = q).symm
      simpa [setPc, setRunSt, setLock, et] using h.lock_owner q t' hl
    owner_holding := fun hc q t' e => by
      obtain ⟨et, e⟩ := hpc' e (by simp)
      have := h.owner_holding hc q t' e
      have eq : q ≠ p := fun eq => et (h.lock_holder hown (eq ▸ this))
      simpa [setPc, setRunSt, setLock, eq] using this
    owner_getter := fun hc q t' r' k' e => by
      obtain ⟨et, e⟩ := hpc' e (by simp)
      have := h.owner_getter hc q t' r' k' e
      have eq : q ≠ p := fun eq => et (h.lock_holder hown (eq ▸ this))
      simpa [setPc, setRunSt, setLock, eq] using this
    nolock := fun hc q => by simp [setPc, setRunSt, setLock, h.nolock hc q]
    lockwait_lock := fun t' q e => h.lockwait_lock t' q (hpc' e (by simp)).2
    getter_run := fun t' q r' k' e => by
      obtain ⟨et, e⟩ := hpc' e (by simp)
      have := h.getter_run t' q r' k' e
      have er : r' ≠ r := fun er => et (by have := this.2; rw [er, hrun] at this; exact (congrArg Run.task this).symm)
      exact ⟨this.1, by rw [hrun' er]; exact this.2⟩
    run_getter := fun r' hr' hst' => by
      have er : r' ≠ r := fun er => by simp [setPc, setRunSt, setLock, er] at hst'; exact hst hst'
      rw [hrun' er] at hst' ⊢
      obtain ⟨k', hk⟩ := h.run_getter r' hr' hst'
      have et : (s.run r').task ≠ t := fun et => er (by rw [et, hpc] at hk; cases hk; rfl)
      exact ⟨k', by simpa [setPc, setRunSt, setLock, et] using hk⟩
    run_ph := fun r' hr' => by
      by_cases er : r' = r
      · subst er; simpa [setPc, setRunSt, setLock] using h.run_ph r' hr'
      · rw [hrun' er]; exact h.run_ph r' hr'
    slot_val := fun j v (e : sl j = some (.val v)) => by
      by_cases ej : j = s.phInst p
      · rcases hslp with ⟨e', _⟩ | ⟨e', est, hok⟩
        · exact hgood (h.slot_val j v (by rw [ej, ← e', ← ej]; exact e))
        · obtain rfl : r = v := by rw [ej, e'] at e; simpa using e
          exact ej ▸ hgoodr est hok
      · exact hgood (h.slot_val j v (by rw [← hsl j ej]; exact e))
    task_val := fun t' v e => by
      by_cases et : t' = t
      · subst et
        obtain ⟨rfl, est, hok⟩ := hres v (by simpa [setPc, setRunSt, setLock] using e)
        exact hph.2 ▸ hgoodr est hok
      · exact hgood (h.task_val t' v (by simpa [setPc, setRunSt, setLock, et] using e))
    handle_val := fun t' v ht' e => hgood (h.handle_val t' v ht' e)
    returned_gone := fun r' hr' hst' => by
      by_cases er : r' = r
      · subst er
        rcases hslp with ⟨_, est⟩ | ⟨e', _⟩
        · simp [setPc, setRunSt, setLock] at hst'; exact absurd hst' est
        · simp [setPc, setRunSt, setLock, hrun, e']
      · rw [hrun' er] at hst' ⊢
        exact fun e => h.returned_gone r' hr' hst' (hslot e (by simp))
    live_unique := fun hc a b ha hb hp hla hlb => by
      have hlive : ∀ {c}, ((endRunSt s sl t p r st res).run c).st.live →
          ((endRunSt s sl t p r st res).run c).ph = (s.run c).ph ∧
          (s.run c).st.live := fun {c} hl => by
        by_cases ec : c = r
        · subst ec; simp [setPc, setRunSt, setLock, hrun, RunSt.live]
        · rw [hrun' ec] at hl ⊢; exact ⟨rfl, hl⟩
      obtain ⟨pa, la⟩ := hlive hla
      obtain ⟨pb, lb⟩ := hlive hlb
      exact h.live_unique hc a b ha hb (pa ▸ pb ▸ hp) la lb
    df_none := fun j q e => h.df_none j q (hslot e (by simp)) }

theorem complete_inv (cfg : Cfg) (s : State) (t p r k : Nat) (h : Inv cfg s)
    (hpc : s.pc t = .getter p r k) : Inv cfg (complete cfg s t p r).1 := by
  unfold complete
  split
  · rename_i hok
    show Inv cfg (setPc (setRunSt (release cfg (setSlot s (s.phInst p) (some (.val r))) p) r .returned) t _)
    rw [h.release_eq (s' := setSlot s _ _) rfl]
    exact endRun_inv h hpc (by simp) (fun j e => by simp [e]) (.inr ⟨by simp, rfl, hok⟩)
      (fun v e => ⟨by simpa using e.symm, rfl, hok⟩)
  · rw [h.release_eq rfl]
    exact endRun_inv h hpc (sl := s.slot) (by simp) (fun _ _ => rfl) (.inl ⟨rfl, by simp⟩) (by simp)

theorem addTask_inv (cfg : Cfg) (s : State) (i : Nat) (x : Stored) (h : Inv cfg s)
    (hp : ∀ p, x = .ph p → p < s.nextP ∧ s.phInst p = i) (hv : ∀ v, x = .val v → Good cfg s i v) :
    Inv cfg (addTask s i x) := by
  -- the new task is `s.nTasks`: unborn so far, hence mentioned by no lock and no run
  have hpc' : ∀ {t' y}, (addTask s i x).pc t' = y → (∀ x', y ≠ .start x') → t' ≠ s.nTasks ∧ s.pc t' = y :=
    fun {t' y} e hy => by
      by_cases et : t' = s.nTasks
      · simp [addTask, et] at e; exact absurd e.symm (hy x)
      · exact ⟨et, by simpa [addTask, et] using e⟩
  have hold : ∀ {t'}, s.pc t' ≠ .unborn → t' ≠ s.nTasks := fun hb => Nat.ne_of_lt (h.born hb)
  have hti : ∀ {t'}, t' ≠ s.nTasks → (addTask s i x).tinst t' = s.tinst t' := fun e => by simp [addTask, e]
  have htn : (addTask s i x).tinst s.nTasks = i := if_pos rfl
  exact { h with
    fresh_task := fun t' (ht' : s.nTasks + 1 ≤ t') => by
      have e : t' ≠ s.nTasks := by omega
      simpa [addTask, e] using h.fresh_task t' (by omega)
    pc_start := fun t' q e => by
      by_cases et : t' = s.nTasks
      · subst et; rw [htn]; exact hp q (by simpa [addTask] using e)
      · rw [hti et]; exact h.pc_start t' q (by simpa [addTask, et] using e)
    pc_entered := fun t' q e => by
      obtain ⟨et, e⟩ := hpc' e (by simp); rw [hti et]; exact h.pc_entered t' q e
    pc_lockwait := fun t' q e => by
      obtain ⟨et, e⟩ := hpc' e (by simp); rw [hti et]; exact h.pc_lockwait t' q e
    pc_holding := fun t' q e => by
      obtain ⟨et, e⟩ := hpc' e (by simp); rw [hti et]; exact h.pc_holding t' q e
    pc_getter := fun t' q r k e => by
      obtain ⟨et, e⟩ := hpc' e (by simp); rw [hti et]; exact h.pc_getter t' q r k e
    handle_ph := fun t' q (ht' : t' < s.nTasks + 1) e => by
      by_cases et : t' = s.nTasks
      · subst et; rw [htn]; exact hp q (by simpa [addTask] using e)
      · rw [hti et]; exact h.handle_ph t' q (by omega) (by simpa [addTask, et] using e)
    lock_owner := fun q t' hl => by
      have ho := h.lock_owner q t' hl
      have et : t' ≠ s.nTasks := hold (by rcases ho with e | ⟨_, _, e⟩ <;> simp [e])
      simpa [addTask, et] using ho
    owner_holding := fun hc q t' e => h.owner_holding hc q t' (hpc' e (by simp)).2
    owner_getter := fun hc q t' r k e => h.owner_getter hc q t' r k (hpc' e (by simp)).2
    lockwait_lock := fun t' q e => h.lockwait_lock t' q (hpc' e (by simp)).2
    getter_run := fun t' q r k e => h.getter_run t' q r k (hpc' e (by simp)).2
    run_getter := fun r hr hst => by
      obtain ⟨k, hk⟩ := h.run_getter r hr hst
      have et := hold (t' := (s.run r).task) (by simp [hk])
      exact ⟨k, by simpa [addTask, et] using hk⟩
    task_val := fun t' v e => by
      by_cases et : t' = s.nTasks
      · subst et; rw [htn]; exact hv v (by simpa [addTask] using e)
      · rw [hti et]; exact h.task_val t' v (by simpa [addTask, et] using e)
    handle_val := fun t' v (ht' : t' < s.nTasks + 1) e => by
      by_cases et : t' = s.nTasks
      · subst et; rw [htn]; exact hv v (by simpa [addTask] using e)
      · rw [hti et]; exact h.handle_val t' v (by omega) (by simpa [addTask, et] using e) }

theorem cancel_inv (cfg : Cfg) (s : State) (t : Nat) (h : Inv cfg s) : Inv cfg (cancel cfg s t).1 := by
  unfold cancel
  split
  · rename_i hpc
    exact h.setPc_idle (by simp [hpc]) (by simp [hpc, Pc.owns]) (by simp [Pc.owns]) (by simp [Pc.ph?]) (by simp)
      (by simp)
  · rename_i hpc
    exact h.setPc_idle (by simp [hpc]) (by simp [hpc, Pc.owns]) (by simp [Pc.owns]) (by simp [Pc.ph?]) (by simp)
      (by simp)
  · rename_i p r k hpc
    rw [h.release_eq rfl]
    exact endRun_inv h hpc (sl := s.slot) (by simp) (fun _ _ => rfl) (.inl ⟨rfl, by simp⟩) (by simp)
  · exact h

theorem del_inv (cfg : Cfg) (s : State) (i : Nat) (h : Inv cfg s) : Inv cfg (delSlot s i) :=
  have hslot : ∀ {j x}, (delSlot s i).slot j = some x → s.slot j = some x := fun {j x} e => by
    by_cases ej : j = i
    · simp [delSlot, ej] at e
    · simpa [delSlot, ej] using e
  { h with
    slot_ph := fun j q e => h.slot_ph j q (hslot e)
    slot_val := fun j v e => h.slot_val j v (hslot e)
    returned_gone := fun r hr hst e => h.returned_gone r hr hst (hslot e)
    df_inj := fun q q' hq hq' e hd => by
      have ei : s.phInst q ≠ i := fun ei => by simp [delSlot, ei] at hd
      exact h.df_inj q q' hq hq' e (by simpa [delSlot, ei] using hd)
    df_none := fun j q e hd hq => by
      have ej : j ≠ i := fun ej => by simp [delSlot, ej] at hd
      exact h.df_none j q (by simpa [delSlot, ej] using e) (by simpa [delSlot, ej] using hd) hq }

theorem access_inv (cfg : Cfg) (s : State) (i : Nat) (h : Inv cfg s) : Inv cfg (access s i).1 := by
  rcases access_cases s i with ⟨x, _, he⟩ | ⟨hn, he⟩
  · rw [he]; exact h
  · rw [he]; exact newPh_inv cfg s i h hn

theorem access_slot (s : State) (i : Nat) : (access s i).1.slot i = some (access s i).2 := by
  rcases access_cases s i with ⟨x, hx, he⟩ | ⟨_, he⟩
  · rw [he]; exact hx
  · rw [he]; simp [newPh]

theorem access_pc (s : State) (i : Nat) : (access s i).1.pc = s.pc := by
  rcases access_cases s i with ⟨x, _, he⟩ | ⟨_, he⟩ <;> rw [he] <;> rfl

theorem access_phInst (s : State) (i p : Nat) (hp : p < s.nextP) : (access s i).1.phInst p = s.phInst p := by
  rcases access_cases s i with ⟨x, _, he⟩ | ⟨_, he⟩ <;> rw [he]
  simp [newPh]; omega

/-- what `_instance_value` establishes: an invariant state in which the slot is known -/
theorem instanceValue_spec (cfg : Cfg) (s : State) (p : Nat) (h : Inv cfg s) (hp : p < s.nextP) :
    Inv cfg (instanceValue s p).1 ∧ (instanceValue s p).1.pc = s.pc ∧
    (instanceValue s p).1.slot ((instanceValue s p).1.phInst p) = some (instanceValue s p).2 := by
  unfold instanceValue
  refine ⟨access_inv cfg s _ h, access_pc s _, ?_⟩
  rw [access_phInst s _ p hp]; exact access_slot s _

theorem micro_inv (cfg : Cfg) (s : State) (t : Nat) (h : Inv cfg s) : Inv cfg (micro cfg s t).1 := by
  unfold micro
  split
  · exact h
  · exact h
  · rename_i v hpc
    exact h.setPc_idle (by simp [hpc]) (by simp [hpc, Pc.owns]) (by simp [Pc.owns]) (by simp [Pc.ph?]) (by simp)
      (fun w e => by obtain rfl : v = w := by simpa using e
                     exact h.task_val t v (.inr hpc))
  · rename_i p hpc
    exact h.setPc_idle (by simp [hpc]) (by simp [hpc, Pc.owns]) (by simp [Pc.owns])
      (fun _ e => Option.some.inj e ▸ h.pc_start t p hpc) (by simp) (by simp)
  · rename_i p hpc
    obtain ⟨hi, hpc1, hsl⟩ := instanceValue_spec cfg s p h (h.pc_entered t p hpc).1
    generalize instanceValue s p = r at hi hpc1 hsl
    obtain ⟨s1, stored⟩ := r
    simp only at hi hpc1 hsl ⊢
    have hpc' : s1.pc t = .entered p := by rw [hpc1]; exact hpc
    split
    · split
      · split
        · exact blocked_inv cfg s1 t p hi hpc' (by assumption)
        · exact acquire_inv cfg s1 t p hi (Or.inl hpc') (by assumption) (by assumption)
      · exact enter_nolock_inv cfg s1 t p hi hpc' (by simpa using ‹¬cfg.lock = true›)
    · exact awaitStored_entered_inv cfg s1 t p stored hi hpc' hsl
  · rename_i p hpc
    split
    · exact h
    · exact acquire_inv cfg s t p h (Or.inr hpc) (h.lockwait_lock t p hpc) (by assumption)
  · rename_i p hpc
    obtain ⟨hi, hpc1, hsl⟩ := instanceValue_spec cfg s p h (h.pc_holding t p hpc).1
    generalize instanceValue s p = r at hi hpc1 hsl
    obtain ⟨s1, stored⟩ := r
    simp only at hi hpc1 hsl ⊢
    have hpc' : s1.pc t = .holding p := by rw [hpc1]; exact hpc
    split
    · rename_i heq
      subst heq
      exact startRun_inv cfg s1 t p hi hpc' hsl
    · exact awaitStored_holding_inv cfg s1 t p stored hi hpc' hsl (by assumption)
  · rename_i p r hpc
    exact complete_inv cfg s t p r 0 h hpc
  · rename_i p r k hpc
    exact getterStep_inv cfg s t p r k h hpc

theorem schedN_inv (cfg : Cfg) (n : Nat) : ∀ (s : State) (t : Nat), Inv cfg s → Inv cfg (schedN cfg n s t).1 := by
  induction n with
  | zero => intro s t h; exact h
  | succ n ih =>
    intro s t h
    unfold schedN
    have hm := micro_inv cfg s t h
    generalize micro cfg s t = r at hm
    obtain ⟨s1, o⟩ := r
    cases o with
    | some o => exact hm
    | none => exact ih s1 t hm

theorem init_inv (cfg : Cfg) : Inv cfg State.init := by
  constructor <;> simp [State.init]

theorem step_inv (cfg : Cfg) (s : State) (op : Op) (h : Inv cfg s) : Inv cfg (step cfg s op).1 := by
  cases op with
  | spawn i =>
    simp only [step]
    have hi := access_inv cfg s i h
    have hsl := access_slot s i
    generalize access s i = r at hi hsl
    obtain ⟨s1, x⟩ := r
    simp only at hi hsl ⊢
    exact addTask_inv cfg s1 i x hi (fun p hp => hi.slot_ph i p (by rw [hsl, hp]))
      (fun v hv => hi.slot_val i v (by rw [hsl, hv]))
  | respawn t =>
    simp only [step]
    split
    · rename_i ht
      exact addTask_inv cfg s _ _ h (fun p hp => h.handle_ph t p ht hp) (fun v hv => h.handle_val t v ht hv)
    · exact h
  | sched t => exact schedN_inv cfg _ s t h
  | cancel t => exact cancel_inv cfg s t h
  | del i =>
    simp only [step]
    split
    · exact h
    · exact del_inv cfg s i h

theorem exec_inv (cfg : Cfg) (ops : List Op) : ∀ s, Inv cfg s → Inv cfg (exec cfg s ops) := by
  induction ops with
  | nil => intro s h; exact h
  | cons op ops ih => intro s h; exact ih _ (step_inv cfg s op h)

end AsyncVerif.CachedProperty
