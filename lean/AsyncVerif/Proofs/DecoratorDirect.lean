import AsyncVerif.Machines.DecoratorDirect
import AsyncVerif.Proofs.Decorator
/-! Helper lemmas for C15 with direct use of the decorating manager. Property theorems live in
    `Properties/C15Direct.lean`.

    Technique: a heap state in which only generator object 0 differs from a state `t` of the plain
    `Decorator` machine is `patch t x`.  Every step of a decorated call commutes with `patch` (it
    neither reads nor writes index 0), every step of the direct task only replaces the patch.  Hence
    the machine with direct use is the product of the `Decorator` machine and the direct task run
    alone (`decompose`). -/
namespace AsyncVerif.Decorator

/-- `t` with generator object 0 replaced by `x` -/
def patch (t : State) (x : GenCell) : State := { t with gens := setAt t.gens 0 x }

theorem patch_gens0 (t : State) (x : GenCell) : (patch t x).gens 0 = x := by simp [patch, setAt]
theorem patch_gens_pos (t : State) (x : GenCell) {g : Nat} (h : g ≠ 0) : (patch t x).gens g = t.gens g := by
  simp [patch, setAt, h]
theorem patch_patch (t : State) (x y : GenCell) : patch (patch t x) y = patch t y := by
  unfold patch
  congr 1
  funext j
  by_cases h : j = 0 <;> simp [setAt, h]

theorem setAt_comm0 (f : Nat → GenCell) (x v : GenCell) {g : Nat} (h : g ≠ 0) :
    setAt (setAt f 0 x) g v = setAt (setAt f g v) 0 x := by
  funext j
  by_cases h0 : j = 0
  · subst h0
    have : (0 : Nat) ≠ g := fun h' => h h'.symm
    simp [setAt, this]
  · simp [setAt, h0]

/-- what the commutation needs to know about the `Decorator` state: references are ≥ 1 -/
structure Own (t : State) : Prop where
  pos : 1 ≤ t.ngens
  own : ∀ c g, (t.calls c).gid = some g → 1 ≤ g

theorem own_of_rel {cfg : Cfg} {t : State} {p : PState} (h : Rel cfg t p) : Own t :=
  ⟨h.pos, fun c g hg => (h.own c g hg).1⟩

theorem own_recreate {t : State} (h : Own t) (gb : Bool) (c : Nat) (cc : CallCfg) : Own (recreate gb t c cc) := by
  unfold recreate
  cases gb with
  | false => exact h
  | true =>
    refine ⟨by simp, ?_⟩
    intro c' g hg
    simp only [if_true] at hg
    by_cases hc : c' = c
    · subst hc
      simp only [setAt_same] at hg
      have : t.ngens = g := by simpa using hg
      have := h.pos; omega
    · simp only [setAt_other _ _ hc] at hg
      exact h.own c' g hg

theorem recreate_patch {t : State} (h : Own t) (gb : Bool) (c : Nat) (cc : CallCfg) (x : GenCell) :
    recreate gb (patch t x) c cc = patch (recreate gb t c cc) x := by
  unfold recreate
  cases gb with
  | false => rfl
  | true =>
    simp only [if_true, patch]
    have : t.ngens ≠ 0 := by have := h.pos; omega
    rw [setAt_comm0 _ _ _ this]

theorem core_patch {t : State} (h : Own t) (gb : Bool) (c : Nat) (cc : CallCfg) (cop : COp) (x : GenCell) :
    core gb (patch t x) c cc cop = (patch (core gb t c cc cop).1 x, (core gb t c cc cop).2) := by
  have hcell : cellOf (patch t x) c cc = cellOf t c cc := by
    unfold cellOf
    show (match (t.calls c).gid with | some g => (patch t x).gens g | none => initCell cc) = _
    cases hg : (t.calls c).gid with
    | none => rfl
    | some g =>
      have : g ≠ 0 := by have := h.own c g hg; omega
      simp only [patch_gens_pos _ _ this]
  unfold core
  rw [hcell]
  show (_, _) = (_, _)
  congr 1
  show ({ gens := _, ngens := _, calls := _, log := _ } : State) = patch _ x
  unfold patch
  simp only
  congr 1
  show (match (t.calls c).gid with | some g => setAt (setAt t.gens 0 x) g _ | none => setAt t.gens 0 x) = _
  cases hg : (t.calls c).gid with
  | none => rfl
  | some g =>
    have : g ≠ 0 := by have := h.own c g hg; omega
    simp only [setAt_comm0 _ _ _ this]

/-- a step of a decorated call neither reads nor writes generator object 0 -/
theorem step_patch {cfg : Cfg} {t : State} (h : Own t) (op : Op) (x : GenCell) :
    step cfg (patch t x) op = (patch (step cfg t op).1 x, (step cfg t op).2) := by
  unfold step
  cases hcc : cfg.calls[op.call]? with
  | none => rfl
  | some cc =>
    simp only
    show core cfg.generatorBased
        (if isFirstSend (t.calls op.call).pc op.cop = true then recreate cfg.generatorBased (patch t x) op.call cc
          else patch t x) op.call cc op.cop = _
    by_cases hfs : isFirstSend (t.calls op.call).pc op.cop = true
    · simp only [hfs, if_true]
      rw [recreate_patch h]
      exact core_patch (own_recreate h _ _ _) _ _ _ _ _
    · simp only [hfs]
      exact core_patch h _ _ _ _ _

theorem own_step {cfg : Cfg} {t : State} {p : PState} (h : Rel cfg t p) (op : Op) : Own (step cfg t op).1 :=
  own_of_rel (rel_step h op).1

/-- `s` = a `Decorator` state `t` with generator 0 patched, and the direct task in the state `sol`
    of the direct task run alone -/
structure Match (gb : Bool) (d : CallCfg) (s : DState) (t : State) (sol : Solo) : Prop where
  st : ∃ x, s.st = patch t x
  loc : sol.loc = { pc := s.dpc, cell := directCell gb d s.st }
  log : sol.log = s.dlog
  plain : gb = false → sol.loc.cell = initCell d
  plain0 : gb = false → s.st.gens 0 = initCell d

theorem match_init (gb : Bool) (d : CallCfg) : Match gb d (DState.init d) State.init (Solo.init d) where
  st := ⟨initCell d, rfl⟩
  loc := by
    cases gb <;> simp [Solo.init, DState.init, directCell, setAt]
  log := rfl
  plain := fun _ => rfl
  plain0 := fun _ => by simp [DState.init, setAt]

theorem match_call {cfg : Cfg} {d : CallCfg} {s : DState} {t : State} {p : PState} {sol : Solo}
    (h : Match cfg.generatorBased d s t sol) (hr : Rel cfg t p) (op : Op) :
    Match cfg.generatorBased d (dstep cfg d s (.call op)).1 (step cfg t op).1 sol ∧
      (dstep cfg d s (.call op)).2 = (step cfg t op).2 := by
  obtain ⟨x, hx⟩ := h.st
  have hs := step_patch (cfg := cfg) (own_of_rel hr) op x
  simp only [dstep, hx, hs]
  have h0 := h.plain0
  rw [hx, patch_gens0] at h0
  refine ⟨⟨⟨x, rfl⟩, ?_, h.log, h.plain, fun hgb => by rw [patch_gens0]; exact h0 hgb⟩, trivial⟩
  rw [h.loc, hx]
  simp [directCell, patch_gens0]

theorem match_direct {gb : Bool} {d : CallCfg} {s : DState} {t : State} {sol : Solo}
    (h : Match gb d s t sol) (cop : COp) :
    Match gb d (directStep gb d s cop).1 t (soloStep gb d sol cop).1 ∧
      (directStep gb d s cop).2 = (soloStep gb d sol cop).2 := by
  obtain ⟨x, hx⟩ := h.st
  unfold directStep soloStep
  rw [← h.loc]
  refine ⟨⟨?_, ?_, ?_, ?_, ?_⟩, rfl⟩
  · cases gb with
    | false => exact ⟨x, hx⟩
    | true =>
      refine ⟨(callStep true d sol.loc cop).1.cell, ?_⟩
      simp only [if_true, hx]
      show patch (patch t x) _ = _
      rw [patch_patch]
  · cases gb with
    | false =>
      simp only [directCell, Bool.false_eq_true, if_false]
      have := callStep_cell_plain d sol.loc cop
      rw [h.plain rfl] at this
      rw [← this]
    | true =>
      simp [directCell, setAt]
  · simp only [h.log]
  · intro hgb
    subst hgb
    simp only
    rw [callStep_cell_plain]; exact h.plain rfl
  · intro hgb
    subst hgb
    exact h.plain0 rfl

theorem dstep_direct (cfg : Cfg) (d : CallCfg) (s : DState) (dop : DOp) (h : dop.isDirect = true) :
    ∃ cop, directOps [dop] = [cop] ∧ callOps [dop] = [] ∧
      dstep cfg d s dop = directStep cfg.generatorBased d s cop := by
  cases dop with
  | call op => cases h
  | directSend => exact ⟨.resume, rfl, rfl, rfl⟩
  | directThrow x => exact ⟨.cancel x, rfl, rfl, rfl⟩

/-- **Product decomposition.** The machine with direct use = the `Decorator` machine on the call
    ops × the direct task alone on the direct ops. -/
theorem decompose {cfg : Cfg} {d : CallCfg} (dops : List DOp) {s : DState} {t : State} {p : PState} {sol : Solo}
    (h : Match cfg.generatorBased d s t sol) (hr : Rel cfg t p) :
    Match cfg.generatorBased d (drunFrom cfg d s dops).1 (runFrom cfg t (callOps dops)).1
        (soloRunFrom cfg.generatorBased d sol (directOps dops)).1 ∧
      callOuts dops (drunFrom cfg d s dops).2 = (runFrom cfg t (callOps dops)).2 ∧
      directOuts dops (drunFrom cfg d s dops).2 = (soloRunFrom cfg.generatorBased d sol (directOps dops)).2 := by
  induction dops generalizing s t p sol with
  | nil => exact ⟨h, rfl, rfl⟩
  | cons dop rest ih =>
    -- each side's output list grows by the head's output exactly when the head is on that side
    cases dop with
    | call op =>
      obtain ⟨h1, h2⟩ := match_call h hr op
      obtain ⟨i1, i2, i3⟩ := ih h1 (rel_step hr op).1
      exact ⟨i1, by show _ :: _ = _ :: _; rw [h2, i2], i3⟩
    | directSend =>
      obtain ⟨h1, h2⟩ := match_direct h .resume
      obtain ⟨i1, i2, i3⟩ := ih h1 hr
      exact ⟨i1, i2, by show (directStep _ d s _).2 :: _ = _ :: _; rw [h2]; exact congrArg _ i3⟩
    | directThrow x =>
      obtain ⟨h1, h2⟩ := match_direct h (.cancel x)
      obtain ⟨i1, i2, i3⟩ := ih h1 hr
      exact ⟨i1, i2, by show (directStep _ d s _).2 :: _ = _ :: _; rw [h2]; exact congrArg _ i3⟩

theorem decompose_run (cfg : Cfg) (d : CallCfg) (dops : List DOp) :
    Match cfg.generatorBased d (drun cfg d dops).1 (run cfg (callOps dops)).1
        (soloRun cfg.generatorBased d (directOps dops)).1 ∧
      callOuts dops (drun cfg d dops).2 = (run cfg (callOps dops)).2 ∧
      directOuts dops (drun cfg d dops).2 = (soloRun cfg.generatorBased d (directOps dops)).2 :=
  decompose dops (match_init _ d) (rel_init cfg)

/-! ## the direct task alone is a paired context -/

structure SoloInv (gb : Bool) (s : Solo) : Prop where
  acc : specFrom .init s.log = some (absSt s.loc.pc)
  coh : Coh gb s.loc

theorem soloInv_init (gb : Bool) (d : CallCfg) : SoloInv gb (Solo.init d) where
  acc := rfl
  coh := fun _ => rfl

theorem soloInv_step {gb : Bool} {d : CallCfg} {s : Solo} (h : SoloInv gb s) (cop : COp) :
    SoloInv gb (soloStep gb d s cop).1 := by
  have hg := callStep_good gb d s.loc cop h.coh
  refine ⟨?_, hg.2⟩
  simp only [soloStep, specFrom_append, h.acc, Option.bind]
  exact hg.1

theorem soloInv_run {gb : Bool} {d : CallCfg} (cops : List COp) {s : Solo} (h : SoloInv gb s) :
    SoloInv gb (soloRunFrom gb d s cops).1 := by
  induction cops generalizing s with
  | nil => exact h
  | cons op rest ih => exact ih (soloInv_step h op)

theorem solo_pot {gb : Bool} {d : CallCfg} (cops : List COp) {s : Solo} (h : SoloInv gb s) :
    pot gb d (soloRunFrom gb d s cops).1.loc ≤ pot gb d s.loc - cops.length := by
  induction cops generalizing s with
  | nil => exact Nat.le_refl _
  | cons op rest ih =>
    exact Nat.le_trans (ih (soloInv_step (d := d) h op))
      (Nat.le_trans (Nat.sub_le_sub_right (callStep_pot gb d s.loc op h.coh) _)
        (Nat.le_of_eq (by rw [Nat.sub_sub, Nat.add_comm]; rfl)))

theorem solo_done (gb : Bool) (d : CallCfg) (cops : List COp) (h : sendBound gb d ≤ cops.length) :
    ∃ r, (soloRun gb d cops).1.loc.pc = .done r := by
  have hp := solo_pot (d := d) cops (soloInv_init gb d)
  rw [show pot gb d (Solo.init d).loc = _ from pot_fresh gb d, Nat.sub_eq_zero_of_le h] at hp
  exact pot_zero_done _ d _ (Nat.le_zero.mp hp)

theorem directOps_length (dops : List DOp) : (directOps dops).length = (dops.filter DOp.isDirect).length := by
  induction dops with
  | nil => rfl
  | cons dop rest ih => cases dop <;> simp [directOps, DOp.isDirect, List.filter_cons, ih]

end AsyncVerif.Decorator
