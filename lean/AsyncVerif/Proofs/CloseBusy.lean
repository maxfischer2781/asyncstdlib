import AsyncVerif.Machines.CloseBusy
/-!
# Helper lemmas for `Properties/C17CloseBusy.lean`

`SrcFrame` says what a call of `S.aclose()` leaves alone; `BRuns` / `ARuns` say what a piece of B's / A's code
does when run from a state, and compose with `SrcFrame` (`BRuns.after`), so that every routine of the machine is
described once, up to `stepB_runs` / `stepA_runs` for one `send`; `step_cases` lifts a fact about these to every
scheduling step.  `step_sent` is what one step does whichever the task; the `send` counters and the event counts
are derived from it for both tasks at once.  `bRemaining` is the measure that bounds B's own steps.
-/
namespace AsyncVerif.CloseBusy

/-- a call of `S.aclose()` touches only the source's own fields -/
structure SrcFrame (s s' : St) : Prop where
  kind : s'.kind = s.kind
  srcKind : s'.srcKind = s.srcKind
  k : s'.k = s.k
  closeSusp : s'.closeSusp = s.closeSusp
  a : s'.a = s.a
  b : s'.b = s.b
  aOut : s'.aOut = s.aOut
  bOut : s'.bOut = s.bOut
  aSteps : s'.aSteps = s.aSteps
  bSteps : s'.bSteps = s.bSteps
  events : s'.events = s.events
  handleDone : s'.handleDone = s.handleDone

theorem SrcFrame.refl (s : St) : SrcFrame s s := by constructor <;> rfl

theorem beginClose_frame (s : St) : SrcFrame s (beginClose s).1 := by
  unfold beginClose
  split <;> constructor <;> rfl

theorem srcClosed_frame (s : St) : SrcFrame s (srcClosed s) := by constructor <;> rfl

theorem callSrcClose_cases (s : St) :
    (callSrcClose s = (s, .refused) ∧ s.srcKind = .native ∧ s.aInside = true) ∨
      callSrcClose s = (s, .returned) ∨ callSrcClose s = beginClose s := by
  unfold callSrcClose
  split
  · rename_i hk
    split
    · rename_i ha; exact Or.inl ⟨rfl, hk, ha⟩
    · split
      · exact Or.inr (Or.inl rfl)
      · exact Or.inr (Or.inr rfl)
  · exact Or.inr (Or.inr rfl)

theorem callSrcClose_frame (s : St) : SrcFrame s (callSrcClose s).1 := by
  rcases callSrcClose_cases s with ⟨h, -⟩ | h | h <;> rw [h]
  · exact .refl s
  · exact .refl s
  · exact beginClose_frame s

theorem beginClose_susp (s : St) (j : Nat) (h : (beginClose s).2 = .suspended j) : j + 1 = s.closeSusp := by
  unfold beginClose at h
  split at h
  · cases h
  · rename_i j' hj; cases h; exact hj.symm

theorem beginClose_not_refused (s : St) : (beginClose s).2 ≠ .refused := by
  unfold beginClose; split <;> exact CloseStart.noConfusion

theorem callSrcClose_susp (s : St) (j : Nat) (h : (callSrcClose s).2 = .suspended j) :
    j + 1 = s.closeSusp := by
  rcases callSrcClose_cases s with ⟨h', -⟩ | h' | h' <;> rw [h'] at h
  · cases h
  · cases h
  · exact beginClose_susp s j h

/-- a native generator refuses only while A is inside it; a class-based source never refuses -/
theorem callSrcClose_refused (s : St) (h : (callSrcClose s).2 = .refused) :
    s.srcKind = .native ∧ s.aInside = true := by
  rcases callSrcClose_cases s with ⟨-, h'⟩ | h' | h'
  · exact h'
  · rw [h'] at h; cases h
  · rw [h'] at h; exact absurd h (beginClose_not_refused s)

/-- what B's coroutine may still have to do after `S.aclose()` returns: `chain` may close `S` once more -/
def contCost (cs : Nat) : Cont → Nat
  | .thenIter => cs
  | .genExit _ => 0
  | .ret => 0

/-- an upper bound on the `send`s B still needs -/
def bRemaining (s : St) : Nat :=
  match s.b with
  | .idle => closeBound s.kind s.closeSusp + 1
  | .inUserClose j c => j + 1 + contCost s.closeSusp c
  | .done => 0

/-- the parts of the state B's code does not touch -/
structure BFrame (s s' : St) : Prop where
  kind : s'.kind = s.kind
  srcKind : s'.srcKind = s.srcKind
  k : s'.k = s.k
  closeSusp : s'.closeSusp = s.closeSusp
  a : s'.a = s.a
  aOut : s'.aOut = s.aOut
  aSteps : s'.aSteps = s.aSteps
  bSteps : s'.bSteps = s.bSteps

theorem BFrame.refl (s : St) : BFrame s s := by constructor <;> rfl

theorem BFrame.trans {s s1 s2 : St} (h1 : BFrame s s1) (h2 : BFrame s1 s2) : BFrame s s2 :=
  ⟨h2.kind.trans h1.kind, h2.srcKind.trans h1.srcKind, h2.k.trans h1.k, h2.closeSusp.trans h1.closeSusp,
    h2.a.trans h1.a, h2.aOut.trans h1.aOut, h2.aSteps.trans h1.aSteps, h2.bSteps.trans h1.bSteps⟩

theorem SrcFrame.bframe {s s' : St} (h : SrcFrame s s') : BFrame s s' :=
  ⟨h.kind, h.srcKind, h.k, h.closeSusp, h.a, h.aOut, h.aSteps, h.bSteps⟩

def WFb (s : St) : Prop := ∀ j c, s.b = .inUserClose j c → j < s.closeSusp

/-- how a piece of B's code that starts in `s` ends: B is through (no new event), or B is suspended on ONE token
    of the user's `S.aclose()`, with at most `bound` `send`s to go.  Which token it is can only be said of a `B`
    whose program counter is in range (`WFb`): the machine does not exclude others. -/
def BEnds (bound : Nat) (s s' : St) : Prop :=
  (s'.b = .done ∧ s'.events = s.events ∧ ∃ o, s'.bOut = s.bOut ++ [o] ∧ (o = .ret ∨ o = .busy)) ∨
  (∃ t j c, s'.b = .inUserClose j c ∧ j + 1 + contCost s.closeSusp c ≤ bound ∧
     (WFb s → t + j + 1 = s.closeSusp) ∧
     s'.events = s.events ++ [⟨.B, .user (.close t)⟩] ∧ s'.bOut = s.bOut ++ [.susp (.user (.close t))])

def BRuns (bound : Nat) (s s' : St) : Prop := BFrame s s' ∧ BEnds bound s s'

theorem BRuns.mono {b1 b2 s s'} (h : BRuns b1 s s') (hb : b1 ≤ b2) : BRuns b2 s s' := by
  refine ⟨h.1, ?_⟩
  rcases h.2 with h | ⟨t, j, c, h1, h2, h3⟩
  · exact Or.inl h
  · exact Or.inr ⟨t, j, c, h1, Nat.le_trans h2 hb, h3⟩

theorem BRuns.after {n s s1 s'} (hf : SrcFrame s s1) (h : BRuns n s1 s') : BRuns n s s' := by
  refine ⟨hf.bframe.trans h.1, ?_⟩
  have h2 := h.2
  unfold BEnds WFb at h2 ⊢
  rw [hf.events, hf.bOut, hf.closeSusp, hf.b] at h2
  exact h2

theorem BRuns.setDone {n s s'} (h : BRuns n { s with handleDone := true } s') : BRuns n s s' :=
  ⟨⟨h.1.kind, h.1.srcKind, h.1.k, h.1.closeSusp, h.1.a, h.1.aOut, h.1.aSteps, h.1.bSteps⟩, h.2⟩

theorem bRaise_runs (s : St) (n : Nat) : BRuns n s (bRaise s) :=
  ⟨by constructor <;> rfl, Or.inl ⟨rfl, rfl, .busy, rfl, Or.inr rfl⟩⟩

theorem bFinish_runs (fail : Bool) (s : St) (n : Nat) : BRuns n s (bFinish fail s) := by
  refine ⟨by constructor <;> rfl, Or.inl ⟨rfl, rfl, _, rfl, ?_⟩⟩
  cases fail
  · exact Or.inl rfl
  · exact Or.inr rfl

/-- B calls `S.aclose()`: `f` and `g` say how it goes on when the call is refused / returns at once; a call that
    suspends leaves B inside it on the first close token, with `c` to do afterwards.  This is the only way B ever
    gets suspended. -/
theorem srcClose_runs (s : St) (n : Nat) (c : Cont) (f g : St → St)
    (hn : s.closeSusp + contCost s.closeSusp c ≤ n)
    (hf : ∀ s1, SrcFrame s s1 → BRuns n s1 (f s1)) (hg : ∀ s1, SrcFrame s s1 → BRuns n s1 (g s1)) :
    BRuns n s (match callSrcClose s with
      | (s1, .refused) => f s1
      | (s1, .returned) => g s1
      | (s1, .suspended j) => bSusp (.close 0) { s1 with b := .inUserClose j c }) := by
  have hfr := callSrcClose_frame s
  have hs := callSrcClose_susp s
  generalize callSrcClose s = r at hfr hs
  obtain ⟨s1, r⟩ := r
  cases r with
  | refused => exact (hf s1 hfr).after hfr
  | returned => exact (hg s1 hfr).after hfr
  | suspended j =>
    have hj : j + 1 = s.closeSusp := hs j rfl
    refine ⟨hfr.bframe.trans (by constructor <;> rfl),
      Or.inr ⟨0, j, c, rfl, by omega, fun _ => by omega, congrArg (· ++ _) hfr.events, congrArg (· ++ _) hfr.bOut⟩⟩

theorem bIterClose_runs (fail : Bool) (s : St) : BRuns s.closeSusp s (bIterClose fail s) := by
  unfold bIterClose
  split
  · exact bRaise_runs s _
  · split
    · exact bFinish_runs fail s _
    · exact srcClose_runs s _ (.genExit fail) _ _ (Nat.le_refl _)
        (fun s1 _ => (bRaise_runs _ _).setDone) (fun s1 _ => (bFinish_runs fail _ _).setDone)

theorem bDirectClose_runs (s : St) : BRuns s.closeSusp s (bDirectClose s) :=
  srcClose_runs s _ .ret _ _ (Nat.le_refl _) (fun s1 _ => bRaise_runs s1 _) (fun s1 _ => bFinish_runs false s1 _)

/-- `closeBound` is what `H.aclose()` may spend inside the user's `S.aclose()`, kind by kind -/
theorem bStart_runs (s : St) : BRuns (closeBound s.kind s.closeSusp) s (bStart s) := by
  unfold bStart
  split <;> rename_i hk
  · exact (bIterClose_runs false s).mono (by rw [hk]; exact Nat.le_refl _)
  · -- `chain`: one `S.aclose()` through `close_all`, then perhaps another one through the generator
    exact srcClose_runs s _ .thenIter _ _ (by rw [hk]; exact Nat.le_refl _)
      (fun s1 hf => (bIterClose_runs true s1).mono (by rw [hf.closeSusp, hk]; exact Nat.le_add_right _ _))
      (fun s1 hf => (bIterClose_runs false s1).mono (by rw [hf.closeSusp, hk]; exact Nat.le_add_right _ _))
  · exact (bDirectClose_runs s).mono (by rw [hk]; exact Nat.le_refl _)
  · split
    · exact bRaise_runs s _
    · exact (bFinish_runs false _ _).setDone
  · split
    · exact bRaise_runs s _
    · exact (bFinish_runs false _ _).setDone
  · exact bFinish_runs false s _
  · split
    · exact bRaise_runs s _
    · exact ((bDirectClose_runs _).setDone).mono (by rw [hk]; exact Nat.le_refl _)

theorem bContinue_runs (c : Cont) (s : St) : BRuns (contCost s.closeSusp c) s (bContinue c s) := by
  cases c with
  | thenIter => exact bIterClose_runs false s
  | genExit fail => exact (bFinish_runs fail _ _).setDone
  | ret => exact bFinish_runs false s _

/-- one `send` on B takes at least one off `bRemaining` -/
theorem stepB_runs (s : St) (h : s.b ≠ .done) : BRuns (bRemaining s - 1) s (stepB s) := by
  unfold stepB
  split
  · rename_i hb
    refine (bStart_runs s).mono ?_
    simp only [bRemaining, hb]; exact Nat.le_refl _
  · rename_i j c hb
    refine ⟨by constructor <;> rfl, Or.inr ⟨s.closeSusp - 1 - j, j, c, rfl, ?_, ?_, rfl, rfl⟩⟩
    · simp only [bRemaining, hb]; omega
    · intro hw; have := hw (j + 1) c hb; omega
  · rename_i c hb
    refine ((bContinue_runs c (srcClosed s)).after (srcClosed_frame s)).mono ?_
    show contCost s.closeSusp c ≤ _
    simp only [bRemaining, hb]; omega
  · rename_i hb; exact absurd hb h

theorem step_B_eq (s : St) (h : s.b ≠ .done) :
    step s (.sched .B) = stepB { s with bSteps := s.bSteps + 1 } := by
  cases hb : s.b with
  | done => exact absurd hb h
  | _ => simp only [step, hb]

theorem step_B_done (s : St) (h : s.b = .done) : step s (.sched .B) = s := by
  simp only [step, h]

def WFa (s : St) : Prop := (∀ j, s.a = .inSrc j → j ≤ s.k) ∧ (∀ j, s.a = .inClose j → j < s.closeSusp)

structure AFrame (s s' : St) : Prop where
  kind : s'.kind = s.kind
  srcKind : s'.srcKind = s.srcKind
  k : s'.k = s.k
  closeSusp : s'.closeSusp = s.closeSusp
  b : s'.b = s.b
  bOut : s'.bOut = s.bOut
  bSteps : s'.bSteps = s.bSteps
  aSteps : s'.aSteps = s.aSteps

/-- how one `send` on A ends: A is through without a new event, or it is suspended on one more token of the
    user's `S.__anext__()` / `S.aclose()` -/
def AEndsW (s s' : St) : Prop :=
  (∃ r, s'.a = .done r ∧ s'.events = s.events ∧ s'.aOut = s.aOut ++ [r.out]) ∨
  (∃ tok, s'.events = s.events ++ [⟨.A, .user tok⟩] ∧ s'.aOut = s.aOut ++ [.susp (.user tok)] ∧
     ((∃ t j, tok = .src t ∧ s'.a = .inSrc j ∧ (WFa s → t + j = s.k ∧ 1 ≤ t)) ∨
      (∃ t j, tok = .close t ∧ s'.a = .inClose j ∧ (WFa s → t + j + 1 = s.closeSusp))))

def ARuns (s s' : St) : Prop := AFrame s s' ∧ AEndsW s s'

/-- A is through, perhaps after an `S.aclose()` of its own and with the handle's generator finished -/
theorem aFinish_runs {s s1 : St} (hf : SrcFrame s s1) (r : ARes) (hd : Bool) :
    ARuns s (aFinish r { s1 with handleDone := hd }) :=
  ⟨⟨hf.kind, hf.srcKind, hf.k, hf.closeSusp, hf.b, hf.bOut, hf.bSteps, hf.aSteps⟩,
    Or.inl ⟨r, rfl, hf.events, congrArg (· ++ [r.out]) hf.aOut⟩⟩

/-- leaving `ScopedIter` after the source ended under A: `S.aclose()` once more, by A -/
theorem aLeaveScope_runs (s : St) :
    ARuns s (match beginClose s with
      | (s1, .suspended j) => aSusp (.close 0) { s1 with a := .inClose j }
      | (s1, _) => aFinish .stop { s1 with handleDone := true }) := by
  have hf := beginClose_frame s
  have hs := beginClose_susp s
  generalize beginClose s = r at hf hs
  obtain ⟨s1, r⟩ := r
  cases r with
  | suspended j =>
    have hj : j + 1 = s.closeSusp := hs j rfl
    exact ⟨⟨hf.kind, hf.srcKind, hf.k, hf.closeSusp, hf.b, hf.bOut, hf.bSteps, hf.aSteps⟩,
      Or.inr ⟨.close 0, congrArg (· ++ _) hf.events, congrArg (· ++ _) hf.aOut,
        Or.inr ⟨0, j, rfl, rfl, fun _ => by omega⟩⟩⟩
  | refused => exact aFinish_runs hf .stop true
  | returned => exact aFinish_runs hf .stop true

theorem aAfterStop_runs (s : St) : ARuns s (aAfterStop s) := by
  unfold aAfterStop
  split
  · exact aLeaveScope_runs s
  · exact aLeaveScope_runs s
  · exact aFinish_runs (.refl s) .stop s.handleDone
  · exact aFinish_runs (.refl s) .stop true
  · exact aFinish_runs (.refl s) .stop true
  · exact aFinish_runs (.refl s) .stop true
  · exact aFinish_runs (.refl s) .stop true

theorem stepA_runs (s : St) (h : s.aInside = true) : ARuns s (stepA s) := by
  unfold stepA
  split
  · rename_i j ha
    refine ⟨by constructor <;> rfl, Or.inr ⟨.src (s.k - j), rfl, rfl, Or.inl ⟨s.k - j, j, rfl, rfl, ?_⟩⟩⟩
    intro hw; have := hw.1 (j + 1) ha; omega
  · split
    · exact aAfterStop_runs s
    · exact aFinish_runs (.refl s) .item s.handleDone
  · rename_i j ha
    refine ⟨by constructor <;> rfl,
      Or.inr ⟨.close (s.closeSusp - 1 - j), rfl, rfl, Or.inr ⟨s.closeSusp - 1 - j, j, rfl, rfl, ?_⟩⟩⟩
    intro hw; have := hw.2 (j + 1) ha; omega
  · exact aFinish_runs (srcClosed_frame s) .stop true
  · rename_i r ha; rw [St.aInside, ha] at h; cases h

theorem step_A_eq (s : St) (h : s.aInside = true) :
    step s (.sched .A) = stepA { s with aSteps := s.aSteps + 1 } := by
  cases ha : s.a with
  | done r => rw [St.aInside, ha] at h; cases h
  | _ => simp only [step, ha]

theorem step_A_done (s : St) (h : s.aInside = false) : step s (.sched .A) = s := by
  cases ha : s.a with
  | done r => simp only [step, ha]
  | _ => rw [St.aInside, ha] at h; cases h

/-- a fact about every scheduling step: a finished task is not resumed, so it is enough to look at a `send` (counted)
    on an unfinished A and on an unfinished B -/
theorem step_cases {P : St → St → Prop} (hrefl : ∀ s, P s s)
    (hA : ∀ s, s.aInside = true → P s (stepA { s with aSteps := s.aSteps + 1 }))
    (hB : ∀ s, s.b ≠ .done → P s (stepB { s with bSteps := s.bSteps + 1 })) (s : St) (op : Op) :
    P s (step s op) := by
  cases op with
  | sched t =>
    cases t with
    | A =>
      cases hin : s.aInside with
      | false => rw [step_A_done s hin]; exact hrefl s
      | true => rw [step_A_eq s hin]; exact hA s hin
    | B =>
      by_cases hb : s.b = .done
      · rw [step_B_done s hb]; exact hrefl s
      · rw [step_B_eq s hb]; exact hB s hb

def St.steps (s : St) : Task → Nat
  | .A => s.aSteps
  | .B => s.bSteps

theorem finished_B (s : St) : s.finished .B = true ↔ s.b = .done := by
  simp only [St.finished, beq_iff_eq]

theorem step_sent (s : St) (t : Task) :
    (s.finished t = true ∧ step s (.sched t) = s) ∨
    (s.finished t = false ∧
      (∀ u, (step s (.sched t)).steps u = s.steps u + if t = u then 1 else 0) ∧
      (∀ u, u ≠ t → (step s (.sched t)).finished u = s.finished u) ∧
      (((step s (.sched t)).events = s.events ∧ (step s (.sched t)).finished t = true) ∨
        ∃ tok, (step s (.sched t)).events = s.events ++ [⟨t, .user tok⟩] ∧
          (step s (.sched t)).finished t = false)) := by
  cases t with
  | A =>
    cases hin : s.aInside with
    | false => exact Or.inl ⟨by rw [St.finished, hin]; rfl, step_A_done s hin⟩
    | true =>
      have hs := stepA_runs { s with aSteps := s.aSteps + 1 } hin
      rw [step_A_eq s hin]
      refine Or.inr ⟨by rw [St.finished, hin]; rfl, fun u => ?_, fun u hu => ?_, ?_⟩
      · cases u
        · exact hs.1.aSteps
        · exact hs.1.bSteps
      · cases u
        · exact absurd rfl hu
        · simp only [St.finished, hs.1.b]
      · rcases hs.2 with ⟨r, h1, h2, -⟩ | ⟨tok, h2, -, h3⟩
        · exact Or.inl ⟨h2, by simp only [St.finished, St.aInside, h1]; rfl⟩
        · refine Or.inr ⟨tok, h2, ?_⟩
          rcases h3 with ⟨_, _, _, h4, _⟩ | ⟨_, _, _, h4, _⟩ <;> simp only [St.finished, St.aInside, h4] <;> rfl
  | B =>
    by_cases hb : s.b = .done
    · exact Or.inl ⟨(finished_B s).2 hb, step_B_done s hb⟩
    · have hs := stepB_runs { s with bSteps := s.bSteps + 1 } hb
      rw [step_B_eq s hb]
      refine Or.inr ⟨Bool.eq_false_iff.2 (fun h => hb ((finished_B s).1 h)), fun u => ?_, fun u hu => ?_, ?_⟩
      · cases u
        · exact hs.1.aSteps
        · exact hs.1.bSteps
      · cases u
        · simp only [St.finished, St.aInside, hs.1.a]
        · exact absurd rfl hu
      · rcases hs.2 with ⟨h1, h2, -⟩ | ⟨t, j, c, h1, -, -, h4, -⟩
        · exact Or.inl ⟨h2, (finished_B _).2 h1⟩
        · exact Or.inr ⟨.close t, h4, by simp only [St.finished, h1]; rfl⟩

theorem run_append (s : St) (l1 l2 : List Op) : run s (l1 ++ l2) = run (run s l1) l2 := by
  induction l1 generalizing s with
  | nil => rfl
  | cons op l1 ih => exact ih (step s op)

theorem count_append (t : Task) (l1 l2 : List Op) : count t (l1 ++ l2) = count t l1 + count t l2 := by
  induction l1 with
  | nil => simp only [List.nil_append, count, Nat.zero_add]
  | cons op l1 ih => cases op with | sched u => simp only [List.cons_append, count, ih, Nat.add_assoc]

theorem run_inv (P : St → Prop) (hstep : ∀ s op, P s → P (step s op)) :
    ∀ (ops : List Op) (s : St), P s → P (run s ops) := by
  intro ops
  induction ops with
  | nil => intro s h; exact h
  | cons op ops ih => intro s h; exact ih _ (hstep s op h)

/-- the configuration -/
def St.cfg (s : St) : Kind × SrcKind × Nat × Nat := (s.kind, s.srcKind, s.k, s.closeSusp)

theorem AFrame.cfg {s s' : St} (f : AFrame s s') : s'.cfg = s.cfg := by
  rw [St.cfg, f.kind, f.srcKind, f.k, f.closeSusp]; rfl

theorem BFrame.cfg {s s' : St} (f : BFrame s s') : s'.cfg = s.cfg := by
  rw [St.cfg, f.kind, f.srcKind, f.k, f.closeSusp]; rfl

theorem step_cfg (s : St) (op : Op) : (step s op).cfg = s.cfg :=
  step_cases (P := fun s s' => s'.cfg = s.cfg) (fun _ => rfl)
    (fun s h => (stepA_runs { s with aSteps := s.aSteps + 1 } h).1.cfg)
    (fun s h => (stepB_runs { s with bSteps := s.bSteps + 1 } h).1.cfg) s op

theorem run_cfg (ops : List Op) (s : St) : (run s ops).cfg = s.cfg :=
  run_inv (·.cfg = s.cfg) (fun s' op h => (step_cfg s' op).trans h) ops s rfl

theorem step_finished (s : St) (op : Op) (t : Task) (h : s.finished t = true) : (step s op).finished t = true := by
  cases op with
  | sched u =>
    rcases step_sent s u with ⟨-, h1⟩ | ⟨h1, -, h2, -⟩
    · rw [h1]; exact h
    · rw [h2 t (fun e => by rw [e, h1] at h; cases h)]; exact h

theorem run_finished (ops : List Op) (s : St) (t : Task) (h : s.finished t = true) :
    (run s ops).finished t = true :=
  run_inv (·.finished t = true) (fun s op => step_finished s op t) ops s h

theorem run_steps (t : Task) (ops : List Op) (s : St) :
    (run s ops).steps t ≤ s.steps t + count t ops ∧
      ((run s ops).finished t = false → (run s ops).steps t = s.steps t + count t ops) := by
  induction ops generalizing s with
  | nil => exact ⟨Nat.le_refl _, fun _ => rfl⟩
  | cons op ops ih =>
    cases op with
    | sched u =>
      have h1 := ih (step s (.sched u))
      simp only [run, count]
      rcases step_sent s u with ⟨hf, h2⟩ | ⟨-, h2, -⟩
      · rw [h2] at h1 ⊢
        refine ⟨by omega, fun hn => ?_⟩
        by_cases hu : u = t
        · rw [← hu, run_finished ops s u hf] at hn; cases hn
        · rw [if_neg hu]; have := h1.2 hn; omega
      · rw [h2 t] at h1
        exact ⟨by omega, fun hn => by have := h1.2 hn; omega⟩

theorem eventsOf_same {s s' : St} (h : s'.events = s.events) (t : Task) : s'.eventsOf t = s.eventsOf t := by
  unfold St.eventsOf; rw [h]

theorem eventsOf_append {s s' : St} {e : Ev} (h : s'.events = s.events ++ [e]) (t : Task) :
    (s'.eventsOf t).length = (s.eventsOf t).length + if e.task = t then 1 else 0 := by
  unfold St.eventsOf
  rw [h, List.filter_append, List.length_append]
  by_cases he : e.task = t <;> simp [he]

/-- a task's `send`s so far = the user suspensions it made, plus the one `send` that finished it -/
def Counted (s : St) : Prop :=
  ∀ t, s.steps t = (s.eventsOf t).length + if s.finished t = true then 1 else 0

theorem step_counted (s : St) (op : Op) (h : Counted s) : Counted (step s op) := by
  cases op with
  | sched u =>
    rcases step_sent s u with ⟨-, h1⟩ | ⟨hu, h1, h2, h3⟩
    · rw [h1]; exact h
    · intro t
      have ht := h t
      rw [h1 t]
      by_cases e : u = t
      · subst e
        rw [hu] at ht
        rcases h3 with ⟨h4, h5⟩ | ⟨tok, h4, h5⟩
        · rw [h5, eventsOf_same h4]; simp at ht ⊢; omega
        · rw [h5, eventsOf_append h4]; simp at ht ⊢; omega
      · rw [h2 t (fun e' => e e'.symm), if_neg e]
        rcases h3 with ⟨h4, -⟩ | ⟨tok, h4, -⟩
        · rw [eventsOf_same h4]; exact ht
        · rw [eventsOf_append h4, if_neg e]; exact ht

theorem init_counted (kind : Kind) (srcKind : SrcKind) (k cs : Nat) : Counted (init kind srcKind k cs) := by
  intro t; cases t <;> rfl

theorem run_counted (ops : List Op) (s : St) (h : Counted s) : Counted (run s ops) :=
  run_inv Counted step_counted ops s h

/-- the token of an event is one the user's source really produces: suspension `1 … k` of the pull A is in
    (only A is in there), or suspension `0 … closeSusp-1` of a `S.aclose()` -/
def TokOk (k cs : Nat) (e : Ev) : Prop :=
  match e.origin with
  | .user (.src t) => e.task = .A ∧ 1 ≤ t ∧ t ≤ k
  | .user (.close t) => t < cs
  | .lib => False

structure WF (s : St) : Prop where
  a : WFa s
  b : WFb s
  ev : ∀ e ∈ s.events, TokOk s.k s.closeSusp e

theorem init_wf (kind : Kind) (srcKind : SrcKind) (k cs : Nat) : WF (init kind srcKind k cs) := by
  refine ⟨⟨fun j h => ?_, fun j h => ?_⟩, fun j c h => ?_, fun e h => ?_⟩
  · cases APc.inSrc.inj h; exact Nat.le_refl _
  · exact APc.noConfusion h
  · exact BPc.noConfusion h
  · cases h

theorem tokOk_snoc {k cs : Nat} {l : List Ev} {e : Ev} (hl : ∀ e ∈ l, TokOk k cs e) (he : TokOk k cs e) :
    ∀ e' ∈ l ++ [e], TokOk k cs e' := by
  intro e' h
  rcases List.mem_append.1 h with h | h
  · exact hl e' h
  · rw [List.mem_singleton.1 h]; exact he

theorem stepA_wf (s : St) (hin : s.aInside = true) (h : WF s) : WF (stepA s) := by
  obtain ⟨f, he⟩ := stepA_runs s hin
  refine ⟨?_, by rw [WFb, f.b, f.closeSusp]; exact h.b, ?_⟩
  · unfold WFa; rw [f.k, f.closeSusp]
    rcases he with ⟨r, h1, -⟩ | ⟨tok, -, -, ⟨t, j, -, h4, h5⟩ | ⟨t, j, -, h4, h5⟩⟩
    · rw [h1]; exact ⟨fun _ hj => (nomatch hj), fun _ hj => (nomatch hj)⟩
    · rw [h4]; have := h5 h.a
      exact ⟨fun j' hj => (by cases hj; omega), fun _ hj => (nomatch hj)⟩
    · rw [h4]; have := h5 h.a
      exact ⟨fun _ hj => (nomatch hj), fun j' hj => (by cases hj; omega)⟩
  · rw [f.k, f.closeSusp]
    rcases he with ⟨r, -, h2, -⟩ | ⟨tok, h2, -, ⟨t, j, rfl, -, h5⟩ | ⟨t, j, rfl, -, h5⟩⟩ <;> rw [h2]
    · exact h.ev
    · have := h5 h.a; exact tokOk_snoc h.ev ⟨rfl, this.2, by omega⟩
    · have := h5 h.a; exact tokOk_snoc h.ev (show t < s.closeSusp by omega)

theorem stepB_wf (s : St) (hb : s.b ≠ .done) (h : WF s) : WF (stepB s) := by
  obtain ⟨f, he⟩ := stepB_runs s hb
  refine ⟨by rw [WFa, f.a, f.k, f.closeSusp]; exact h.a, ?_, ?_⟩
  · unfold WFb; rw [f.closeSusp]
    rcases he with ⟨h1, -⟩ | ⟨t, j, c, h1, -, h3, -⟩ <;> rw [h1]
    · intro j c hj; cases hj
    · have := h3 h.b; intro j' c' hj; cases hj; omega
  · rw [f.k, f.closeSusp]
    rcases he with ⟨-, h2, -⟩ | ⟨t, j, c, -, -, h3, h4, -⟩
    · rw [h2]; exact h.ev
    · have := h3 h.b; rw [h4]; exact tokOk_snoc h.ev (show t < s.closeSusp by omega)

theorem step_wf (s : St) (op : Op) : WF s → WF (step s op) :=
  step_cases (P := fun s s' => WF s → WF s') (fun _ h => h)
    (fun _ hin h => stepA_wf _ hin ⟨h.a, h.b, h.ev⟩) (fun _ hb h => stepB_wf _ hb ⟨h.a, h.b, h.ev⟩) s op

theorem run_wf (ops : List Op) (s : St) (h : WF s) : WF (run s ops) := run_inv WF step_wf ops s h

theorem bRemaining_zero (s : St) : bRemaining s = 0 ↔ s.b = .done := by
  unfold bRemaining
  cases s.b <;> simp

/-- `bSteps + bRemaining` never grows: a `send` on A changes neither, a `send` on B moves one from the second to
    the first -/
theorem step_potential (s : St) (op : Op) :
    (step s op).bSteps + bRemaining (step s op) ≤ s.bSteps + bRemaining s := by
  refine step_cases (P := fun s s' => s'.bSteps + bRemaining s' ≤ s.bSteps + bRemaining s)
    (fun _ => Nat.le_refl _) (fun s hin => ?_) (fun s hb => ?_) s op
  · have f := (stepA_runs { s with aSteps := s.aSteps + 1 } hin).1
    rw [bRemaining, f.b, f.kind, f.closeSusp, f.bSteps]; exact Nat.le_refl _
  · obtain ⟨f, he⟩ := stepB_runs { s with bSteps := s.bSteps + 1 } hb
    have hpos : bRemaining s ≠ 0 := fun h0 => hb ((bRemaining_zero s).1 h0)
    have hst : (stepB { s with bSteps := s.bSteps + 1 }).bSteps = s.bSteps + 1 := f.bSteps
    rw [hst]
    rcases he with ⟨h1, -⟩ | ⟨t, j, c, h1, h2, -⟩
    · rw [(bRemaining_zero _).2 h1]; omega
    · have : bRemaining (stepB { s with bSteps := s.bSteps + 1 }) = j + 1 + contCost s.closeSusp c := by
        simp only [bRemaining, h1, f.closeSusp]
      have h2 : j + 1 + contCost s.closeSusp c ≤ bRemaining s - 1 := h2
      omega

theorem run_potential (ops : List Op) (s : St) :
    (run s ops).bSteps + bRemaining (run s ops) ≤ s.bSteps + bRemaining s :=
  run_inv (fun s' => s'.bSteps + bRemaining s' ≤ s.bSteps + bRemaining s)
    (fun s' op h => Nat.le_trans (step_potential s' op) h) ops s (Nat.le_refl _)

/-- what A's coroutine has yielded after `n` further suspensions of `S.__anext__()` -/
def aTrace (n : Nat) : List Out := (List.range n).map fun i => Out.susp (.user (.src (i + 1)))

theorem aTrace_succ (n : Nat) : aTrace (n + 1) = aTrace n ++ [.susp (.user (.src (n + 1)))] := by
  simp only [aTrace, List.range_succ, List.map_append, List.map_cons, List.map_nil]

/-- A is exactly where its own `send`s took it through `S.__anext__()` -/
def ALive (s : St) : Prop :=
  (∃ j, s.a = .inSrc j ∧ j + s.aSteps = s.k ∧ s.aOut = aTrace s.aSteps) ∨
  (s.a = .done .item ∧ s.aSteps = s.k + 1 ∧ s.aOut = aTrace s.k ++ [.item])

/-- nobody has entered the user's `S.aclose()`, B has not been suspended, A's pull is undisturbed -/
structure Quiet (s : St) : Prop where
  dead : s.dead = false
  closes : s.closes = 0
  closeCalls : s.closeCalls = 0
  live : ALive s
  bEvents : s.eventsOf .B = []

theorem stepA_quiet (s : St) (h : Quiet s) :
    Quiet (step s (.sched .A)) ∧ (step s (.sched .A)).b = s.b ∧ (step s (.sched .A)).bOut = s.bOut ∧
      (step s (.sched .A)).bSteps = s.bSteps ∧ (step s (.sched .A)).handleDone = s.handleDone ∧
      (step s (.sched .A)).kind = s.kind := by
  rcases h.live with ⟨j, ha, hj, ho⟩ | ⟨ha, _, _⟩
  · have hin : s.aInside = true := by rw [St.aInside, ha]
    rw [step_A_eq s hin]
    cases j with
    | succ j =>
      have e : stepA { s with aSteps := s.aSteps + 1 } =
          aSusp (.src (s.k - j)) { s with aSteps := s.aSteps + 1, a := .inSrc j } := by
        simp only [stepA, ha]
      rw [e]
      refine ⟨⟨h.dead, h.closes, h.closeCalls, Or.inl ⟨j, rfl, ?_, ?_⟩, ?_⟩, rfl, rfl, rfl, rfl, rfl⟩
      · show j + (s.aSteps + 1) = s.k; omega
      · have : s.k - j = s.aSteps + 1 := by omega
        show s.aOut ++ _ = aTrace (s.aSteps + 1)
        rw [ho, aTrace_succ, this]
      · have := h.bEvents
        unfold St.eventsOf at this ⊢
        show List.filter _ (s.events ++ _) = []
        rw [List.filter_append, this]; rfl
    | zero =>
      have e : stepA { s with aSteps := s.aSteps + 1 } = aFinish .item { s with aSteps := s.aSteps + 1 } := by
        simp only [stepA, ha, h.dead, and_false, if_false, Bool.false_eq_true]
      rw [e]
      refine ⟨⟨h.dead, h.closes, h.closeCalls, Or.inr ⟨rfl, ?_, ?_⟩, h.bEvents⟩, rfl, rfl, rfl, rfl, rfl⟩
      · show s.aSteps + 1 = s.k + 1; omega
      · have : s.aSteps = s.k := by omega
        show s.aOut ++ _ = _
        rw [ho, this]; rfl
  · have : s.aInside = false := by rw [St.aInside, ha]
    rw [step_A_done s this]
    exact ⟨h, rfl, rfl, rfl, rfl, rfl⟩

/-- where an undisturbed A is after being scheduled `n` times: still inside after the source's suspensions
    `1 … n`, or through with its item after all `k` of them -/
def AResult (k n : Nat) (s : St) : Prop :=
  (k < n → s.a = .done .item ∧ s.aOut = aTrace k ++ [.item]) ∧
  (n ≤ k → s.a = .inSrc (k - n) ∧ s.aOut = aTrace n)

theorem quiet_result (kind : Kind) (srcKind : SrcKind) (k cs : Nat) (ops : List Op)
    (h : Quiet (exec kind srcKind k cs ops)) : AResult k (count .A ops) (exec kind srcKind k cs ops) := by
  unfold exec at h ⊢
  have hst := run_steps .A ops (init kind srcKind k cs)
  rw [show (init kind srcKind k cs).steps .A + count .A ops = count .A ops from Nat.zero_add _] at hst
  have hle : (run (init kind srcKind k cs) ops).aSteps ≤ count .A ops := hst.1
  have hk : (run (init kind srcKind k cs) ops).k = k := congrArg (·.2.2.1) (run_cfg ops _)
  rcases h.live with ⟨j, ha, hj, ho⟩ | ⟨ha, hs, ho⟩
  · have hn : (run (init kind srcKind k cs) ops).aSteps = count .A ops :=
      hst.2 (by rw [St.finished, St.aInside, ha]; rfl)
    rw [hn, hk] at hj
    rw [hn] at ho
    exact ⟨fun _ => by omega, fun _ => ⟨by rw [ha]; congr 1; omega, ho⟩⟩
  · rw [hk] at hs ho
    exact ⟨fun _ => ⟨ha, ho⟩, fun _ => by omega⟩

/-- the handles whose `aclose()` refuses (RuntimeError) while A is inside: every generator-based one, and the
    class-based ones (`chain`, `groupby`) whose close goes straight to a NATIVE generator source -/
def refusesWhenBusy (kind : Kind) (srcKind : SrcKind) : Bool :=
  match kind with
  | .gen | .borrowed | .teeChild | .teeAll => true
  | .chainObj | .groupbyObj => srcKind = .native
  | .scoped => false

/-- the handles whose `aclose()` never touches the source: `borrow`, the handle of `scoped_iter`, one child of a
    `tee` that has a sibling -/
def noSourceAccess (kind : Kind) : Bool :=
  match kind with
  | .borrowed | .scoped | .teeChild => true
  | _ => false

theorem bStart_refused (s : St) (hin : s.aInside = true)
    (hr : refusesWhenBusy s.kind s.srcKind = true) : bStart s = bRaise s := by
  have native : s.srcKind = .native → callSrcClose s = (s, .refused) := fun hk => by
    simp only [callSrcClose, hk, hin, if_true]
  unfold bStart
  split <;> rename_i hk <;> rw [hk] at hr
  · simp only [bIterClose, hin, if_true]
  · rw [native (of_decide_eq_true hr)]; simp only [bIterClose, hin, if_true]
  · rw [bDirectClose, native (of_decide_eq_true hr)]
  · rw [if_pos hin]
  · rw [if_pos hin]
  · cases hr
  · rw [if_pos hin]

theorem step_B_idle (s : St) (hb : s.b = .idle) :
    step s (.sched .B) = bStart { s with bSteps := s.bSteps + 1 } := by
  simp only [step, stepB, hb]

theorem bStart_noSourceAccess (s : St) (hk : noSourceAccess s.kind = true) :
    ∃ o hd, (o = .busy ∨ o = .ret) ∧
      bStart s = { s with b := .done, bOut := s.bOut ++ [o], handleDone := hd } := by
  unfold bStart
  split <;> rename_i h <;> rw [h] at hk <;> try cases hk
  · split
    · exact ⟨.busy, s.handleDone, Or.inl rfl, rfl⟩
    · exact ⟨.ret, true, Or.inr rfl, rfl⟩
  · split
    · exact ⟨.busy, s.handleDone, Or.inl rfl, rfl⟩
    · exact ⟨.ret, true, Or.inr rfl, rfl⟩
  · exact ⟨.ret, s.handleDone, Or.inr rfl, rfl⟩

structure Held (pc : BPc) (out : List Out) (n : Nat) (s : St) : Prop where
  quiet : Quiet s
  handleDone : s.handleDone = false
  b : s.b = pc
  bOut : s.bOut = out
  bSteps : s.bSteps = n

theorem stepA_held {pc out n s} (h : Held pc out n s) : Held pc out n (step s (.sched .A)) := by
  obtain ⟨hq, hb, hbo, hbs, hhd, -⟩ := stepA_quiet s h.quiet
  exact ⟨hq, hhd.trans h.handleDone, hb.trans h.b, hbo.trans h.bOut, hbs.trans h.bSteps⟩

theorem run_before (ops : List Op) (s : St) (h : Held .idle [] 0 s) (hB : count .B ops = 0) :
    Held .idle [] 0 (run s ops) := by
  induction ops generalizing s with
  | nil => exact h
  | cons op ops ih =>
    cases op with
    | sched t =>
      cases t with
      | B => simp [count] at hB
      | A => exact ih _ (stepA_held h) (by simpa [count] using hB)

/-- `H.aclose()` was refused: B is through with RuntimeError after ONE `send`, the source and the handle are
    as they were, A's pull goes on -/
theorem run_refused (ops : List Op) (s : St) (h : Held .done [.busy] 1 s) : Held .done [.busy] 1 (run s ops) := by
  refine run_inv _ (fun s op h => ?_) ops s h
  cases op with
  | sched t =>
    cases t with
    | A => exact stepA_held h
    | B => rw [step_B_done s h.b]; exact h

theorem before_refused (s : St) (h : Held .idle [] 0 s) (hin : s.aInside = true)
    (hr : refusesWhenBusy s.kind s.srcKind = true) : Held .done [.busy] 1 (step s (.sched .B)) := by
  rw [step_B_idle s h.b, bStart_refused { s with bSteps := s.bSteps + 1 } hin hr]
  have hq := h.quiet
  exact ⟨⟨hq.dead, hq.closes, hq.closeCalls, hq.live, hq.bEvents⟩, h.handleDone, rfl,
    congrArg (· ++ [Out.busy]) h.bOut, congrArg (· + 1) h.bSteps⟩

theorem init_quiet (kind : Kind) (srcKind : SrcKind) (k cs : Nat) : Quiet (init kind srcKind k cs) :=
  ⟨rfl, rfl, rfl, Or.inl ⟨k, rfl, rfl, rfl⟩, rfl⟩

/-- the whole scenario: only A runs (`pre`), B calls `H.aclose()` while A is still inside, anything goes (`post`) -/
theorem refused_run (kind : Kind) (srcKind : SrcKind) (k cs : Nat) (pre post : List Op)
    (hr : refusesWhenBusy kind srcKind = true) (hB : count .B pre = 0) (hA : count .A pre ≤ k) :
    Held .done [.busy] 1 (exec kind srcKind k cs (pre ++ .sched .B :: post)) := by
  unfold exec
  rw [run_append]
  simp only [run]
  apply run_refused
  have hb := run_before pre _ ⟨init_quiet kind srcKind k cs, rfl, rfl, rfl, rfl⟩ hB
  have hcfg : refusesWhenBusy (run (init kind srcKind k cs) pre).cfg.1 (run (init kind srcKind k cs) pre).cfg.2.1
      = true := by rw [run_cfg]; exact hr
  apply before_refused _ hb
  · have := (quiet_result kind srcKind k cs pre hb.quiet).2 hA
    rw [St.aInside, show (run (init kind srcKind k cs) pre).a = _ from this.1]
  · exact hcfg

/-- invariant of the runs on a handle whose `aclose()` never touches the source -/
structure Untouched (s : St) : Prop where
  kind : noSourceAccess s.kind = true
  quiet : Quiet s
  b : (s.b = .idle ∧ s.bOut = [] ∧ s.bSteps = 0) ∨
      (s.b = .done ∧ s.bSteps = 1 ∧ (s.bOut = [.busy] ∨ s.bOut = [.ret]))

theorem step_untouched (s : St) (op : Op) (h : Untouched s) : Untouched (step s op) := by
  cases op with
  | sched t =>
    cases t with
    | A =>
      obtain ⟨hq, hb, hbo, hbs, -, hk⟩ := stepA_quiet s h.quiet
      exact ⟨by rw [hk]; exact h.kind, hq, by rw [hb, hbo, hbs]; exact h.b⟩
    | B =>
      rcases h.b with ⟨hb, hbo, hbs⟩ | ⟨hb, -⟩
      · rw [step_B_idle s hb]
        have hq := h.quiet
        obtain ⟨o, hd, ho, e⟩ := bStart_noSourceAccess { s with bSteps := s.bSteps + 1 } h.kind
        rw [e]
        refine ⟨h.kind, ⟨hq.dead, hq.closes, hq.closeCalls, hq.live, hq.bEvents⟩,
          Or.inr ⟨rfl, congrArg (· + 1) hbs, ?_⟩⟩
        show s.bOut ++ [o] = [.busy] ∨ s.bOut ++ [o] = [.ret]
        rw [hbo]
        rcases ho with rfl | rfl
        · exact Or.inl rfl
        · exact Or.inr rfl
      · rw [step_B_done s hb]; exact h

/-- the common content of the two C07 theorems -/
theorem untouched_summary (kind : Kind) (hk : noSourceAccess kind = true) (srcKind : SrcKind)
    (k cs : Nat) (ops : List Op) :
    let s := exec kind srcKind k cs ops
    s.dead = false ∧ s.closes = 0 ∧ s.closeCalls = 0 ∧ s.eventsOf .B = [] ∧ s.bSteps ≤ 1 ∧
    (s.bOut = [] ∨ s.bOut = [.busy] ∨ s.bOut = [.ret]) ∧ AResult k (count .A ops) s := by
  intro s
  have hu : Untouched s :=
    run_inv Untouched step_untouched ops _ ⟨hk, init_quiet kind srcKind k cs, Or.inl ⟨rfl, rfl, rfl⟩⟩
  refine ⟨hu.quiet.dead, hu.quiet.closes, hu.quiet.closeCalls, hu.quiet.bEvents, ?_, ?_,
    quiet_result kind srcKind k cs ops hu.quiet⟩
  · rcases hu.b with ⟨-, -, h⟩ | ⟨-, h, -⟩ <;> rw [h] <;> decide
  · rcases hu.b with ⟨-, h, -⟩ | ⟨-, -, h | h⟩
    · exact Or.inl h
    · exact Or.inr (Or.inl h)
    · exact Or.inr (Or.inr h)

end AsyncVerif.CloseBusy
