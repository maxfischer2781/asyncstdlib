import AsyncVerif.Proofs.SetDict
import AsyncVerif.Proofs.SetDictFuel
import AsyncVerif.Std.ListSpec
import AsyncVerif.Proofs.Faithful
import AsyncVerif.Proofs.KindFree
/-!
# `dict(iterable, **kwargs)`: key equality `hashEq` is a partial equivalence (reflexive exactly on the
  hashable values), `dictInsert` = `dictUpdate` on dictionaries, algebra of `dictUpdate` / `dictLookup`,
  the run lemmas for `Impl.dictKw` / `Std.dictKw`, and `Compositional` for both
-/
namespace AsyncVerif

open ListSpec

mutual
/-- what `hashEq` compares: user items by key alone, `True`/`False` as `1`/`0`, tuples memberwise -/
def hkey : Val → Val
  | .obj _ k => .obj 0 k
  | .bool b => .int (if b then 1 else 0)
  | .tup vs => .tup (hkeys vs)
  | v => v
def hkeys : List Val → List Val
  | [] => []
  | v :: r => hkey v :: hkeys r
end

theorem boolInt_inj (c b : Bool) : (if c then 1 else 0 : Int) = (if b then 1 else 0) ↔ c = b := by
  cases c <;> cases b <;> decide

/- Equal keys are hashable values with the same `hkey`: this form is symmetric and transitive on its face. -/
mutual
theorem hashEq_iff_hkey : ∀ a b : Val,
    Std.hashEq a b = true ↔ hkey a = hkey b ∧ Std.hashable a = true ∧ Std.hashable b = true
  | .obj i k, b => by cases b <;> simp [Std.hashEq, hkey, Std.hashable]
  | .int n, b => by cases b <;> simp [Std.hashEq, hkey, Std.hashable]
  | .bool c, b => by
    cases b with
    | int n => simpa [Std.hashEq, hkey, Std.hashable] using eq_comm
    | _ => simp [Std.hashEq, hkey, Std.hashable, boolInt_inj]
  | .none, b => by cases b <;> simp [Std.hashEq, hkey, Std.hashable]
  | .fill, b => by cases b <;> simp [Std.hashEq, hkey, Std.hashable]
  | .lst _, b => by cases b <;> simp [Std.hashEq, hkey, Std.hashable]
  | .tup as, b => by cases b <;> simp [Std.hashEq, hkey, Std.hashable, hashEqList_iff_hkeys as]
theorem hashEqList_iff_hkeys : ∀ as bs : List Val,
    Std.hashEqList as bs = true ↔
      hkeys as = hkeys bs ∧ Std.hashableList as = true ∧ Std.hashableList bs = true
  | [], bs => by cases bs <;> simp [Std.hashEqList, hkeys, Std.hashableList]
  | a :: as, [] => by simp [Std.hashEqList, hkeys]
  | a :: as, b :: bs => by
    simp only [Std.hashEqList, Bool.and_eq_true, hashEq_iff_hkey a b, hashEqList_iff_hkeys as bs, hkeys,
      Std.hashableList, List.cons.injEq]
    exact ⟨fun ⟨⟨h1, h2, h3⟩, h4, h5, h6⟩ => ⟨⟨h1, h4⟩, ⟨h2, h5⟩, h3, h6⟩,
      fun ⟨⟨h1, h4⟩, ⟨h2, h5⟩, h3, h6⟩ => ⟨⟨h1, h2, h3⟩, h4, h5, h6⟩⟩
end

theorem hashEq_symm (a b : Val) : Std.hashEq a b = Std.hashEq b a := by
  rw [Bool.eq_iff_iff, hashEq_iff_hkey, hashEq_iff_hkey]
  exact ⟨fun ⟨h1, h2, h3⟩ => ⟨h1.symm, h3, h2⟩, fun ⟨h1, h2, h3⟩ => ⟨h1.symm, h3, h2⟩⟩

theorem hashEq_trans {a b c : Val} (h1 : Std.hashEq a b = true) (h2 : Std.hashEq b c = true) :
    Std.hashEq a c = true := by
  rw [hashEq_iff_hkey] at h1 h2 ⊢
  exact ⟨h1.1.trans h2.1, h1.2.1, h2.2.2⟩

/-- a hashable value equals itself (an unhashable one — a list — equals nothing) -/
theorem hashEq_refl {a : Val} (h : Std.hashable a = true) : Std.hashEq a a = true :=
  (hashEq_iff_hkey a a).2 ⟨rfl, h, h⟩

/-- two keys equal to the same key are equal to each other -/
theorem hashEq_euclid {a b c : Val} (h1 : Std.hashEq a c = true) (h2 : Std.hashEq b c = true) :
    Std.hashEq a b = true := hashEq_trans h1 (by rw [hashEq_symm]; exact h2)

/-- equal keys match the same keys -/
theorem hashEq_congr_right {a b : Val} (h : Std.hashEq a b = true) (c : Val) : Std.hashEq c a = Std.hashEq c b := by
  rw [hashEq_iff_hkey] at h
  rw [Bool.eq_iff_iff, hashEq_iff_hkey, hashEq_iff_hkey, h.1]
  exact ⟨fun ⟨h1, h2, _⟩ => ⟨h1, h2, h.2.2⟩, fun ⟨h1, h2, _⟩ => ⟨h1, h2, h.2.1⟩⟩

namespace ListSpec

theorem dictUpdate_absent : ∀ (d : List (Val × Val)) (k v : Val), (∀ p ∈ d, Std.hashEq p.1 k = false) →
    dictUpdate d k v = d ++ [(k, v)] := by
  intro d k v
  induction d with
  | nil => intro _; rfl
  | cons p rest ih =>
    intro h
    rcases p with ⟨k0, v0⟩
    have h0 : Std.hashEq k0 k = false := h (k0, v0) (by simp)
    simp only [dictUpdate, h0, Bool.false_eq_true, if_false, List.cons_append]
    rw [ih (fun q hq => h q (by simp [hq]))]

/-- the model's `d[k] = v` (`Std.dictInsert`) is `dictUpdate` on every dictionary (distinct keys) -/
theorem dictInsert_eq_dictUpdate : ∀ (d : List (Val × Val)) (k v : Val), DictKeysDistinct d →
    Std.dictInsert d k v = dictUpdate d k v := by
  intro d k v
  induction d with
  | nil => intro _; rfl
  | cons p rest ih =>
    intro hd
    rcases p with ⟨k0, v0⟩
    have hd' := List.pairwise_cons.mp hd
    cases h0 : Std.hashEq k0 k with
    | true =>
      have hrest : ∀ q ∈ rest, Std.hashEq q.1 k = false := by
        intro q hq
        cases hqk : Std.hashEq q.1 k with
        | false => rfl
        | true =>
          have := hashEq_euclid h0 hqk
          rw [hd'.1 q hq] at this; exact this.symm
      have hmap : rest.map (fun p => if Std.hashEq p.1 k = true then (p.1, v) else p) = rest := by
        conv => rhs; rw [← List.map_id rest]
        apply List.map_congr_left
        intro q hq
        simp [hrest q hq]
      simp [Std.dictInsert, dictUpdate, h0, hmap]
    | false =>
      have ih' := ih hd'.2
      unfold Std.dictInsert at ih' ⊢
      simp only [List.any_cons, h0, Bool.false_or, dictUpdate, Bool.false_eq_true, if_false, List.map_cons,
        List.cons_append]
      split
      · rename_i ha; simp only [ha, if_true] at ih'; rw [ih']
      · rename_i ha; simp only [ha, Bool.false_eq_true, if_false] at ih'; rw [← ih']

/-- the keys after `d[k] = v`: unchanged if the key is present, else `k` is appended (this is `set.add` on the keys) -/
theorem dictUpdate_keys : ∀ (d : List (Val × Val)) (k v : Val),
    (dictUpdate d k v).map Prod.fst = Std.setInsert (d.map Prod.fst) k := by
  intro d k v
  induction d with
  | nil => rfl
  | cons p rest ih =>
    rcases p with ⟨k0, v0⟩
    cases h0 : Std.hashEq k0 k with
    | true => simp [dictUpdate, Std.setInsert, h0]
    | false =>
      simp only [dictUpdate, h0, Bool.false_eq_true, if_false, List.map_cons, ih]
      unfold Std.setInsert
      simp only [List.any_cons, h0, Bool.false_or]
      split <;> simp

theorem dictUpdate_distinct (d : List (Val × Val)) (k v : Val) (hd : DictKeysDistinct d) :
    DictKeysDistinct (dictUpdate d k v) := by
  unfold DictKeysDistinct at hd ⊢
  have hk := dictUpdate_keys d k v
  have key : ∀ l : List (Val × Val), l.Pairwise (fun p q => Std.hashEq p.1 q.1 = false) ↔
      (l.map Prod.fst).Pairwise (fun a b => Std.hashEq a b = false) := by
    intro l; rw [List.pairwise_map]
  rw [key] at hd ⊢
  rw [hk]
  unfold Std.setInsert
  split
  · exact hd
  · rename_i ha
    rw [List.pairwise_append]
    refine ⟨hd, by simp, ?_⟩
    intro a ha' b hb
    simp only [List.mem_singleton] at hb
    subst hb
    simp only [List.any_eq_true, not_exists, not_and, Bool.not_eq_true] at ha
    exact ha a ha'

theorem dictUpdateAll_nil (d : List (Val × Val)) : dictUpdateAll d [] = d := rfl

theorem dictUpdateAll_cons (d : List (Val × Val)) (p : Val × Val) (kw : List (Val × Val)) :
    dictUpdateAll d (p :: kw) = dictUpdateAll (dictUpdate d p.1 p.2) kw := rfl

theorem dictUpdateAll_append (d : List (Val × Val)) (a b : List (Val × Val)) :
    dictUpdateAll d (a ++ b) = dictUpdateAll (dictUpdateAll d a) b := by
  simp [dictUpdateAll, List.foldl_append]

theorem dictUpdateAll_distinct : ∀ (kw d : List (Val × Val)), DictKeysDistinct d →
    DictKeysDistinct (dictUpdateAll d kw) := by
  intro kw
  induction kw with
  | nil => intro d h; exact h
  | cons p rest ih => intro d h; exact ih _ (dictUpdate_distinct d p.1 p.2 h)

/-- the comprehension's dictionary is `dictUpdate` folded over the pairs -/
theorem dictOf_eq_dictUpdateAll : ∀ (pairs acc : List (Val × Val)), DictKeysDistinct acc →
    dictOf acc pairs = dictUpdateAll acc pairs := by
  intro pairs
  induction pairs with
  | nil => intro acc _; rfl
  | cons p rest ih =>
    intro acc h
    show dictOf (Std.dictInsert acc p.1 p.2) rest = dictUpdateAll (dictUpdate acc p.1 p.2) rest
    rw [dictInsert_eq_dictUpdate acc p.1 p.2 h]
    exact ih _ (dictUpdate_distinct acc p.1 p.2 h)

theorem distinct_nil : DictKeysDistinct [] := List.Pairwise.nil

theorem dictOf_distinct (pairs acc : List (Val × Val)) (h : DictKeysDistinct acc) :
    DictKeysDistinct (dictOf acc pairs) := by
  rw [dictOf_eq_dictUpdateAll pairs acc h]; exact dictUpdateAll_distinct pairs acc h

/-- the keys after `d.update(kw)`: the keys of `d` in their order, then the new keys in first-occurrence order -/
theorem dictUpdateAll_keys : ∀ (kw d : List (Val × Val)),
    (dictUpdateAll d kw).map Prod.fst = distinct (d.map Prod.fst) (kw.map Prod.fst) := by
  intro kw
  induction kw with
  | nil => intro d; rfl
  | cons p rest ih =>
    intro d
    rw [dictUpdateAll_cons, ih, dictUpdate_keys]
    rfl

theorem setInsert_prefix (acc : List Val) (x : Val) : acc <+: Std.setInsert acc x := by
  unfold Std.setInsert; split
  · exact List.prefix_refl _
  · exact List.prefix_append _ _

theorem distinct_prefix : ∀ (items acc : List Val), acc <+: distinct acc items := by
  intro items
  induction items with
  | nil => intro acc; exact List.prefix_refl _
  | cons x rest ih => intro acc; exact List.IsPrefix.trans (setInsert_prefix acc x) (ih _)

/-- lookup after `d[k] = v`: the new value under every key equal to `k`, the old content under every other key -/
theorem dictLookup_dictUpdate : ∀ (d : List (Val × Val)) (k v k' : Val),
    dictLookup (dictUpdate d k v) k' = if Std.hashEq k k' then some v else dictLookup d k' := by
  intro d k v k'
  induction d with
  | nil => rfl
  | cons p rest ih =>
    rcases p with ⟨k0, v0⟩
    cases h0 : Std.hashEq k0 k with
    | true =>
      have hc : Std.hashEq k0 k' = Std.hashEq k k' := by
        rw [hashEq_symm k0 k', hashEq_symm k k']; exact hashEq_congr_right h0 k'
      simp only [dictUpdate, h0, if_true, dictLookup, hc]
      split <;> rfl
    | false =>
      simp only [dictUpdate, h0, Bool.false_eq_true, if_false, dictLookup, ih]
      cases h1 : Std.hashEq k0 k' with
      | false => simp
      | true =>
        cases h2 : Std.hashEq k k' with
        | false => simp
        | true => rw [hashEq_euclid h1 h2] at h0; exact absurd h0 (by simp)

theorem dictLookup_append : ∀ (a b : List (Val × Val)) (k : Val),
    dictLookup (a ++ b) k = (dictLookup a k).orElse (fun _ => dictLookup b k) := by
  intro a b k
  induction a with
  | nil => rfl
  | cons p rest ih =>
    rcases p with ⟨k0, v0⟩
    simp only [List.cons_append, dictLookup]
    split
    · rfl
    · exact ih

/-- lookup after `d.update(kw)`: the value of the last keyword equal to the key, else the old content -/
theorem dictLookup_dictUpdateAll : ∀ (kw d : List (Val × Val)) (k : Val),
    dictLookup (dictUpdateAll d kw) k = (dictLookup kw.reverse k).orElse (fun _ => dictLookup d k) := by
  intro kw
  induction kw with
  | nil => intro d k; rfl
  | cons p rest ih =>
    intro d k
    rcases p with ⟨k0, v0⟩
    rw [dictUpdateAll_cons, ih, List.reverse_cons, dictLookup_append, dictLookup_dictUpdate]
    cases dictLookup rest.reverse k with
    | some v => rfl
    | none =>
      simp only [Option.orElse, dictLookup]
      split <;> rfl

/-- a later assignment to an equal key wins; the entry keeps its position and its first key object -/
theorem dictUpdate_dictUpdate : ∀ (d : List (Val × Val)) (k v k' v' : Val), Std.hashEq k k' = true →
    dictUpdate (dictUpdate d k v) k' v' = dictUpdate d k v' := by
  intro d k v k' v' hk
  induction d with
  | nil => simp [dictUpdate, hk]
  | cons p rest ih =>
    rcases p with ⟨k0, v0⟩
    cases h0 : Std.hashEq k0 k with
    | true => simp [dictUpdate, h0, hashEq_trans h0 hk]
    | false =>
      have h1 : Std.hashEq k0 k' = false := by
        cases h1 : Std.hashEq k0 k' with
        | false => rfl
        | true => rw [hashEq_euclid h1 hk] at h0; exact h0.symm ▸ rfl
      simp [dictUpdate, h0, h1, ih]

end ListSpec

open ListSpec

/-- the outcome of `base.update(kwargs)` as a plain function: it does not depend on the world -/
def dictUpdateKwR : List (Val × Val) → List (Val × Val) → Except Exc (List (Val × Val))
  | acc, [] => .ok acc
  | acc, (k, v) :: rest => if Std.hashable k then dictUpdateKwR (Std.dictInsert acc k v) rest else .error .typeError

/-- `base.update(kwargs)` touches nothing in the world -/
theorem dictUpdateKw_apply : ∀ (kw acc : List (Val × Val)) (w : World),
    Std.dictUpdateKw acc kw w = (dictUpdateKwR acc kw, w) := by
  intro kw
  induction kw with
  | nil => intro acc w; rfl
  | cons p rest ih =>
    intro acc w
    rcases p with ⟨k, v⟩
    unfold Std.dictUpdateKw dictUpdateKwR
    split
    · exact ih _ w
    · rfl

theorem dictUpdateKwR_ne_oof : ∀ (kw acc : List (Val × Val)), dictUpdateKwR acc kw ≠ .error .outOfFuel := by
  intro kw
  induction kw with
  | nil => intro acc; simp [dictUpdateKwR]
  | cons p rest ih =>
    intro acc
    rcases p with ⟨k, v⟩
    unfold dictUpdateKwR
    split
    · exact ih _
    · simp

/-- with hashable keywords on a dictionary, `base.update(kwargs)` is `dictUpdateAll` -/
theorem dictUpdateKwR_value : ∀ (kw acc : List (Val × Val)), (∀ p ∈ kw, Std.hashable p.1 = true) →
    DictKeysDistinct acc → dictUpdateKwR acc kw = .ok (dictUpdateAll acc kw) := by
  intro kw
  induction kw with
  | nil => intro acc _ _; rfl
  | cons p rest ih =>
    intro acc hh hd
    rcases p with ⟨k, v⟩
    have hk : Std.hashable k = true := hh (k, v) (by simp)
    simp only [dictUpdateKwR, hk, if_true, dictUpdateAll_cons]
    rw [dictInsert_eq_dictUpdate acc k v hd]
    exact ih _ (fun q hq => hh q (by simp [hq])) (dictUpdate_distinct acc k v hd)

/-- an unhashable keyword key (impossible in Python, where keywords are `str`): `TypeError`, as for `d[k] = v` -/
theorem dictUpdateKwR_unhashable : ∀ (kw acc : List (Val × Val)), (∃ p ∈ kw, Std.hashable p.1 = false) →
    dictUpdateKwR acc kw = .error .typeError := by
  intro kw
  induction kw with
  | nil => intro acc h; simp at h
  | cons p rest ih =>
    intro acc h
    rcases p with ⟨k, v⟩
    unfold dictUpdateKwR
    split
    · rename_i hk
      apply ih
      obtain ⟨q, hq, hq2⟩ := h
      simp only [List.mem_cons] at hq
      rcases hq with rfl | hq
      · simp [hk] at hq2
      · exact ⟨q, hq, hq2⟩
    · rfl

/-- what the comprehension returns, in every world, is a dictionary: its keys are pairwise different -/
theorem dictLoop_distinct (s : Nat) : ∀ (fuel : Nat) (acc : List (Val × Val)) (w : World) (d : List (Val × Val)),
    DictKeysDistinct acc → (Std.dictLoop s acc fuel w).1 = .ok d → DictKeysDistinct d := by
  intro fuel
  induction fuel with
  | zero => intro acc w d _ h; simp [Std.dictLoop, raise] at h
  | succ fuel ih =>
    intro acc w d hd h
    simp only [Std.dictLoop, bind_apply] at h
    rcases hp : pull s w with ⟨r, w1⟩
    rw [hp] at h
    cases r with
    | error e => simp at h
    | ok o =>
      cases o with
      | none => simp only [pure_apply] at h; cases h; exact hd
      | some x =>
        simp only [bind_apply, liftExc_apply] at h
        cases hu : Std.unpackPair x with
        | error e => rw [hu] at h; simp at h
        | ok kv =>
          rcases kv with ⟨k, v⟩
          rw [hu] at h
          simp only at h
          split at h
          · rw [dictInsert_eq_dictUpdate acc k v hd] at h
            exact ih _ w1 d (dictUpdate_distinct acc k v hd) h
          · simp [raise] at h

/-- leaving the scope commutes with a final pure step -/
theorem scopedIter_map {α β : Type} (s : Nat) (body : M α) (f : α → β) (w : World) :
    scopedIter s (do pure (f (← body))) w
      = match scopedIter s body w with
        | (.ok a, w') => (.ok (f a), w')
        | (.error e, w') => (.error e, w') := by
  unfold scopedIter tryFinally
  simp only [bind_apply, pure_apply]
  rcases body w with ⟨r, w1⟩
  cases r with
  | ok a => simp only; rcases closeSrc s w1 with ⟨r2, w2⟩; cases r2 <;> rfl
  | error e =>
    by_cases he : e = .outOfFuel
    · subst he; rfl
    · simp only; split <;> simp_all <;> (rcases closeSrc s w1 with ⟨r2, w2⟩; cases r2 <;> simp_all)

/-- `Impl.dict` in terms of the scoped comprehension -/
theorem dict_run (s fuel : Nat) (w : World) :
    Impl.dict s fuel w
      = match scopedIter s (Std.dictLoop s [] fuel) w with
        | (.ok d, w') => (.ok (Std.dictVal d), w')
        | (.error e, w') => (.error e, w') := by
  unfold Impl.dict Std.dict
  rw [scopedIter_map s (Std.dictLoop s [] fuel) Std.dictVal w]
  rcases scopedIter s (Std.dictLoop s [] fuel) w with ⟨r, w1⟩
  cases r <;> rfl

/-- `Impl.dictKw` in terms of the scoped comprehension: the keywords are merged after the scope was left -/
theorem dictKw_run (kw : List (Val × Val)) (s fuel : Nat) (w : World) :
    Impl.dictKw kw s fuel w
      = match scopedIter s (Std.dictLoop s [] fuel) w with
        | (.ok d, w') => ((dictUpdateKwR d kw).map Std.dictVal, w')
        | (.error e, w') => (.error e, w') := by
  unfold Impl.dictKw
  simp only [bind_apply]
  rcases scopedIter s (Std.dictLoop s [] fuel) w with ⟨r, w1⟩
  cases r with
  | error e => rfl
  | ok d =>
    simp only
    cases kw with
    | nil => rfl
    | cons p rest =>
      simp only [List.isEmpty_cons, Bool.false_eq_true, if_false, bind_apply, dictUpdateKw_apply]
      cases dictUpdateKwR d (p :: rest) <;> rfl

/-- what the scoped comprehension returns, in every world, is a dictionary -/
theorem scoped_dictLoop_distinct (s fuel : Nat) (w : World) (d : List (Val × Val))
    (h : (scopedIter s (Std.dictLoop s [] fuel) w).1 = .ok d) : DictKeysDistinct d := by
  rw [(scopedIter_lift s _ w).1] at h
  exact dictLoop_distinct s fuel [] w d distinct_nil h

/-- the final world of `dict(iterable, **kw)` is the final world of `dict(iterable)` -/
theorem dictKw_world (kw : List (Val × Val)) (s fuel : Nat) (w : World) :
    (Impl.dictKw kw s fuel w).2 = (Impl.dict s fuel w).2 := by
  rw [dictKw_run, dict_run]
  rcases scopedIter s (Std.dictLoop s [] fuel) w with ⟨r, w1⟩
  cases r <;> rfl

/-- `dict(iterable, **kw)` in every world, relative to `dict(iterable)` -/
theorem dictKw_over_dict (kw : List (Val × Val)) (s fuel : Nat) (w : World)
    (hk : ∀ p ∈ kw, Std.hashable p.1 = true) :
    (∃ e, (Impl.dict s fuel w).1 = .error e ∧ (Impl.dictKw kw s fuel w).1 = .error e) ∨
    (∃ d, DictKeysDistinct d ∧ (Impl.dict s fuel w).1 = .ok (Std.dictVal d) ∧
      (Impl.dictKw kw s fuel w).1 = .ok (Std.dictVal (dictUpdateAll d kw))) := by
  have hd := scoped_dictLoop_distinct s fuel w
  rw [dictKw_run, dict_run]
  generalize scopedIter s (Std.dictLoop s [] fuel) w = x at hd ⊢
  rcases x with ⟨r, w1⟩
  cases r with
  | error e => exact Or.inl ⟨e, rfl, rfl⟩
  | ok d =>
    refine Or.inr ⟨d, hd d rfl, rfl, ?_⟩
    simp only [dictUpdateKwR_value kw d hk (hd d rfl)]
    rfl

theorem dictKw_ne_oof (kw : List (Val × Val)) (s fuel : Nat) (w : World)
    (h : (Impl.dict s fuel w).1 ≠ .error .outOfFuel) : (Impl.dictKw kw s fuel w).1 ≠ .error .outOfFuel := by
  rw [dict_run] at h
  rw [dictKw_run]
  generalize scopedIter s (Std.dictLoop s [] fuel) w = x at h ⊢
  rcases x with ⟨r, w1⟩
  cases r with
  | error e => exact h
  | ok d =>
    simp only
    have := dictUpdateKwR_ne_oof kw d
    cases hr : dictUpdateKwR d kw with
    | ok x => simp [Except.map]
    | error e => rw [hr] at this; simpa [Except.map] using this

theorem dictKw_fuel_adequate (kw : List (Val × Val)) (s : Nat) (w : World) :
    ∀ fuel, fuel ≥ fuelBound1 s w → (Impl.dictKw kw s fuel w).1 ≠ .error .outOfFuel :=
  fun fuel h => dictKw_ne_oof kw s fuel w (dict_fuel_adequate s w fuel h)

/-- if `dict(iterable, **kw)` did not run out of fuel, neither did `dict(iterable)` -/
theorem dict_ne_oof_of_dictKw (kw : List (Val × Val)) (s fuel : Nat) (w : World)
    (h : (Impl.dictKw kw s fuel w).1 ≠ .error .outOfFuel) : (Impl.dict s fuel w).1 ≠ .error .outOfFuel := by
  rw [dictKw_run] at h
  rw [dict_run]
  generalize scopedIter s (Std.dictLoop s [] fuel) w = x at h ⊢
  rcases x with ⟨r, w1⟩
  cases r with
  | error e => exact h
  | ok d => simp

/-- `Std.dictKw` in terms of the comprehension -/
theorem std_dictKw_run (kw : List (Val × Val)) (s fuel : Nat) (w : World) :
    Std.dictKw kw s fuel w
      = match Std.dictLoop s [] fuel w with
        | (.ok d, w') => ((dictUpdateKwR d kw).map Std.dictVal, w')
        | (.error e, w') => (.error e, w') := by
  unfold Std.dictKw
  rw [bind_apply]
  rcases Std.dictLoop s [] fuel w with ⟨r, w1⟩
  cases r with
  | error e => rfl
  | ok d =>
    simp only [bind_apply, dictUpdateKw_apply]
    cases dictUpdateKwR d kw <;> rfl

/-- the two models are twins: same result, same visible events (in every world) -/
theorem dictKw_twin (kw : List (Val × Val)) (s fuel : Nat) : Twin (Impl.dictKw kw s fuel) (Std.dictKw kw s fuel) := by
  intro w
  have ht := scopedIter_twin s (Std.dictLoop s [] fuel) w
  rw [dictKw_run, std_dictKw_run]
  generalize scopedIter s (Std.dictLoop s [] fuel) w = x at ht ⊢
  generalize Std.dictLoop s [] fuel w = y at ht ⊢
  rcases x with ⟨r, w1⟩
  rcases y with ⟨r', w1'⟩
  obtain ⟨h1, h2⟩ := ht
  simp only at h1 h2
  subst h1
  cases r with
  | error e => exact ⟨rfl, h2⟩
  | ok d => exact ⟨rfl, h2⟩

/-- no keywords: `dict(iterable, **{})` is `dict(iterable)` -/
theorem dictKw_nil (s fuel : Nat) : Impl.dictKw [] s fuel = Impl.dict s fuel := by
  funext w
  rw [dictKw_run, dict_run]
  rcases scopedIter s (Std.dictLoop s [] fuel) w with ⟨r, w1⟩
  cases r <;> rfl

theorem std_dictKw_nil (s fuel : Nat) : Std.dictKw [] s fuel = Std.dict s fuel := by
  funext w
  unfold Std.dictKw Std.dict
  simp only [bind_apply]
  rcases Std.dictLoop s [] fuel w with ⟨r, w1⟩
  cases r <;> rfl

namespace Compositional
variable {P : ∀ {α : Type}, M α → Prop} (h : Compositional @P)
include h

theorem dictUpdateKw : ∀ (kw acc : List (Val × Val)), P (Std.dictUpdateKw acc kw)
  | [], _ => h.pure _
  | (k, v) :: rest, acc => ite_both _ (dictUpdateKw rest (Std.dictInsert acc k v)) (h.raise _ nofun)

theorem dictKw (kw : List (Val × Val)) (s fuel : Nat) : P (Impl.dictKw kw s fuel) :=
  h.bind (h.scopedIter s (h.dictLoop s fuel [])) fun base =>
    ite_both _ (h.bind (h.pure base) fun _ => h.pure _) (h.bind (h.dictUpdateKw kw base) fun _ => h.pure _)

end Compositional

end AsyncVerif
