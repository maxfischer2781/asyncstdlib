import AsyncVerif.Machines.Lru
/-! Key construction: `CallKey.from_call` and `lru_cache_make_key` distinguish call patterns identically. -/
namespace AsyncVerif.Lru

def NElem.isTy : NElem → Bool
  | .ty _ => true
  | _ => false

theorem Arg.norm_ne_mark (a : Arg) : a.norm ≠ .mark := by cases a <;> simp [Arg.norm]
theorem Arg.norm_not_ty (a : Arg) : a.norm.isTy = false := by cases a <;> simp [Arg.norm, NElem.isTy]

/-- the first part is the longest prefix failing `P` -/
theorem append_boundary {α : Type} (P : α → Bool) {x1 x2 t1 t2 : List α}
    (h1 : ∀ a ∈ x1, P a = false) (h2 : ∀ a ∈ x2, P a = false)
    (ht1 : ∀ a ∈ t1.head?, P a = true) (ht2 : ∀ a ∈ t2.head?, P a = true) :
    x1 ++ t1 = x2 ++ t2 ↔ x1 = x2 ∧ t1 = t2 := by
  have key : ∀ {x t : List α}, (∀ a ∈ x, P a = false) → (∀ a ∈ t.head?, P a = true) →
      (x ++ t).takeWhile (fun a => !P a) = x := by
    intro x t hx ht
    rw [List.takeWhile_append_of_pos fun a ha => by rw [hx a ha]; rfl]
    cases t with
    | nil => exact List.append_nil x
    | cons y t => rw [List.takeWhile_cons_of_neg (by rw [ht y rfl]; nofun)]; exact List.append_nil x
  refine ⟨fun h => ?_, fun ⟨ha, hb⟩ => ha ▸ hb ▸ rfl⟩
  obtain rfl : x1 = x2 := by rw [← key h1 ht1, h, key h2 ht2]
  exact ⟨rfl, List.append_cancel_left h⟩

theorem split_mark (a1 a2 r1 r2 : List NElem) (h1 : ∀ x ∈ a1, x ≠ .mark) (h2 : ∀ x ∈ a2, x ≠ .mark) :
    a1 ++ NElem.mark :: r1 = a2 ++ NElem.mark :: r2 ↔ a1 = a2 ∧ r1 = r2 := by
  have hm (r : List NElem) : ∀ x ∈ (NElem.mark :: r).head?, decide (x = NElem.mark) = true :=
    fun x hx => Option.some.inj hx ▸ decide_eq_true rfl
  exact (append_boundary (fun x : NElem => decide (x = NElem.mark)) (fun x hx => decide_eq_false (h1 x hx))
    (fun x hx => decide_eq_false (h2 x hx)) (hm r1) (hm r2)).trans
      ⟨fun ⟨a, b⟩ => ⟨a, (List.cons.inj b).2⟩, fun ⟨a, b⟩ => ⟨a, b ▸ rfl⟩⟩

theorem split_ty (x1 x2 t1 t2 : List NElem) (h1 : ∀ x ∈ x1, x.isTy = false) (h2 : ∀ x ∈ x2, x.isTy = false)
    (ht1 : ∀ x ∈ t1, x.isTy = true) (ht2 : ∀ x ∈ t2, x.isTy = true) :
    x1 ++ t1 = x2 ++ t2 ↔ x1 = x2 ∧ t1 = t2 :=
  append_boundary NElem.isTy h1 h2 (fun x hx => ht1 x (List.mem_of_mem_head? hx))
    (fun x hx => ht2 x (List.mem_of_mem_head? hx))

@[simp] theorem mark_norm : KElem.mark.norm = NElem.mark := rfl

def itemsK (kw : List (Nat × Arg)) : List KElem := kw.map fun kv => .item kv.1 kv.2

theorem item_norm_inj (s s' : Nat) (a a' : Arg) :
    (KElem.item s a).norm = (KElem.item s' a').norm ↔ s = s' ∧ a.norm = a'.norm := by
  cases a <;> cases a' <;> simp [KElem.norm, Arg.norm]

theorem item_norm_not_ty (s : Nat) (a : Arg) : (KElem.item s a).norm.isTy = false := by
  cases a <;> simp [KElem.norm, NElem.isTy]

theorem items_flat : ∀ (k1 k2 : List (Nat × Arg)),
    ((itemsK k1).map KElem.norm = (itemsK k2).map KElem.norm ↔
     (flatKw k1).map KElem.norm = (flatKw k2).map KElem.norm) := by
  intro k1
  induction k1 with
  | nil =>
    intro k2
    cases k2 with
    | nil => exact Iff.rfl
    | cons => exact ⟨nofun, nofun⟩
  | cons kv k1 ih =>
    intro k2
    cases k2 with
    | nil => exact ⟨nofun, nofun⟩
    | cons kv' k2 =>
      have hs : (KElem.arg (.prim (.str kv.1))).norm = (KElem.arg (.prim (.str kv'.1))).norm ↔ kv.1 = kv'.1 :=
        ⟨fun h => NV.str.inj (NElem.sc.inj h), fun h => h ▸ rfl⟩
      simp only [itemsK, flatKw, List.map_cons, List.cons.injEq, item_norm_inj, hs, and_assoc] at ih ⊢
      rw [ih k2]
      rfl

theorem args_no_mark (l : List Arg) : ∀ x ∈ (l.map KElem.arg).map KElem.norm, x ≠ NElem.mark :=
  List.forall_mem_map.mpr (List.forall_mem_map.mpr fun a _ => Arg.norm_ne_mark a)

theorem args_not_ty (l : List Arg) : ∀ x ∈ (l.map KElem.arg).map KElem.norm, x.isTy = false :=
  List.forall_mem_map.mpr (List.forall_mem_map.mpr fun a _ => Arg.norm_not_ty a)

theorem items_not_ty (k : List (Nat × Arg)) : ∀ x ∈ (itemsK k).map KElem.norm, x.isTy = false :=
  List.forall_mem_map.mpr (List.forall_mem_map.mpr fun kv _ => item_norm_not_ty kv.1 kv.2)

theorem flat_not_ty : ∀ (k : List (Nat × Arg)), ∀ x ∈ (flatKw k).map KElem.norm, x.isTy = false := by
  intro k
  induction k with
  | nil => intro x hx; simp [flatKw] at hx
  | cons kv k ih =>
    intro x hx
    simp only [flatKw, List.map_cons, List.mem_cons] at hx
    rcases hx with h | h | h
    · rw [h]; simp [KElem.norm, Arg.norm, NElem.isTy]
    · rw [h]; exact Arg.norm_not_ty _
    · exact ih x h

theorem tys_ty (l : List Ty) : ∀ x ∈ (l.map KElem.ty).map KElem.norm, x.isTy = true :=
  List.forall_mem_map.mpr (List.forall_mem_map.mpr fun _ _ => rfl)

/-- the type suffix of a pattern, as a list of types -/
def Pattern.tyList (typed : Bool) (p : Pattern) : List Ty :=
  if typed then p.args.map Arg.ty ++ p.kwds.map (fun kv => kv.2.ty) else []

/-- the fast path of `CallKey.from_call`: a lone `int` / `str` is its own key -/
def fastPath (key : List KElem) : Key :=
  match key with
  | [.arg (.prim (.int n))] => .bare (.int n)
  | [.arg (.prim (.str s))] => .bare (.str s)
  | _ => .seq key

theorem asKey_untyped (p : Pattern) :
    asKey false p = fastPath (if p.kwds.isEmpty then p.args.map .arg
      else p.args.map .arg ++ .mark :: itemsK p.kwds) := rfl

theorem fastPath_cases (l : List KElem) : (∃ q, fastPath l = .bare q) ∨ fastPath l = .seq l := by
  unfold fastPath
  split
  · exact .inl ⟨_, rfl⟩
  · exact .inl ⟨_, rfl⟩
  · exact .inr rfl

theorem fastPath_of_length (x y : KElem) (l : List KElem) : fastPath (x :: y :: l) = .seq (x :: y :: l) := by
  unfold fastPath
  split
  · next h => cases h
  · next h => cases h
  · rfl

theorem fastPath_of_mark {l : List KElem} (h : .mark ∈ l) : fastPath l = .seq l := by
  unfold fastPath
  split
  · nomatch h
  · nomatch h
  · rfl

theorem asKey_kw (typed : Bool) (p : Pattern) (h : p.kwds ≠ []) :
    (asKey typed p).norm = .seq ((p.args.map KElem.arg).map KElem.norm ++ NElem.mark ::
      ((itemsK p.kwds).map KElem.norm ++ ((p.tyList typed).map KElem.ty).map KElem.norm)) := by
  have he : p.kwds.isEmpty = false := by rwa [List.isEmpty_eq_false_iff]
  cases typed with
  | true =>
    simp [asKey, he, Key.norm, Pattern.tyList, Pattern.argTys, Pattern.kwTys, itemsK, List.map_append, Function.comp_def]
  | false =>
    rw [asKey_untyped, he, if_neg Bool.false_ne_true,
      fastPath_of_mark (List.mem_append_right _ (List.mem_cons_self ..))]
    simp only [Key.norm, Pattern.tyList, List.map_append, List.map_cons, mark_norm, Bool.false_eq_true, if_false,
      List.map_nil, List.append_nil]

theorem ftKey_kw (typed : Bool) (p : Pattern) (h : p.kwds ≠ []) :
    (ftKey typed p).norm = .seq ((p.args.map KElem.arg).map KElem.norm ++ NElem.mark ::
      ((flatKw p.kwds).map KElem.norm ++ ((p.tyList typed).map KElem.ty).map KElem.norm)) := by
  have he : p.kwds.isEmpty = false := by rwa [List.isEmpty_eq_false_iff]
  cases typed with
  | true =>
    simp [ftKey, he, Key.norm, Pattern.tyList, Pattern.argTys, Pattern.kwTys, List.map_append, Function.comp_def]
  | false =>
    simp [ftKey, he, Key.norm, Pattern.tyList]

/-- CPython's short path is the same fast path, taken on the argument tuple -/
theorem key_nokw (typed : Bool) (p : Pattern) (h : p.kwds = []) : asKey typed p = ftKey typed p := by
  obtain ⟨args, kwds⟩ := p
  cases h
  cases typed with
  | true => simp [asKey, ftKey]
  | false =>
    rw [asKey_untyped]
    rcases args with _ | ⟨a, _ | ⟨b, l⟩⟩
    · rfl
    · rcases a with (_ | _ | _ | _ | _ | _) | _ <;> rfl
    · exact (fastPath_of_length ..).trans (by simp [ftKey])

theorem nokw_no_mark (typed : Bool) (p : Pattern) (h : p.kwds = []) {l : List NElem}
    (hl : (asKey typed p).norm = .seq l) : NElem.mark ∉ l := by
  have he : p.kwds.isEmpty = true := by rw [h]; rfl
  cases typed with
  | true =>
    simp only [asKey, he, if_true, Key.norm, List.map_append] at hl
    cases hl
    intro hm
    rcases List.mem_append.mp hm with hm | hm
    · exact args_no_mark _ _ hm rfl
    · obtain ⟨e, he, hx⟩ := List.mem_map.mp hm
      obtain ⟨a, _, rfl⟩ := List.mem_map.mp he
      cases hx
  | false =>
    rw [asKey_untyped, he, if_pos rfl] at hl
    rcases fastPath_cases (p.args.map .arg) with ⟨q, hq⟩ | hq <;> rw [hq] at hl <;> cases hl
    exact fun hm => args_no_mark _ _ hm rfl

/-- only a key built with keywords has the marker -/
theorem kw_ne_nokw (typed : Bool) {p q : Pattern} (hp : p.kwds = []) (hq : q.kwds ≠ []) :
    (asKey typed p).norm ≠ (asKey typed q).norm ∧ (ftKey typed p).norm ≠ (ftKey typed q).norm := by
  rw [← key_nokw typed p hp]
  exact ⟨fun h => nokw_no_mark typed p hp (h.trans (asKey_kw typed q hq)) (List.mem_append_right _ (List.mem_cons_self ..)),
    fun h => nokw_no_mark typed p hp (h.trans (ftKey_kw typed q hq)) (List.mem_append_right _ (List.mem_cons_self ..))⟩

/-- **key equivalence**: asyncstdlib's `CallKey.from_call` and CPython's `lru_cache_make_key`
    identify exactly the same pairs of call patterns -/
theorem key_equiv (typed : Bool) (p q : Pattern) :
    ((asKey typed p).norm = (asKey typed q).norm) ↔ ((ftKey typed p).norm = (ftKey typed q).norm) := by
  by_cases hp : p.kwds = [] <;> by_cases hq : q.kwds = []
  · rw [key_nokw typed p hp, key_nokw typed q hq]
  · exact iff_of_false (kw_ne_nokw typed hp hq).1 (kw_ne_nokw typed hp hq).2
  · exact iff_of_false (Ne.symm (kw_ne_nokw typed hq hp).1) (Ne.symm (kw_ne_nokw typed hq hp).2)
  · rw [asKey_kw typed p hp, asKey_kw typed q hq, ftKey_kw typed p hp, ftKey_kw typed q hq]
    simp only [NKey.seq.injEq]
    rw [split_mark _ _ _ _ (args_no_mark _) (args_no_mark _),
        split_mark _ _ _ _ (args_no_mark _) (args_no_mark _),
        split_ty _ _ _ _ (items_not_ty _) (items_not_ty _) (tys_ty _) (tys_ty _),
        split_ty _ _ _ _ (flat_not_ty _) (flat_not_ty _) (tys_ty _) (tys_ty _),
        items_flat]

theorem eqv_eq (typed : Bool) : Impl.eqv typed = Spec.eqv typed := by
  funext p q
  simp only [Impl.eqv, Spec.eqv]
  exact decide_eq_decide.mpr (key_equiv typed p q)

end AsyncVerif.Lru
