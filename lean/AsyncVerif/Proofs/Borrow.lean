import AsyncVerif.Machines.Borrow
/-!
# Lemmas about `Machines/Borrow.lean` (C07 borrow, C08 scoped_iter)

Everything is a two-state relation that holds across one operation from *any* state, composed along
a run; the only state invariant is `WFh` (parents are older handles), needed for fuel alone.

* `Pulls u c r`: the ways one `U.__anext__()`/`U.asend(None)` (cancelled if `c`) can go; `UKeep` is
  what all of them preserve (never closed, no `close` logged, `closeReqs` unchanged).
* `HLe` / `HsMono` / `Grows`: how a handle record and the handle table may evolve (never re-opened,
  `asend` never re-pointed to U); `Inert` is stable under them.
* `PullSpec` (`pullH_spec`): a pull through the tree is, on U, nothing or one `Pulls`.
* `UStep` and `StepSpec` (`step_spec`): one operation.  All `exec_*` lemmas, `inert_exec`,
  `step_onlyScope` go through `step_spec` and never unfold `step` again; `inert_pulls`,
  `step_nextU` and the `Properties` files unfold `step` on one known operation.
-/
namespace AsyncVerif.Borrow

/-- what a pull / a cancelled pull may change on U: never its capabilities, never the number of
    `aclose()` calls, never to "closed", never a `close` event -/
structure UKeep (u u' : U) : Prop where
  gen : u'.gen = u.gen
  hasClose : u'.hasClose = u.hasClose
  hasSend : u'.hasSend = u.hasSend
  closeReqs : u'.closeReqs = u.closeReqs
  notClosed : u'.status = .closed → u.status = .closed
  closeLog : u'.log.count .close = u.log.count .close

theorem UKeep.refl (u : U) : UKeep u u := ⟨rfl, rfl, rfl, rfl, id, rfl⟩

theorem UKeep.trans {a b c : U} (h1 : UKeep a b) (h2 : UKeep b c) : UKeep a c :=
  ⟨h2.gen.trans h1.gen, h2.hasClose.trans h1.hasClose, h2.hasSend.trans h1.hasSend,
   h2.closeReqs.trans h1.closeReqs, fun h => h1.notClosed (h2.notClosed h),
   h2.closeLog.trans h1.closeLog⟩

theorem UKeep.update (u : U) (rest : List Entry) (st : Status) (evs : List Ev)
    (hst : st = .closed → u.status = .closed) (hev : evs.count .close = 0) :
    UKeep u { u with rest := rest, status := st, log := u.log ++ evs } :=
  ⟨rfl, rfl, rfl, rfl, hst, by simp [List.count_append, hev]⟩

theorem count_close_pair {ev x : Ev} (hev : ev ≠ .close) (hx : x ≠ .close) :
    [ev, x].count .close = 0 := by
  simp [hev, hx]

def resItems : Res → List Val
  | .item v => [v]
  | _ => []

/-- U is usable by its owner: not dead, or exhausted with nothing left; no faults ahead -/
def Usable (u : U) : Prop :=
  (u.status.dead = false ∨ (u.status = .exhausted ∧ u.rest = [])) ∧ faultFree u.rest = true

/-- The ways `U.__anext__()` / `U.asend(None)` can go (`Pulls u false`; `ev` is the logged call, of
    which only `ev ≠ close` is kept), and the ways it goes with a cancellation thrown in at its
    suspension (`Pulls u true`).
    A dead iterator answers StopAsyncIteration (an async generator without running code, a
    class-based one after logging the call); a live one consumes the head of its script.
    A cancellation kills a running generator and is lost on a class-based iterator.
    This over-approximates `pullU`/`cancelU`: it forgets `u.gen`, so `idle`/`refused` and
    `lost`/`killed` are both offered, and `fail` leaves the new status `st` open (`failed` for a
    generator, `live` for a class-based iterator) but for `st ≠ closed`. -/
inductive Pulls (u : U) : Bool → U × Res → Prop
  | idle (c : Bool) : u.status.dead = true → Pulls u c (u, .stop)
  | refused (ev : Ev) : ev ≠ .close → u.status.dead = true →
      Pulls u false ({ u with log := u.log ++ [ev, .end_] }, .stop)
  | exhausted (ev : Ev) : ev ≠ .close → u.status.dead = false → u.rest = [] →
      Pulls u false ({ u with rest := [], status := .exhausted, log := u.log ++ [ev, .end_] }, .stop)
  | item (ev : Ev) (v : Val) (r : List Entry) : ev ≠ .close → u.status.dead = false →
      u.rest = .item v :: r →
      Pulls u false ({ u with rest := r, status := .live, log := u.log ++ [ev, .item v] }, .item v)
  | fail (ev : Ev) (e : ExcId) (r : List Entry) (st : Status) : ev ≠ .close → st ≠ .closed →
      u.status.dead = false → u.rest = .fail e :: r →
      Pulls u false ({ u with rest := r, status := st, log := u.log ++ [ev, .err e] }, .raised e)
  | lost : Pulls u true (u, .cancelled)
  | killed : u.status.dead = false →
      Pulls u true ({ u with status := .killed, log := u.log ++ [.killed] }, .cancelled)

theorem pullU_pulls (b : Bool) (u : U) : Pulls u false (pullU b u) := by
  have hev : (if (b && !u.gen) = true then Ev.send else Ev.pull) ≠ .close := by split <;> nofun
  rw [pullU]
  by_cases h1 : (u.gen && u.status.dead) = true
  · rw [if_pos h1]; exact .idle _ (Bool.and_eq_true_iff.1 h1).2
  · rw [if_neg h1]
    by_cases h2 : u.status.dead = true
    · simp only [if_pos h2]; exact .refused _ hev h2
    · simp only [if_neg h2]
      have h2 : u.status.dead = false := Bool.eq_false_iff.2 h2
      cases hr : u.rest with
      | nil => exact .exhausted _ hev h2 hr
      | cons x r =>
        cases x with
        | item v => exact .item _ v r hev h2 hr
        | fail e => exact .fail _ e r _ hev (by split <;> nofun) h2 hr

theorem cancelU_pulls (u : U) : Pulls u true (cancelU u) := by
  rw [cancelU]
  by_cases hg : u.gen = true
  · rw [if_pos hg]
    by_cases hd : u.status.dead = true
    · rw [if_pos hd]; exact .idle _ hd
    · rw [if_neg hd]; exact .killed (Bool.eq_false_iff.2 hd)
  · rw [if_neg hg]; exact .lost

theorem Pulls.keep {u : U} {c : Bool} {r : U × Res} (h : Pulls u c r) : UKeep u r.1 := by
  cases h with
  | idle => exact .refl u
  | refused ev hev => exact .update u _ _ _ id (count_close_pair hev nofun)
  | exhausted ev hev => exact .update u _ _ _ nofun (count_close_pair hev nofun)
  | item ev v r hev => exact .update u _ _ _ nofun (count_close_pair hev nofun)
  | fail ev e r st hev hst => exact .update u _ _ _ (fun h => absurd h hst) (count_close_pair hev nofun)
  | lost => exact .refl u
  | killed => exact .update u _ _ _ nofun rfl

theorem Pulls.items {u : U} {c : Bool} {r : U × Res} (h : Pulls u c r) :
    itemsOf u.rest = resItems r.2 ++ itemsOf r.1.rest := by
  cases h with
  | idle => rfl
  | refused => rfl
  | exhausted _ _ _ hr => rw [hr]; rfl
  | item _ _ _ _ _ hr => rw [hr]; rfl
  | fail _ _ _ _ _ _ _ hr => rw [hr]; rfl
  | lost => rfl
  | killed => rfl

theorem Pulls.usable {u : U} {r : U × Res} (h : Pulls u false r) (hu : Usable u) :
    Usable r.1 ∧ ((u.rest = [] ∧ r.2 = .stop) ∨ ∃ v, u.rest = .item v :: r.1.rest ∧ r.2 = .item v) := by
  have hdead : u.status.dead = true → u.rest = [] := fun hd =>
    hu.1.elim (fun h => by rw [hd] at h; cases h) (·.2)
  cases h with
  | idle _ hd => exact ⟨hu, .inl ⟨hdead hd, rfl⟩⟩
  | refused _ _ hd => exact ⟨hu, .inl ⟨hdead hd, rfl⟩⟩
  | exhausted _ _ _ hr => exact ⟨⟨.inr ⟨rfl, rfl⟩, rfl⟩, .inl ⟨hr, rfl⟩⟩
  | item _ v _ _ _ hr => exact ⟨⟨.inl rfl, by have := hu.2; rwa [hr] at this⟩, .inr ⟨v, hr, rfl⟩⟩
  | fail _ _ _ _ _ _ _ hr => have := hu.2; rw [hr] at this; cases this

theorem Pulls.not_stuck {u : U} {c : Bool} {r : U × Res} (h : Pulls u c r) : r.2 ≠ .stuck := by
  cases h <;> nofun

theorem closeU_of_hasClose (u : U) (h : u.hasClose = true) :
    ∃ st log, st.dead = true
      ∧ closeU u = { u with status := st, closeReqs := u.closeReqs + 1, log := log } := by
  rw [closeU, h]
  cases u.gen
  · exact ⟨_, _, rfl, rfl⟩
  · cases u.status <;> exact ⟨_, _, rfl, rfl⟩

theorem closeU_of_not (u : U) (h : u.hasClose = false) : closeU u = u := by
  rw [closeU, h]; rfl

theorem pullOrCancel_pulls (c : Bool) (u : U) : Pulls u c (if c then cancelU u else pullU false u) := by
  cases c
  · exact pullU_pulls false u
  · exact cancelU_pulls u

/-- a handle that yields nothing and cannot reach U any more -/
def Inert (hd : Handle) : Prop := hd.wopen = false ∧ hd.send ≠ .direct

/-- how a handle record may evolve: same parent, same kind, never re-opened, `asend` never
    re-pointed to the underlying iterator -/
structure HLe (a b : Handle) : Prop where
  parent : b.parent = a.parent
  kind : b.kind = a.kind
  closedStays : a.wopen = false → b.wopen = false
  sendStays : a.send ≠ .direct → b.send ≠ .direct

theorem HLe.refl (a : Handle) : HLe a a := ⟨rfl, rfl, id, id⟩

theorem HLe.trans {a b c : Handle} (h1 : HLe a b) (h2 : HLe b c) : HLe a c :=
  ⟨h2.parent.trans h1.parent, h2.kind.trans h1.kind, fun h => h2.closedStays (h1.closedStays h),
   fun h => h2.sendStays (h1.sendStays h)⟩

theorem HLe.finish (a : Handle) : HLe a (finishWrapper a) :=
  ⟨rfl, rfl, fun _ => rfl, id⟩

theorem closeWrapper_inert (a : Handle) : Inert (closeWrapper a) := by
  refine ⟨rfl, ?_⟩
  show (match a.send with | .absent => SendTgt.absent | _ => .dead) ≠ .direct
  cases a.send <;> nofun

theorem HLe.close (a : Handle) : HLe a (closeWrapper a) :=
  ⟨rfl, rfl, fun _ => rfl, fun _ => (closeWrapper_inert a).2⟩

theorem Inert.le {a b : Handle} (h : Inert a) (hl : HLe a b) : Inert b :=
  ⟨hl.closedStays h.1, hl.sendStays h.2⟩

theorem lt_of_getElem? {α} {l : List α} {i : Nat} {a : α} (h : l[i]? = some a) : i < l.length :=
  (List.getElem?_eq_some_iff.1 h).1

theorem getElem?_modify_self (hs : List Handle) (h : Nat) (hd : Handle) (f : Handle → Handle)
    (hh : hs[h]? = some hd) : (hs.modify h f)[h]? = some (f hd) := by
  rw [List.getElem?_modify, hh]; simp

theorem getElem?_modify_ne (hs : List Handle) (i j : Nat) (f : Handle → Handle) (hij : i ≠ j) :
    (hs.modify i f)[j]? = hs[j]? := by
  rw [List.getElem?_modify]; simp [hij]

/-- the handle table only grows, and each record evolves by `HLe` -/
def HsMono (hs hs' : List Handle) : Prop :=
  hs.length ≤ hs'.length ∧ ∀ (j : Nat) (hd : Handle), hs[j]? = some hd → ∃ hd', hs'[j]? = some hd' ∧ HLe hd hd'

theorem HsMono.refl (hs : List Handle) : HsMono hs hs :=
  ⟨Nat.le_refl _, fun _ hd h => ⟨hd, h, HLe.refl hd⟩⟩

theorem HsMono.trans {a b c : List Handle} (h1 : HsMono a b) (h2 : HsMono b c) : HsMono a c := by
  refine ⟨Nat.le_trans h1.1 h2.1, ?_⟩
  intro j hd h
  obtain ⟨hd1, e1, l1⟩ := h1.2 j hd h
  obtain ⟨hd2, e2, l2⟩ := h2.2 j hd1 e1
  exact ⟨hd2, e2, l1.trans l2⟩

theorem HsMono.modify (hs : List Handle) (i : Nat) (f : Handle → Handle) (hf : ∀ hd, HLe hd (f hd)) :
    HsMono hs (hs.modify i f) := by
  refine ⟨by simp, ?_⟩
  intro j hd h
  by_cases hij : i = j
  · subst hij; exact ⟨f hd, getElem?_modify_self hs i hd f h, hf hd⟩
  · exact ⟨hd, by rw [getElem?_modify_ne hs i j f hij]; exact h, HLe.refl hd⟩

theorem HsMono.append (hs : List Handle) (l : List Handle) : HsMono hs (hs ++ l) := by
  refine ⟨by simp, ?_⟩
  intro j hd h
  exact ⟨hd, by rw [List.getElem?_append_left (lt_of_getElem? h)]; exact h, HLe.refl hd⟩

/-- every handle's parent is an older handle -/
def WFh (hs : List Handle) : Prop :=
  ∀ (h : Nat) (hd : Handle), hs[h]? = some hd → ∀ p, hd.parent = some p → p < h

theorem WFh.of_mono {hs hs' : List Handle} (hw : WFh hs) (hm : HsMono hs hs')
    (hl : hs'.length = hs.length) : WFh hs' := by
  intro h hd' hh p hp
  have hlt : h < hs.length := by rw [← hl]; exact lt_of_getElem? hh
  obtain ⟨hd2, e2, le⟩ := hm.2 h hs[h] (List.getElem?_eq_getElem hlt)
  rw [hh] at e2; cases e2
  exact hw h hs[h] (List.getElem?_eq_getElem hlt) p (by rw [← le.parent]; exact hp)

theorem WFh.append {hs : List Handle} (hw : WFh hs) (nh : Handle)
    (hp : ∀ p, nh.parent = some p → p < hs.length) : WFh (hs ++ [nh]) := by
  intro h hd hh p hpar
  by_cases hl : h < hs.length
  · rw [List.getElem?_append_left hl] at hh; exact hw h hd hh p hpar
  · have hlt := lt_of_getElem? hh
    rw [List.length_append, List.length_singleton] at hlt
    have he : h = hs.length := by omega
    subst he
    rw [List.getElem?_append_right (Nat.le_refl _), Nat.sub_self] at hh
    cases hh
    exact hp p hpar

/-- how one operation may change the handle table: records evolve by `HLe`, new handles point to
    older ones -/
structure Grows (hs hs' : List Handle) : Prop where
  mono : HsMono hs hs'
  wf : WFh hs → WFh hs'

theorem Grows.refl (hs : List Handle) : Grows hs hs := ⟨.refl hs, id⟩

theorem Grows.trans {a b c : List Handle} (h1 : Grows a b) (h2 : Grows b c) : Grows a c :=
  ⟨h1.mono.trans h2.mono, fun h => h2.wf (h1.wf h)⟩

theorem Grows.of_len {hs hs' : List Handle} (hm : HsMono hs hs') (hl : hs'.length = hs.length) :
    Grows hs hs' := ⟨hm, fun hw => hw.of_mono hm hl⟩

theorem Grows.modify (hs : List Handle) (i : Nat) (f : Handle → Handle) (hf : ∀ hd, HLe hd (f hd)) :
    Grows hs (hs.modify i f) := .of_len (.modify hs i f hf) (List.length_modify ..)

theorem Grows.append (hs : List Handle) (nh : Handle)
    (hp : ∀ p, nh.parent = some p → p < hs.length) : Grows hs (hs ++ [nh]) :=
  ⟨.append hs _, fun hw => hw.append nh hp⟩

/-- A pull (cancelled if `c`) only finishes wrappers on its way; below, it either is stopped by a
    closed wrapper and leaves the underlying iterator alone, or is one `Pulls` there. -/
structure PullSpec (c : Bool) (s : State) (r : State × Res) : Prop where
  ctxs : r.1.ctxs = s.ctxs
  mono : HsMono s.hs r.1.hs
  len : r.1.hs.length = s.hs.length
  itemSame : ∀ v, r.2 = .item v → r.1.hs = s.hs
  und : (r.1.u = s.u ∧ resItems r.2 = []) ∨ Pulls s.u c (r.1.u, r.2)

theorem pullH_none (c : Bool) (fuel : Nat) (s : State) :
    pullH c fuel s none
      = ({ s with u := (if c then cancelU s.u else pullU false s.u).1 },
         (if c then cancelU s.u else pullU false s.u).2) := by
  cases fuel <;> rfl

theorem pullSpec_same (c : Bool) (s : State) (r : Res) (h : resItems r = []) : PullSpec c s (s, r) :=
  ⟨rfl, .refl _, rfl, fun _ _ => rfl, .inl ⟨rfl, h⟩⟩

theorem pullH_spec (c : Bool) (fuel : Nat) (s : State) (t : Option Nat) :
    PullSpec c s (pullH c fuel s t) := by
  induction fuel generalizing t with
  | zero =>
    cases t with
    | none => rw [pullH_none]; exact ⟨rfl, .refl _, rfl, fun _ _ => rfl, .inr (pullOrCancel_pulls c s.u)⟩
    | some h => exact pullSpec_same c s _ rfl
  | succ fuel ih =>
    cases t with
    | none => rw [pullH_none]; exact ⟨rfl, .refl _, rfl, fun _ _ => rfl, .inr (pullOrCancel_pulls c s.u)⟩
    | some h =>
      simp only [pullH]
      split
      · exact pullSpec_same c s _ rfl
      · rename_i hd _
        split
        · exact pullSpec_same c s _ rfl
        · have hp := ih hd.parent
          split
          · rename_i v hv
            exact ⟨hp.ctxs, hp.mono, hp.len, fun _ _ => hp.itemSame v hv, by rw [← hv]; exact hp.und⟩
          · rename_i hres
            exact ⟨hp.ctxs, hp.mono.trans (.modify _ h finishWrapper HLe.finish),
              by rw [← hp.len]; exact List.length_modify .., fun v hv => absurd hv (hres v), hp.und⟩

theorem pullH_closed (c : Bool) (s : State) (h : Nat) (hd : Handle) (hh : s.hs[h]? = some hd)
    (hw : hd.wopen = false) : pullH c s.hs.length s (some h) = (s, .stop) := by
  have hl := lt_of_getElem? hh
  cases hn : s.hs.length with
  | zero => omega
  | succ n => simp [pullH, hh, hw]

theorem pullH_not_stuck (c : Bool) (fuel : Nat) (s : State) (t : Option Nat) (hw : WFh s.hs)
    (ht : ∀ h, t = some h → h < fuel ∧ h < s.hs.length) : (pullH c fuel s t).2 ≠ .stuck := by
  induction fuel generalizing t with
  | zero =>
    cases t with
    | none => rw [pullH_none]; exact (pullOrCancel_pulls c s.u).not_stuck
    | some h => exact absurd (ht h rfl).1 (Nat.not_lt_zero h)
  | succ fuel ih =>
    cases t with
    | none => rw [pullH_none]; exact (pullOrCancel_pulls c s.u).not_stuck
    | some h =>
      obtain ⟨h1, h2⟩ := ht h rfl
      have e : s.hs[h]? = some s.hs[h] := List.getElem?_eq_getElem h2
      have hrec := ih s.hs[h].parent fun p hp => by
        have := hw h _ e p hp
        exact ⟨by omega, by omega⟩
      simp only [pullH, e]
      split
      · nofun
      · split
        · nofun
        · exact hrec

theorem closeT_some_cases (s : State) (h : Nat) :
    closeT s (some h) = s
    ∨ ∃ hd, s.hs[h]? = some hd ∧ hd.kind = .borrowed
        ∧ closeT s (some h) = { s with hs := s.hs.modify h closeWrapper } := by
  rw [closeT]
  cases hh : s.hs[h]? with
  | none => exact .inl rfl
  | some hd =>
    cases hk : hd.kind
    · exact .inr ⟨hd, rfl, hk, by simp only [hk]⟩
    · exact .inl (by simp only [hk])

theorem closeT_borrowed (s : State) (h : Nat) (hd : Handle) (hh : s.hs[h]? = some hd)
    (hk : hd.kind = .borrowed) :
    closeT s (some h) = { s with hs := s.hs.modify h closeWrapper } := by
  simp only [closeT, hh, hk]

theorem closeT_scoped (s : State) (h : Nat) (hd : Handle) (hh : s.hs[h]? = some hd)
    (hk : hd.kind = .scoped) : closeT s (some h) = s := by
  simp only [closeT, hh, hk]

theorem closeT_some_u (s : State) (h : Nat) : (closeT s (some h)).u = s.u := by
  rcases closeT_some_cases s h with e | ⟨_, _, _, e⟩ <;> rw [e]

theorem closeT_ctxs (s : State) (t : Option Nat) : (closeT s t).ctxs = s.ctxs := by
  cases t with
  | none => rfl
  | some h => rcases closeT_some_cases s h with e | ⟨_, _, _, e⟩ <;> rw [e]

theorem closeT_grows (s : State) (t : Option Nat) : Grows s.hs (closeT s t).hs := by
  cases t with
  | none => exact .refl _
  | some h =>
    rcases closeT_some_cases s h with e | ⟨_, _, _, e⟩ <;> rw [e]
    · exact .refl _
    · exact .modify _ h closeWrapper HLe.close

theorem closeT_keeps_scoped (s : State) (t : Option Nat) (h : Nat) (hd : Handle)
    (hh : s.hs[h]? = some hd) (hk : hd.kind = .scoped) : (closeT s t).hs[h]? = some hd := by
  cases t with
  | none => exact hh
  | some x =>
    rcases closeT_some_cases s x with e | ⟨xd, hx, hkx, e⟩ <;> rw [e]
    · exact hh
    · have hxh : x ≠ h := by
        rintro rfl
        rw [hh] at hx; cases hx
        rw [hk] at hkx; cases hkx
      exact (getElem?_modify_ne _ _ _ _ hxh).trans hh

/-- does this operation make an `aclose()` call reach the underlying iterator? -/
def closesU (s : State) : Op → Bool
  | .close none => s.u.hasClose
  | .exit c _ =>
    match s.ctxs[c]? with
    | some cx => cx.target.isNone && cx.own.isSome && s.u.hasClose
    | none => false
  | _ => false

/-- number of operations of a run that make `aclose()` reach the underlying iterator -/
def closeOps : State → List Op → Nat
  | _, [] => 0
  | s, op :: ops => (if closesU s op then 1 else 0) + closeOps (step s op).1 ops

def outItems : Out → List Val
  | .res r => resItems r
  | _ => []

theorem delivered_cons (o : Out) (r : List Out) : delivered (o :: r) = outItems o ++ delivered r := by
  cases o with
  | res x => cases x <;> rfl
  | _ => rfl

/-- operations of someone who holds only handles: no `aclose()` on the underlying iterator itself,
    no leaving of a scope -/
def Op.handleOnly : Op → Bool
  | .close none => false
  | .exit _ _ => false
  | _ => true

/-- operations that pull normally (no cancellation is thrown into the underlying iterator) -/
def Op.noCancel : Op → Bool
  | .nextCancel _ => false
  | _ => true

theorem closesU_of_handleOnly (s : State) (op : Op) (h : op.handleOnly = true) :
    closesU s op = false := by
  cases op with
  | close t => cases t with
    | none => cases h
    | some x => rfl
  | exit c m => cases h
  | _ => rfl

/-- What one operation does to the underlying iterator, with its answer: an `aclose()` exactly when
    `closesU` says so; otherwise nothing (and then no item is delivered) or one pull — cancelled only
    for `nextCancel`. -/
inductive UStep (s : State) (op : Op) : U → Out → Prop
  | quiet (o : Out) : closesU s op = false → outItems o = [] → UStep s op s.u o
  | pull (c : Bool) (r : U × Res) : closesU s op = false → (c = true → op.noCancel = false) →
      Pulls s.u c r → UStep s op r.1 (.res r.2)
  | close (st : Status) (log : List Ev) : closesU s op = true → st.dead = true →
      UStep s op { s.u with status := st, closeReqs := s.u.closeReqs + 1, log := log } .ok

theorem UStep.keep {s : State} {op : Op} {u' : U} {o : Out} (h : UStep s op u' o)
    (hc : closesU s op = false) : UKeep s.u u' := by
  cases h with
  | quiet => exact .refl _
  | pull _ _ _ _ hp => exact hp.keep
  | close _ _ hc' => rw [hc] at hc'; cases hc'

theorem UStep.caps {s : State} {op : Op} {u' : U} {o : Out} (h : UStep s op u' o) :
    u'.gen = s.u.gen ∧ u'.hasClose = s.u.hasClose ∧ u'.hasSend = s.u.hasSend := by
  cases h with
  | quiet => exact ⟨rfl, rfl, rfl⟩
  | pull _ _ _ _ hp => exact ⟨hp.keep.gen, hp.keep.hasClose, hp.keep.hasSend⟩
  | close => exact ⟨rfl, rfl, rfl⟩

theorem UStep.closeReqs {s : State} {op : Op} {u' : U} {o : Out} (h : UStep s op u' o) :
    u'.closeReqs = s.u.closeReqs + (if closesU s op then 1 else 0) := by
  cases h with
  | quiet _ hc => rw [hc]; rfl
  | pull _ _ hc _ hp => rw [hc]; exact hp.keep.closeReqs
  | close _ _ hc => rw [hc]; rfl

theorem UStep.items {s : State} {op : Op} {u' : U} {o : Out} (h : UStep s op u' o) :
    itemsOf s.u.rest = outItems o ++ itemsOf u'.rest := by
  cases h with
  | quiet _ _ ho => rw [ho]; rfl
  | pull _ _ _ _ hp => exact hp.items
  | close => rfl

theorem UStep.usable {s : State} {op : Op} {u' : U} {o : Out} (h : UStep s op u' o)
    (ho : op.handleOnly = true) (hn : op.noCancel = true) (hu : Usable s.u) : Usable u' := by
  cases h with
  | quiet => exact hu
  | pull c _ _ hcn hp =>
    cases c with
    | false => exact (hp.usable hu).1
    | true => rw [hn] at hcn; cases hcn rfl
  | close _ _ hc => rw [closesU_of_handleOnly s op ho] at hc; cases hc

/-- the outcome is not the end of a pull (stop / exception / cancellation), which would finish
    every wrapper it came through -/
def Out.keepsOpen : Out → Bool
  | .res (.item _) => true
  | .res _ => false
  | _ => true

def Op.isExit : Op → Bool
  | .exit _ _ => true
  | _ => false

theorem keepsOpen_res {r : Res} (h : Out.keepsOpen (.res r) = true) : ∃ v, r = .item v := by
  cases r with
  | item v => exact ⟨v, rfl⟩
  | _ => cases h

/-- `scopedStays`: a scoped handle's record is changed only by an `exit` (its `aclose` is a no-op) or
    by a pull through it that does not end in an item (`PullSpec.itemSame`). -/
structure StepSpec (s : State) (op : Op) : Prop where
  grows : Grows s.hs (step s op).1.hs
  ctxs : (step s op).1.ctxs = s.ctxs
    ∨ ∃ t own, op = .enter t ∧ (step s op).1.ctxs = s.ctxs ++ [{ target := t, own := own }]
  und : UStep s op (step s op).1.u (step s op).2
  notStuck : WFh s.hs → (step s op).2 ≠ .res .stuck
  scopedStays : op.isExit = false → (step s op).2.keepsOpen = true →
    ∀ (h : Nat) (hd : Handle), s.hs[h]? = some hd → hd.kind = .scoped → (step s op).1.hs[h]? = some hd

/-- an operation that changes at most handles and contexts and answers `o` -/
theorem StepSpec.of_hs {s : State} {op : Op} (s' : State) (o : Out) (eq : step s op = (s', o))
    (sameU : s'.u = s.u) (noClose : closesU s op = false) (noItem : outItems o = [])
    (notStuck : o ≠ .res .stuck) (grows : Grows s.hs s'.hs)
    (ctxs : s'.ctxs = s.ctxs
      ∨ ∃ t own, op = .enter t ∧ s'.ctxs = s.ctxs ++ [{ target := t, own := own }])
    (scopedStays : op.isExit = false → ∀ (h : Nat) (hd : Handle), s.hs[h]? = some hd →
      hd.kind = .scoped → s'.hs[h]? = some hd) :
    StepSpec s op := by
  refine ⟨?_, ?_, ?_, ?_, ?_⟩ <;> rw [eq]
  · exact grows
  · exact ctxs
  · show UStep s op s'.u o
    rw [sameU]; exact .quiet o noClose noItem
  · exact fun _ => notStuck
  · exact fun hne _ => scopedStays hne

/-- an operation that changes nothing -/
theorem StepSpec.of_same {s : State} {op : Op} (o : Out) (eq : step s op = (s, o))
    (noClose : closesU s op = false) (noItem : outItems o = []) (notStuck : o ≠ .res .stuck) :
    StepSpec s op :=
  .of_hs s o eq rfl noClose noItem notStuck (.refl _) (.inl rfl) fun _ _ _ hh _ => hh

/-- an operation that changes the underlying iterator only -/
theorem StepSpec.of_u {s : State} {op : Op} (u' : U) (o : Out) (eq : step s op = ({ s with u := u' }, o))
    (und : UStep s op u' o) (notStuck : o ≠ .res .stuck) : StepSpec s op := by
  refine ⟨?_, ?_, ?_, ?_, ?_⟩ <;> rw [eq]
  · exact .refl _
  · exact .inl rfl
  · exact und
  · exact fun _ => notStuck
  · exact fun _ _ _ _ hh _ => hh

/-- a pull through the handle tree -/
theorem StepSpec.of_pull {s : State} {op : Op} (c : Bool) (r : State × Res)
    (eq : step s op = (r.1, .res r.2)) (noClose : closesU s op = false)
    (cancelOnly : c = true → op.noCancel = false) (pull : PullSpec c s r)
    (notStuck : WFh s.hs → r.2 ≠ .stuck) : StepSpec s op := by
  refine ⟨?_, ?_, ?_, ?_, ?_⟩ <;> rw [eq]
  · exact .of_len pull.mono pull.len
  · exact .inl pull.ctxs
  · show UStep s op r.1.u (.res r.2)
    rcases pull.und with ⟨e1, e2⟩ | h
    · rw [e1]; exact .quiet _ noClose e2
    · exact .pull c (r.1.u, r.2) noClose cancelOnly h
  · exact fun hw e => notStuck hw (Out.res.inj e)
  · intro _ ho h hd hh _
    obtain ⟨v, hv⟩ := keepsOpen_res ho
    show r.1.hs[h]? = some hd
    rw [pull.itemSame v hv]; exact hh

theorem getElem?_append_of_some {hs : List Handle} {h : Nat} {hd : Handle} (l : List Handle)
    (hh : hs[h]? = some hd) : (hs ++ l)[h]? = some hd := by
  rw [List.getElem?_append_left (lt_of_getElem? hh)]; exact hh

theorem newHandle_grows (s : State) (t : Option Nat) (k : Kind) (hv : validT s t = true) :
    Grows s.hs (s.hs ++ [newHandle s t k]) := by
  refine .append _ _ fun p hp => ?_
  cases hp
  exact of_decide_eq_true hv

theorem step_spec (s : State) (op : Op) : StepSpec s op := by
  have fuel : ∀ c t, validT s t = true → WFh s.hs → (pullH c s.hs.length s t).2 ≠ .stuck :=
    fun c t hv hw => pullH_not_stuck c _ s t hw fun x hx => by
      subst hx; exact ⟨of_decide_eq_true hv, of_decide_eq_true hv⟩
  cases op with
  | next t =>
    by_cases hv : validT s t = true
    · exact .of_pull false (pullH false s.hs.length s t) (eq := by rw [step, if_pos hv])
        (noClose := rfl) (cancelOnly := nofun) (pull := pullH_spec false _ s t)
        (notStuck := fuel false t hv)
    · exact .of_same .invalid (eq := by rw [step, if_neg hv]) (noClose := rfl) (noItem := rfl)
        (notStuck := nofun)
  | nextCancel t =>
    by_cases hv : validT s t = true
    · exact .of_pull true (pullH true s.hs.length s t) (eq := by rw [step, if_pos hv])
        (noClose := rfl) (cancelOnly := fun _ => rfl) (pull := pullH_spec true _ s t)
        (notStuck := fuel true t hv)
    · exact .of_same .invalid (eq := by rw [step, if_neg hv]) (noClose := rfl) (noItem := rfl)
        (notStuck := nofun)
  | send h =>
    cases hh : s.hs[h]? with
    | none =>
      exact .of_same .invalid (eq := by simp only [step, hh]) (noClose := rfl) (noItem := rfl)
        (notStuck := nofun)
    | some hd =>
      cases hs : hd.send with
      | absent =>
        exact .of_same .noattr (eq := by simp only [step, hh, hs]) (noClose := rfl) (noItem := rfl)
          (notStuck := nofun)
      | dead =>
        exact .of_same (.res .stop) (eq := by simp only [step, hh, hs]) (noClose := rfl)
          (noItem := rfl) (notStuck := nofun)
      | direct =>
        exact .of_u _ _ (eq := by simp only [step, hh, hs])
          (und := .pull false _ rfl nofun (pullU_pulls true s.u))
          (notStuck := fun e => (pullU_pulls true s.u).not_stuck (Out.res.inj e))
  | close t =>
    by_cases hv : validT s t = true
    · cases t with
      | none =>
        cases hc : s.u.hasClose with
        | false =>
          exact .of_same .noattr (eq := by rw [step, if_pos hv, hc]; rfl) (noClose := hc)
            (noItem := rfl) (notStuck := nofun)
        | true =>
          obtain ⟨st, log, hd, e⟩ := closeU_of_hasClose s.u hc
          exact .of_u _ .ok (eq := by rw [← e, step, if_pos hv, hc]; rfl)
            (und := .close st log hc hd) (notStuck := nofun)
      | some h =>
        exact .of_hs (closeT s (some h)) .ok (eq := by rw [step, if_pos hv]; rfl)
          (sameU := closeT_some_u s h) (noClose := rfl) (noItem := rfl) (notStuck := nofun)
          (grows := closeT_grows s _) (ctxs := .inl (closeT_ctxs s _))
          (scopedStays := fun _ => closeT_keeps_scoped s _)
    · refine .of_same .invalid (eq := by rw [step, if_neg hv]) (noClose := ?_) (noItem := rfl)
        (notStuck := nofun)
      cases t with
      | none => exact absurd rfl hv
      | some h => rfl
  | closeIter h =>
    by_cases hv : validT s (some h) = true
    · exact .of_hs (closeT s (some h)) .ok (eq := by rw [step, if_pos hv])
        (sameU := closeT_some_u s h) (noClose := rfl) (noItem := rfl) (notStuck := nofun)
        (grows := closeT_grows s _) (ctxs := .inl (closeT_ctxs s _))
        (scopedStays := fun _ => closeT_keeps_scoped s _)
    · exact .of_same .invalid (eq := by rw [step, if_neg hv]) (noClose := rfl) (noItem := rfl)
        (notStuck := nofun)
  | borrow t =>
    by_cases hv : validT s t = true
    · exact .of_hs { s with hs := s.hs ++ [newHandle s t .borrowed] } (.handle s.hs.length)
        (eq := by rw [step, if_pos hv]) (sameU := rfl) (noClose := rfl) (noItem := rfl)
        (notStuck := nofun) (grows := newHandle_grows s t _ hv) (ctxs := .inl rfl)
        (scopedStays := fun _ _ _ hh _ => getElem?_append_of_some _ hh)
    · exact .of_same .invalid (eq := by rw [step, if_neg hv]) (noClose := rfl) (noItem := rfl)
        (notStuck := nofun)
  | enter t =>
    by_cases hv : validT s t = true
    · by_cases hn : (t = none && !s.u.hasClose) = true
      · have ht : t = none := by
          cases t with
          | none => rfl
          | some x => cases hn
        exact .of_hs { s with ctxs := s.ctxs ++ [{ target := none, own := none }] }
          (.entered s.ctxs.length none)
          (eq := by rw [step, if_pos hv, if_pos hn]) (sameU := rfl) (noClose := rfl) (noItem := rfl)
          (notStuck := nofun) (grows := .refl _) (ctxs := .inr ⟨t, none, rfl, by rw [ht]⟩)
          (scopedStays := fun _ _ _ hh _ => hh)
      · exact .of_hs { s with hs := s.hs ++ [newHandle s t .scoped],
                              ctxs := s.ctxs ++ [{ target := t, own := some s.hs.length }] }
          (.entered s.ctxs.length (some s.hs.length))
          (eq := by rw [step, if_pos hv, if_neg hn]) (sameU := rfl) (noClose := rfl) (noItem := rfl)
          (notStuck := nofun) (grows := newHandle_grows s t _ hv) (ctxs := .inr ⟨t, _, rfl, rfl⟩)
          (scopedStays := fun _ _ _ hh _ => getElem?_append_of_some _ hh)
    · exact .of_same .invalid (eq := by rw [step, if_neg hv]) (noClose := rfl) (noItem := rfl)
        (notStuck := nofun)
  | exit c m =>
    cases hc : s.ctxs[c]? with
    | none =>
      exact .of_same .invalid (eq := by simp only [step, hc]) (noClose := by simp only [closesU, hc])
        (noItem := rfl) (notStuck := nofun)
    | some cx =>
      obtain ⟨tgt, own⟩ := cx
      cases own with
      | none =>
        exact .of_same .ok (eq := by simp only [step, hc])
          (noClose := by simp only [closesU, hc]; cases tgt <;> rfl) (noItem := rfl) (notStuck := nofun)
      | some hid =>
        have e : step s (.exit c m)
            = (closeT { s with hs := s.hs.modify hid closeWrapper } tgt, .ok) := by
          simp only [step, hc]
        have hm : Grows s.hs (s.hs.modify hid closeWrapper) := .modify _ _ _ HLe.close
        cases tgt with
        | some p =>
          exact .of_hs _ _ (eq := e) (sameU := closeT_some_u _ p)
            (noClose := by simp only [closesU, hc]; rfl) (noItem := rfl) (notStuck := nofun)
            (grows := hm.trans (closeT_grows { s with hs := s.hs.modify hid closeWrapper } _))
            (ctxs := .inl (closeT_ctxs _ _)) (scopedStays := nofun)
        | none =>
          have hcl : closesU s (.exit c m) = s.u.hasClose := by simp only [closesU, hc]; rfl
          refine ⟨?_, ?_, ?_, ?_, nofun⟩ <;> rw [e]
          · exact hm
          · exact .inl rfl
          · show UStep s (.exit c m) (closeU s.u) .ok
            cases hh : s.u.hasClose with
            | false => rw [closeU_of_not _ hh]; exact .quiet _ (hcl.trans hh) rfl
            | true =>
              obtain ⟨st, log, hd, e'⟩ := closeU_of_hasClose s.u hh
              rw [e']; exact .close st log (hcl.trans hh) hd
          · exact fun _ => nofun

theorem exec_cons (s : State) (op : Op) (ops : List Op) :
    exec s (op :: ops) = exec (step s op).1 ops := rfl

theorem exec_append (s : State) (a b : List Op) : exec s (a ++ b) = exec (exec s a) b :=
  List.foldl_append ..

theorem exec_caps (ops : List Op) : ∀ s : State,
    (exec s ops).u.gen = s.u.gen ∧ (exec s ops).u.hasClose = s.u.hasClose
      ∧ (exec s ops).u.hasSend = s.u.hasSend := by
  induction ops with
  | nil => intro s; exact ⟨rfl, rfl, rfl⟩
  | cons op r ih =>
    intro s
    have h1 := (step_spec s op).und.caps
    have h2 := ih (step s op).1
    exact ⟨h2.1.trans h1.1, h2.2.1.trans h1.2.1, h2.2.2.trans h1.2.2⟩

theorem exec_closeReqs (ops : List Op) : ∀ s : State,
    (exec s ops).u.closeReqs = s.u.closeReqs + closeOps s ops := by
  induction ops with
  | nil => intro s; rfl
  | cons op r ih =>
    intro s
    rw [exec_cons, ih, (step_spec s op).und.closeReqs, closeOps, Nat.add_assoc]

theorem exec_keep (ops : List Op) : ∀ s : State, closeOps s ops = 0 → UKeep s.u (exec s ops).u := by
  induction ops with
  | nil => intro s _; exact UKeep.refl _
  | cons op r ih =>
    intro s h
    rw [closeOps] at h
    have h1 : closesU s op = false := by
      cases hc : closesU s op
      · rfl
      · rw [hc] at h; simp at h
    rw [h1] at h
    exact ((step_spec s op).und.keep h1).trans (ih _ (by simpa using h))

theorem exec_grows (ops : List Op) : ∀ s : State, Grows s.hs (exec s ops).hs := by
  induction ops with
  | nil => intro s; exact .refl _
  | cons op r ih => intro s; exact (step_spec s op).grows.trans (ih _)

theorem exec_mono (ops : List Op) (s : State) : HsMono s.hs (exec s ops).hs := (exec_grows ops s).mono

theorem exec_ctxs (ops : List Op) : ∀ s : State, ∃ l, (exec s ops).ctxs = s.ctxs ++ l := by
  induction ops with
  | nil => intro s; exact ⟨[], (List.append_nil _).symm⟩
  | cons op r ih =>
    intro s
    obtain ⟨l2, e2⟩ := ih (step s op).1
    rcases (step_spec s op).ctxs with e1 | ⟨_, _, _, e1⟩
    · exact ⟨l2, by rw [exec_cons, e2, e1]⟩
    · exact ⟨[_] ++ l2, by rw [exec_cons, e2, e1, List.append_assoc]⟩

theorem closeOps_handleOnly (ops : List Op) : ∀ s : State,
    (∀ op ∈ ops, op.handleOnly = true) → closeOps s ops = 0 := by
  induction ops with
  | nil => intro s _; rfl
  | cons op r ih =>
    intro s h
    rw [closeOps, closesU_of_handleOnly s op (h op (.head _)), ih _ fun o ho => h o (.tail _ ho)]
    rfl

/-! ## A closed handle stays inert -/

theorem inert_exec (ops : List Op) (s : State) (h : Nat) (hd : Handle)
    (hh : s.hs[h]? = some hd) (hi : Inert hd) :
    ∃ hd', (exec s ops).hs[h]? = some hd' ∧ Inert hd' ∧ hd'.kind = hd.kind := by
  obtain ⟨hd', e, l⟩ := (exec_mono ops s).2 h hd hh
  exact ⟨hd', e, hi.le l, l.kind⟩

theorem inert_pulls (s : State) (h : Nat) (hd : Handle) (hh : s.hs[h]? = some hd) (hi : Inert hd) :
    step s (.next (some h)) = (s, .res .stop) ∧ step s (.nextCancel (some h)) = (s, .res .stop)
    ∧ (step s (.send h) = (s, .res .stop) ∨ step s (.send h) = (s, .noattr)) := by
  have hv : validT s (some h) = true := decide_eq_true (lt_of_getElem? hh)
  refine ⟨?_, ?_, ?_⟩
  · rw [step, if_pos hv, pullH_closed false s h hd hh hi.1]
  · rw [step, if_pos hv, pullH_closed true s h hd hh hi.1]
  · cases hs : hd.send with
    | absent => right; simp only [step, hh, hs]
    | dead => left; simp only [step, hh, hs]
    | direct => exact absurd hs hi.2

/-! ## The owner still gets everything that is left -/

theorem exec_usable (ops : List Op) : ∀ s : State, (∀ op ∈ ops, op.handleOnly = true ∧ op.noCancel = true) →
    Usable s.u → Usable (exec s ops).u := by
  induction ops with
  | nil => intro s _ h; exact h
  | cons op r ih =>
    intro s ho h
    have hop := ho op (.head _)
    exact ih _ (fun o hm => ho o (.tail _ hm)) ((step_spec s op).und.usable hop.1 hop.2 h)

/-- the owner's `n` direct pulls -/
def drain (n : Nat) : List Op := List.replicate n (.next none)

theorem step_nextU (s : State) : step s (.next none)
    = ({ s with u := (pullU false s.u).1 }, .res (pullU false s.u).2) := by
  rw [step, if_pos (show validT s none = true from rfl), pullH_none]; rfl

theorem outs_drain_succ (s : State) (n : Nat) :
    outs s (drain (n + 1))
      = .res (pullU false s.u).2 :: outs { s with u := (pullU false s.u).1 } (drain n) := by
  show outs s (.next none :: drain n) = _
  rw [outs, step_nextU]

theorem drain_usable : ∀ (rest : List Entry) (s : State), s.u.rest = rest → Usable s.u →
    outs s (drain (rest.length + 1))
      = (itemsOf rest).map (fun v => Out.res (.item v)) ++ [.res .stop] := by
  intro rest
  induction rest with
  | nil =>
    intro s hr hu
    rcases ((pullU_pulls false s.u).usable hu).2 with ⟨_, e⟩ | ⟨v, e, _⟩
    · rw [List.length_nil, outs_drain_succ, e]; rfl
    · rw [hr] at e; cases e
  | cons x r ih =>
    intro s hr hu
    obtain ⟨hu', h⟩ := (pullU_pulls false s.u).usable hu
    rcases h with ⟨e, _⟩ | ⟨v, e, e2⟩ <;> rw [hr] at e
    · cases e
    · cases e
      rw [List.length_cons, outs_drain_succ, ih { s with u := (pullU false s.u).1 } rfl hu', e2]
      rfl

/-- the only context scoping the underlying iterator itself is `c0` -/
def OnlyScope (c0 : Nat) (s : State) : Prop :=
  ∀ (c : Nat) (cx : Ctx), s.ctxs[c]? = some cx → cx.target = none → c = c0

/-- what the body of the block of context `c0` may do: anything but closing the underlying
    iterator directly, opening another scope directly on it, or leaving `c0` -/
def Op.inBlock (c0 : Nat) : Op → Bool
  | .close none => false
  | .enter none => false
  | .exit c _ => c != c0
  | _ => true

theorem closesU_of_inBlock (c0 : Nat) (s : State) (op : Op) (hb : op.inBlock c0 = true)
    (hs : OnlyScope c0 s) : closesU s op = false := by
  cases op with
  | close t => cases t with
    | none => cases hb
    | some x => rfl
  | exit c m =>
    rw [closesU]
    cases hc : s.ctxs[c]? with
    | none => rfl
    | some cx =>
      cases ht : cx.target with
      | some p => simp only [ht]; rfl
      | none =>
        rw [hs c cx hc ht] at hb
        simp [Op.inBlock] at hb
  | _ => rfl

theorem step_onlyScope (c0 : Nat) (s : State) (op : Op) (hb : op.inBlock c0 = true)
    (hs : OnlyScope c0 s) : OnlyScope c0 (step s op).1 := by
  intro c cx hc ht
  rcases (step_spec s op).ctxs with e | ⟨t, own, rfl, e⟩ <;> rw [e] at hc
  · exact hs c cx hc ht
  · by_cases hl : c < s.ctxs.length
    · rw [List.getElem?_append_left hl] at hc; exact hs c cx hc ht
    · have hlt := lt_of_getElem? hc
      rw [List.length_append, List.length_singleton] at hlt
      have he : c = s.ctxs.length := by omega
      subst he
      rw [List.getElem?_append_right (Nat.le_refl _), Nat.sub_self] at hc
      cases hc
      cases ht
      cases hb

theorem exec_onlyScope (c0 : Nat) (ops : List Op) : ∀ s : State,
    (∀ op ∈ ops, op.inBlock c0 = true) → OnlyScope c0 s →
    closeOps s ops = 0 ∧ OnlyScope c0 (exec s ops) := by
  induction ops with
  | nil => intro s _ h; exact ⟨rfl, h⟩
  | cons op r ih =>
    intro s hb hs
    have h1 := closesU_of_inBlock c0 s op (hb op (.head _)) hs
    have h2 := step_onlyScope c0 s op (hb op (.head _)) hs
    obtain ⟨h3, h4⟩ := ih (step s op).1 (fun o ho => hb o (.tail _ ho)) h2
    exact ⟨by rw [closeOps, h1, h3]; rfl, h4⟩

end AsyncVerif.Borrow
