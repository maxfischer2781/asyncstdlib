import AsyncVerif.Proofs.Core
import AsyncVerif.Proofs.FuelAdequate
/-!
# `islice`: asyncstdlib's skip-then-indexed-loop against CPython's `cnt/next` state machine

The two loops have different shapes and burn fuel at different rates (asyncstdlib's model: one unit per
pulled item; CPython's model: one unit per yielded item), so they are compared *up to fuel*: whenever
neither run hits the model's fuel bound, the two runs perform the same primitive operations in the same
order and end in the **same world** with the same outcome.

Proof: a per-pull view of both loops (`idxLoop_succ`, `isliceLoop_skip`, `isliceLoop_at`), then an
induction on asyncstdlib's fuel with CPython's fuel universally quantified, under the invariant
`cnt = start + idx`, `next = min (start + t) stop` where `t` is the least multiple of `step` that is `≥ idx`.
The fuel hypothesis is satisfiable in every world: `script.length + 1` is enough for CPython's loop
(`islice_std_adequate`) as it is for asyncstdlib's (`islice_fuel_adequate`).
-/
namespace AsyncVerif.IsliceTwin

open AsyncVerif

/-- two multiples of `step` that are less than `step` apart are equal -/
theorem mult_close {a b step : Nat} (ha : a % step = 0) (hb : b % step = 0) (h1 : a ≤ b)
    (h2 : b < a + step) : a = b := by
  have hd : step ∣ b - a := Nat.dvd_sub (Nat.dvd_of_mod_eq_zero hb) (Nat.dvd_of_mod_eq_zero ha)
  have := Nat.eq_zero_of_dvd_of_lt hd (by omega)
  omega

/-- CPython's `next += step; if (next > stop) next = stop` -/
def cap (stop : Option Nat) (n : Nat) : Nat :=
  match stop with
  | some st => if n > st then st else n
  | none => n

/-- the `stop` test of both loops -/
def atStop (stop : Option Nat) (cnt : Nat) : Bool :=
  match stop with
  | some st => decide (st ≤ cnt)
  | none => false

theorem ite_M {α : Type} (c : Prop) [Decidable c] (a b : M α) (w : World) :
    (if c then a else b) w = if c then a w else b w := by split <;> rfl

theorem idxLoop_succ (s step : Nat) (lim : Option Nat) (idx fa : Nat) (w : World) :
    Impl.idxLoop s step lim idx (fa + 1) w =
      match pull s w with
      | (.ok none, w1) => (.ok (), w1)
      | (.ok (some x), w1) =>
        (match (if idx % step = 0 then yieldV x w1 else (.ok (), w1)) with
         | (.ok _, w2) => if atStop lim idx then (.ok (), w2) else Impl.idxLoop s step lim (idx + 1) fa w2
         | (.error e, w2) => (.error e, w2))
      | (.error e, w1) => (.error e, w1) := by
  simp only [Impl.idxLoop, bind_apply, atStop]
  rcases hp : pull s w with ⟨r, w1⟩
  cases r with
  | error e => rfl
  | ok o =>
    cases o with
    | none => rfl
    | some x =>
      simp only
      by_cases hit : idx % step = 0
      · simp only [hit, beq_self_eq_true, if_true, bind_apply]
        rcases hy : yieldV x w1 with ⟨r2, w2⟩
        cases r2 with
        | error e => rfl
        | ok u => simp only [ite_M, pure_apply]; cases lim <;> rfl
      · have hb : (idx % step == 0) = false := by simpa using hit
        simp only [hit, hb, if_false, Bool.false_eq_true, pure_apply, bind_apply, ite_M]
        cases lim <;> rfl

/-- CPython's loop while it is still skipping: one pull, same fuel -/
theorem isliceLoop_skip (s : Nat) (stop : Option Nat) (step cnt next fb : Nat) (w : World) (h : cnt < next) :
    Std.isliceLoop s stop step cnt next (fb + 1) w =
      match pull s w with
      | (.ok none, w1) => (.ok (), w1)
      | (.ok (some _), w1) => Std.isliceLoop s stop step (cnt + 1) next (fb + 1) w1
      | (.error e, w1) => (.error e, w1) := by
  obtain ⟨k, hk⟩ : ∃ k, next - cnt = k + 1 := ⟨next - cnt - 1, by omega⟩
  have hk' : next - (cnt + 1) = k := by omega
  simp only [Std.isliceLoop, hk, hk', Std.skipTo, bind_apply]
  rcases hp : pull s w with ⟨r, w1⟩
  cases r with
  | error e => rfl
  | ok o =>
    cases o with
    | none => rfl
    | some x => rfl

/-- CPython's loop when the next item is the one to return: stop test, one pull, one yield, one unit of fuel -/
theorem isliceLoop_at (s : Nat) (stop : Option Nat) (step cnt fb : Nat) (w : World) :
    Std.isliceLoop s stop step cnt cnt (fb + 1) w =
      if atStop stop cnt then (.ok (), w) else
      match pull s w with
      | (.ok none, w1) => (.ok (), w1)
      | (.ok (some x), w1) =>
        (match yieldV x w1 with
         | (.ok _, w2) => Std.isliceLoop s stop step (cnt + 1) (cap stop (cnt + step)) fb w2
         | (.error e, w2) => (.error e, w2))
      | (.error e, w1) => (.error e, w1) := by
  have key : ∀ b : Bool, b = atStop stop cnt →
      (if b = true then (pure () : M Unit) w else
        (do match ← pull s with
            | none => pure ()
            | some x => do
              yieldV x
              Std.isliceLoop s stop step (cnt + 1) (cap stop (cnt + step)) fb : M Unit) w) =
      if atStop stop cnt then (.ok (), w) else
      match pull s w with
      | (.ok none, w1) => (.ok (), w1)
      | (.ok (some x), w1) =>
        (match yieldV x w1 with
         | (.ok _, w2) => Std.isliceLoop s stop step (cnt + 1) (cap stop (cnt + step)) fb w2
         | (.error e, w2) => (.error e, w2))
      | (.error e, w1) => (.error e, w1) := by
    intro b hb
    subst hb
    by_cases hst : atStop stop cnt = true
    · simp only [hst, if_true, pure_apply]
    · simp only [hst, bind_apply]
      rcases hp : pull s w with ⟨r, w1⟩
      cases r with
      | error e => rfl
      | ok o =>
        cases o with
        | none => rfl
        | some x =>
          simp only [bind_apply]
          rcases hy : yieldV x w1 with ⟨r2, w2⟩
          cases r2 with
          | error e => rfl
          | ok u => rfl
  rw [← key _ rfl]
  simp only [Std.isliceLoop, Nat.sub_self, Std.skipTo, bind_apply, pure_apply,
    Bool.not_true, Bool.false_eq_true, ite_M]
  cases stop <;> rfl

/-- the limit asyncstdlib's loop is started with -/
def limOf (start : Nat) (stop : Option Nat) : Option Nat := stop.map (fun st => st - start - 1)

theorem isliceLoop_zero (s : Nat) (stop : Option Nat) (step cnt next : Nat) (w : World) :
    Std.isliceLoop s stop step cnt next 0 w = (.error .outOfFuel, w) := by
  simp only [Std.isliceLoop]; rfl

theorem idxLoop_zero (s step : Nat) (lim : Option Nat) (idx : Nat) (w : World) :
    Impl.idxLoop s step lim idx 0 w = (.error .outOfFuel, w) := by
  simp only [Impl.idxLoop]; rfl

/-- CPython's loop once `cnt` reached `stop`: returns without touching anything -/
theorem isliceLoop_done (s : Nat) (st step fb : Nat) (w : World)
    (h : (Std.isliceLoop s (some st) step st st fb w).1 ≠ .error .outOfFuel) :
    Std.isliceLoop s (some st) step st st fb w = (.ok (), w) := by
  cases fb with
  | zero => rw [isliceLoop_zero] at h; exact absurd rfl h
  | succ fb => rw [isliceLoop_at]; simp [atStop]

/-- two runs coincide (outcome **and** final world) unless one of them hit the fuel bound -/
def Agree {α : Type} (a b : Except Exc α × World) : Prop :=
  a.1 ≠ .error .outOfFuel → b.1 ≠ .error .outOfFuel → a = b

/-- both runs start with the same pull and stop alike when it yields no item -/
theorem Agree.pull {α : Type} (s : Nat) (w : World) {n : World → Except Exc α × World}
    {f g : Val → World → Except Exc α × World} (h : ∀ x w1, Agree (f x w1) (g x w1)) :
    Agree
      (match AsyncVerif.pull s w with
        | (.ok none, w1) => n w1 | (.ok (some x), w1) => f x w1 | (.error e, w1) => (.error e, w1))
      (match AsyncVerif.pull s w with
        | (.ok none, w1) => n w1 | (.ok (some x), w1) => g x w1 | (.error e, w1) => (.error e, w1)) := by
  rcases AsyncVerif.pull s w with ⟨_ | _ | x, w1⟩
  · exact fun _ _ => rfl
  · exact fun _ _ => rfl
  · exact h x w1

/-- Invariant: asyncstdlib is at relative index `idx`, CPython at `cnt = start + idx` with
    `next = min (start + t) stop`, `t` the least multiple of `step` that is `≥ idx`, and `cnt < stop`. -/
theorem loops_agree (s start : Nat) (stop : Option Nat) (step : Nat) :
    ∀ (fa idx t fb : Nat) (w : World),
      t % step = 0 → idx ≤ t → t < idx + step →
      (∀ st, stop = some st → start + idx < st) →
      Agree (Impl.idxLoop s step (limOf start stop) idx fa w)
        (Std.isliceLoop s stop step (start + idx) (cap stop (start + t)) fb w) := by
  intro fa
  induction fa with
  | zero => intro idx t fb w _ _ _ _ h1 _; rw [idxLoop_zero] at h1; exact absurd rfl h1
  | succ fa ih =>
    intro idx t fb w ht hle hlt hst
    -- once index `idx` is dealt with: asyncstdlib tests its limit, CPython's next round finds `cnt = stop`
    have tail : ∀ (t' fb' : Nat) (w' : World), t' % step = 0 → idx + 1 ≤ t' → t' < idx + 1 + step →
        Agree (if atStop (limOf start stop) idx = true then (.ok (), w')
            else Impl.idxLoop s step (limOf start stop) (idx + 1) fa w')
          (Std.isliceLoop s stop step (start + idx + 1) (cap stop (start + t')) fb' w') := by
      intro t' fb' w' ht' hle' hlt'
      by_cases hlast : atStop (limOf start stop) idx = true
      · cases stop with
        | none => simp [limOf, atStop] at hlast
        | some st =>
          have := hst st rfl
          have hl : st - start - 1 ≤ idx := by simpa [limOf, atStop] using hlast
          have e1 : start + idx + 1 = st := by omega
          have e2 : cap (some st) (start + t') = st := by simp only [cap]; split <;> omega
          rw [e1, e2, if_pos hlast]
          exact fun _ g2 => (isliceLoop_done s st step fb' w' g2).symm
      · rw [if_neg hlast]
        refine ih (idx + 1) t' fb' w' ht' hle' hlt' ?_
        intro st hs
        subst hs
        have := hst st rfl
        have : ¬ st - start - 1 ≤ idx := by simpa [limOf, atStop] using hlast
        omega
    cases fb with
    | zero => intro _ h2; rw [isliceLoop_zero] at h2; exact absurd rfl h2
    | succ fb =>
      by_cases hit : idx % step = 0
      · -- the item at `idx` is returned
        have hti : idx = t := mult_close hit ht hle hlt
        subst hti
        have hcap : cap stop (start + idx) = start + idx := by
          cases stop with
          | none => rfl
          | some st => have := hst st rfl; simp only [cap]; rw [if_neg (by omega)]
        have hns : atStop stop (start + idx) = false := by
          cases stop with
          | none => rfl
          | some st => have := hst st rfl; simp only [atStop]; exact decide_eq_false (by omega)
        rw [hcap, idxLoop_succ, isliceLoop_at]
        simp only [hns, Bool.false_eq_true, if_false, hit, if_true]
        refine Agree.pull s w fun x w1 => ?_
        rcases yieldV x w1 with ⟨_ | _, w2⟩
        · exact fun _ _ => rfl
        rw [Nat.add_assoc start idx step]
        exact tail (idx + step) fb w2 (by rw [Nat.add_mod_right]; exact hit) (by omega) (by omega)
      · -- the item at `idx` is skipped
        have hne : idx ≠ t := fun h => hit (h ▸ ht)
        have hcl : start + idx < cap stop (start + t) := by
          cases stop with
          | none => simp only [cap]; omega
          | some st => have := hst st rfl; simp only [cap]; split <;> omega
        rw [idxLoop_succ, isliceLoop_skip _ _ _ _ _ _ _ hcl]
        simp only [hit, if_false]
        exact Agree.pull s w fun x w1 => tail t (fb + 1) w1 ht (by omega) (by omega)

/-- what asyncstdlib's `islice` does once the first `start` items are consumed -/
def afterSkip (s start : Nat) (stop : Option Nat) (step fuel : Nat) : M Unit :=
  match stop with
  | none => Impl.idxLoop s step none 0 fuel
  | some st => if st ≤ start then pure () else Impl.idxLoop s step (some (st - start - 1)) 0 fuel

/-- asyncstdlib's `islice` body with `k` items still to skip -/
def skipPhase (s start : Nat) (stop : Option Nat) (step fuel : Nat) (k c : Nat) : M Unit := fun w =>
  match Std.skipTo s k c w with
  | (.ok r, w1) => if r.2 then afterSkip s start stop step fuel w1 else (.ok (), w1)
  | (.error e, w1) => (.error e, w1)

theorem islice_eq_scoped (s start : Nat) (stop : Option Nat) (step fuel : Nat) :
    Impl.islice s start stop step fuel = scopedIter s (skipPhase s start stop step fuel start 0) := by
  unfold Impl.islice
  refine congrArg (scopedIter s) (funext fun w => ?_)
  unfold skipPhase
  by_cases h0 : start > 0
  · simp only [h0, if_true, bind_apply, pure_apply]
    rcases hsk : Std.skipTo s start 0 w with ⟨r, w1⟩
    cases r with
    | error e => rfl
    | ok p =>
      obtain ⟨c, ok⟩ := p
      cases ok
      · rfl
      · simp only [Bool.not_true, Bool.false_eq_true, if_false, if_true, afterSkip]
        cases stop <;> rfl
  · have : start = 0 := by omega
    subst this
    simp only [Nat.lt_irrefl, if_false, bind_apply, pure_apply, Std.skipTo, Bool.not_true,
      Bool.false_eq_true, if_true, afterSkip]
    cases stop <;> rfl

theorem afterSkip_agree (s start : Nat) (stop : Option Nat) (step : Nat) (hstep : 1 ≤ step)
    (fa fb : Nat) (w : World)
    (h1 : (afterSkip s start stop step fa w).1 ≠ .error .outOfFuel)
    (h2 : (Std.isliceLoop s stop step start start fb w).1 ≠ .error .outOfFuel) :
    afterSkip s start stop step fa w = Std.isliceLoop s stop step start start fb w := by
  cases stop with
  | none =>
    exact loops_agree s start none step fa 0 0 fb w (Nat.zero_mod _) (Nat.le_refl _) (by omega)
      (fun st h => by cases h) h1 h2
  | some st =>
    by_cases hle : st ≤ start
    · cases fb with
      | zero => rw [isliceLoop_zero] at h2; exact absurd rfl h2
      | succ fb =>
        rw [isliceLoop_at]
        simp [afterSkip, hle, atStop, pure_apply]
    · have hc : cap (some st) (start + 0) = start := by simp only [cap]; split <;> omega
      have := loops_agree s start (some st) step fa 0 0 fb w (Nat.zero_mod _) (Nat.le_refl _) (by omega)
        (fun st' h => by cases h; omega)
      rw [hc] at this
      simp only [afterSkip, hle, if_false] at h1 ⊢
      exact this h1 h2

theorem skipPhase_agree (s start : Nat) (stop : Option Nat) (step : Nat) (hstep : 1 ≤ step) (fa : Nat) :
    ∀ (k c fb : Nat) (w : World), c + k = start →
      (skipPhase s start stop step fa k c w).1 ≠ .error .outOfFuel →
      (Std.isliceLoop s stop step c start fb w).1 ≠ .error .outOfFuel →
      skipPhase s start stop step fa k c w = Std.isliceLoop s stop step c start fb w := by
  intro k
  induction k with
  | zero =>
    intro c fb w hc h1 h2
    have : c = start := by omega
    subst this
    simp only [skipPhase, Std.skipTo, pure_apply, if_true] at h1 ⊢
    exact afterSkip_agree s c stop step hstep fa fb w h1 h2
  | succ k ih =>
    intro c fb w hc h1 h2
    cases fb with
    | zero => rw [isliceLoop_zero] at h2; exact absurd rfl h2
    | succ fb =>
      rw [isliceLoop_skip _ _ _ _ _ _ _ (by omega)] at h2 ⊢
      simp only [skipPhase, Std.skipTo, bind_apply] at h1 ⊢
      rcases hp : pull s w with ⟨r, w1⟩
      rw [hp] at h1 h2
      cases r with
      | error e => rfl
      | ok o =>
        cases o with
        | none => rfl
        | some x =>
          simp only at h1 h2 ⊢
          exact ih (c + 1) (fb + 1) w1 (by omega) h1 h2

/-- the scope of `Impl.islice` is invisible (outcome, visible log) -/
theorem islice_scoped (s start : Nat) (stop : Option Nat) (step fuel : Nat) (w : World) :
    (Impl.islice s start stop step fuel w).1 = (skipPhase s start stop step fuel start 0 w).1 ∧
    (Impl.islice s start stop step fuel w).2.vis = (skipPhase s start stop step fuel start 0 w).2.vis := by
  rw [islice_eq_scoped]
  exact scopedIter_twin s _ w

/-- `islice` twin up to fuel -/
theorem islice_twin (s start : Nat) (stop : Option Nat) (step : Nat) (hstep : 1 ≤ step) (f1 f2 : Nat) (w : World)
    (h1 : (Impl.islice s start stop step f1 w).1 ≠ .error .outOfFuel)
    (h2 : (Std.islice s start stop step f2 w).1 ≠ .error .outOfFuel) :
    (Impl.islice s start stop step f1 w).1 = (Std.islice s start stop step f2 w).1 ∧
    (Impl.islice s start stop step f1 w).2.vis = (Std.islice s start stop step f2 w).2.vis := by
  obtain ⟨e1, e2⟩ := islice_scoped s start stop step f1 w
  rw [e1] at h1
  rw [e1, e2]
  have := skipPhase_agree s start stop step hstep f1 start 0 f2 w (by omega) h1 h2
  unfold Std.islice
  rw [this]
  exact ⟨rfl, rfl⟩

/-- CPython's loop: one unit of fuel per yielded item, and one for noticing the end; every round that
    recurses has pulled an item after its skip phase -/
theorem isliceLoop_triple (s : Nat) (stop : Option Nat) (step : Nat) : ∀ (fb cnt next : Nat),
    Triple (fun w => slen s w < fb) (Std.isliceLoop s stop step cnt next fb) (fun _ _ => True) := by
  intro fb
  induction fb with
  | zero => intro cnt next; exact Triple.zero_fuel s _ _
  | succ n ih =>
    intro cnt next
    unfold Std.isliceLoop
    refine Triple.bind_tame (Tame.skipTo s _ _) (Stable.slen_lt _ _) ?_
    rintro ⟨c, ok⟩
    refine Triple.ite (Triple.pure _ (fun _ _ => trivial)) (Triple.ite (Triple.pure _ (fun _ _ => trivial)) ?_)
    refine Triple.bind_pull_lt s n (Triple.pure _ (fun _ _ => trivial)) (fun x => ?_)
    exact Triple.bind_tame (Tame.yieldV x) (Stable.slen_lt _ _) (fun _ => ih _ _)

theorem islice_std_adequate (s start : Nat) (stop : Option Nat) (step f : Nat) (w : World)
    (h : slen s w + 1 ≤ f) : (Std.islice s start stop step f w).1 ≠ .error .outOfFuel :=
  (isliceLoop_triple s stop step f 0 start).fueled (Nat.lt_of_succ_le h)

end AsyncVerif.IsliceTwin
