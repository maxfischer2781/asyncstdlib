import AsyncVerif.Proofs.LruConc
import AsyncVerif.Proofs.LruOrder
/-! Helper definitions and lemmas for C11 (order): what each step of the overlapping machine does to
the ORDER of a bounded cache, the log of "touches", and the sequential history of an interleaving. -/
namespace AsyncVerif.Lru

/-- what one step of the overlapping machine does to the order of the cache -/
inductive Touch
  | hit (p : Pattern)              -- a `begin` that finds `p` in the cache: `move_to_end`
  | ins (p : Pattern) (v : Nat)    -- a successful `finish` whose key is absent: inserted (evicting if full)
  | clear
  | discard (p : Pattern)
  | none                           -- a `begin` that misses, a late duplicate, a failure, a cancellation, …
  deriving DecidableEq, Repr

/-- classification of the step `op` taken in state `s` (`t` = `typed`) -/
def classify (t : Bool) (s : CSt) : COp → Touch
  | .begin c p =>
    if (lookupCall c s.inflight).isSome then .none
    else if (find (Impl.eqv t) p s.core.store).isSome then .hit p else .none
  | .finish c r =>
    match lookupCall c s.inflight, r with
    | some p, .ok v => if (find (Impl.eqv t) p s.core.store).isSome then .none else .ins p v
    | _, _ => .none
  | .clear => .clear
  | .discard p => .discard p
  | .info => .none

/-- the log of touched keys since the last `cache_clear`, oldest first -/
def logStep (t : Bool) (s : CSt) (log : List NKey) (op : COp) : List NKey :=
  match classify t s op with
  | .hit p => log ++ [keyOf t p]
  | .ins p _ => log ++ [keyOf t p]
  | .clear => []
  | _ => log

/-- the machine together with its touch log -/
def tstep (cfg : Cfg) (x : CSt × List NKey) (op : COp) : CSt × List NKey :=
  ((cstep cfg x.1 op).1, logStep cfg.typed x.1 x.2 op)

def trun (cfg : Cfg) : CSt × List NKey → List COp → CSt × List NKey
  | x, [] => x
  | x, op :: ops => trun cfg (tstep cfg x op) ops

/-- the sequential call(s) standing for one step of the overlapping machine: a hit is a call at its
    `begin` (the wrapped function's result is irrelevant, the call is answered from the cache), an
    inserting miss is a call at its `finish`; everything else — the `begin` of a miss, a late
    duplicate, a failed or cancelled call — is dropped -/
def seqOps (t : Bool) (s : CSt) (op : COp) : List Op :=
  match classify t s op with
  | .hit p => [.call p (.ok 0)]
  | .ins p v => [.call p (.ok v)]
  | .clear => [.clear]
  | .discard p => [.discard p]
  | .none => []

def seqHistory (cfg : Cfg) : CSt → List COp → List Op
  | _, [] => []
  | s, op :: ops => seqOps cfg.typed s op ++ seqHistory cfg (cstep cfg s op).1 ops

theorem trun_fst (cfg : Cfg) : ∀ (ops : List COp) (x : CSt × List NKey), (trun cfg x ops).1 = crun cfg x.1 ops := by
  intro ops
  induction ops with
  | nil => intro x; rfl
  | cons op rest ih => intro x; simp only [trun, crun]; rw [ih]; rfl

theorem trun_append (cfg : Cfg) : ∀ (a b : List COp) (x : CSt × List NKey),
    trun cfg x (a ++ b) = trun cfg (trun cfg x a) b := by
  intro a
  induction a with
  | nil => intro b x; rfl
  | cons op rest ih => intro b x; simp only [List.cons_append, trun]; exact ih b _

theorem dropCall_length {c : Nat} : ∀ {l : List (Nat × Pattern)} {p : Pattern}, lookupCall c l = some p →
    (dropCall c l).length + 1 = l.length := by
  intro l
  induction l with
  | nil => nofun
  | cons e r ih =>
    intro p h
    by_cases he : e.1 = c
    · simp only [dropCall, he, if_true, List.length_cons]
    · simp only [lookupCall, he, if_false] at h
      simp only [dropCall, he, if_false, List.length_cons, ih h]

/-- The miss count `m` of the sequential side is arbitrary: the overlapping machine counts a miss at
    every missing `begin`, also of calls the sequential history never sees, so only an inequality
    survives, and a `cache_clear` during flight breaks even that. -/
theorem cstep_sim_seqOps (n : Nat) (t : Bool) (s : CSt) (m : Nat) (op : COp) :
    ∃ m', final (Impl.step ⟨.bounded n, t⟩) { s.core with misses := m } (seqOps t s op)
        = { (cstep ⟨.bounded n, t⟩ s op).1.core with misses := m' } ∧
      (op ≠ .clear → m + s.inflight.length ≤ s.core.misses →
        m' + (cstep ⟨.bounded n, t⟩ s op).1.inflight.length ≤ (cstep ⟨.bounded n, t⟩ s op).1.core.misses) := by
  cases op with
  | «begin» c p =>
    cases hl : lookupCall c s.inflight with
    | some q =>
      simp only [seqOps, classify, cstep, hl, Option.isSome_some, if_true, final]
      exact ⟨m, rfl, fun _ h => h⟩
    | none =>
      cases hf : find (Impl.eqv t) p s.core.store with
      | none =>
        simp only [seqOps, classify, cstep, hl, hf, begin_bounded_miss hf, Option.isSome_none, Bool.false_eq_true,
          if_false, final, List.length_append, List.length_singleton]
        exact ⟨m, rfl, fun _ h => Nat.succ_le_succ h⟩
      | some e =>
        simp only [seqOps, classify, cstep, hl, hf, begin_bounded_hit hf, Option.isSome_none, Option.isSome_some,
          Bool.false_eq_true, if_false, if_true, final, Impl.step,
          call_bounded_hit (s := { s.core with misses := m }) hf]
        exact ⟨m, rfl, fun _ h => h⟩
  | finish c r =>
    cases hl : lookupCall c s.inflight with
    | none =>
      simp only [seqOps, classify, cstep, hl, final]
      exact ⟨m, rfl, fun _ h => h⟩
    | some p =>
      -- the call leaves the calls in flight
      have hd (h : m + s.inflight.length ≤ s.core.misses) : m + (dropCall c s.inflight).length + 1 ≤ s.core.misses :=
        by rw [Nat.add_assoc, dropCall_length hl]; exact h
      cases r with
      | ok v =>
        cases hf : find (Impl.eqv t) p s.core.store with
        | none =>
          simp only [seqOps, classify, cstep, hl, hf, Option.isSome_none, Bool.false_eq_true, if_false, final,
            Impl.step, call_bounded_miss (s := { s.core with misses := m }) hf, resume_bounded_miss hf]
          exact ⟨m + 1, rfl, fun _ h => Nat.add_right_comm .. ▸ hd h⟩
        | some e =>
          simp only [seqOps, classify, cstep, hl, hf, Option.isSome_some, if_true, final,
            resume_of_find_some (c := ⟨.bounded n, t⟩) hf]
          exact ⟨m, rfl, fun _ h => Nat.le_of_succ_le (hd h)⟩
      | fail e =>
        simp only [seqOps, classify, cstep, hl, final]
        exact ⟨m, rfl, fun _ h => Nat.le_of_succ_le (hd h)⟩
      | cancel =>
        simp only [seqOps, classify, cstep, hl, final]
        exact ⟨m, rfl, fun _ h => Nat.le_of_succ_le (hd h)⟩
  | clear => exact ⟨0, rfl, fun h => absurd rfl h⟩
  | discard p => exact ⟨m, rfl, fun _ h => h⟩
  | info => exact ⟨m, rfl, fun _ h => h⟩

theorem cstep_store (n : Nat) (t : Bool) (s : CSt) (op : COp) :
    (cstep ⟨.bounded n, t⟩ s op).1.core.store
      = (final (Impl.step ⟨.bounded n, t⟩) s.core (seqOps t s op)).store :=
  have ⟨_, h, _⟩ := cstep_sim_seqOps n t s s.core.misses op
  (congrArg St.store h).symm

theorem crun_sim_seqOps (n : Nat) (t : Bool) : ∀ (ops : List COp) (s : CSt) (m : Nat),
    ∃ m', final (Impl.step ⟨.bounded n, t⟩) { s.core with misses := m } (seqHistory ⟨.bounded n, t⟩ s ops)
        = { (crun ⟨.bounded n, t⟩ s ops).core with misses := m' } ∧
      ((∀ op ∈ ops, op ≠ .clear) → m + s.inflight.length ≤ s.core.misses →
        m' + (crun ⟨.bounded n, t⟩ s ops).inflight.length ≤ (crun ⟨.bounded n, t⟩ s ops).core.misses) := by
  intro ops
  induction ops with
  | nil => exact fun _ m => ⟨m, rfl, fun _ h => h⟩
  | cons op rest ih =>
    intro s m
    obtain ⟨m1, h1, hm1⟩ := cstep_sim_seqOps n t s m op
    obtain ⟨m2, h2, hm2⟩ := ih (cstep ⟨.bounded n, t⟩ s op).1 m1
    refine ⟨m2, ?_, fun hop h => ?_⟩
    · rw [seqHistory, final_append, h1]; exact h2
    · exact hm2 (fun o ho => hop o (List.mem_cons_of_mem _ ho)) (hm1 (hop op (List.mem_cons_self ..)) h)

theorem classify_op (t : Bool) (s : CSt) (op : COp) :
    match classify t s op with
    | .clear => op = .clear
    | .discard p => op = .discard p
    | _ => True := by
  cases op with
  | «begin» c q =>
    simp only [classify]
    by_cases a : (lookupCall c s.inflight).isSome = true
    · rw [if_pos a]; trivial
    · rw [if_neg a]
      by_cases b : (find (Impl.eqv t) q s.core.store).isSome = true
      · rw [if_pos b]; trivial
      · rw [if_neg b]; trivial
  | finish c r =>
    simp only [classify]
    cases lookupCall c s.inflight with
    | none => trivial
    | some p =>
      cases r with
      | ok v =>
        by_cases b : (find (Impl.eqv t) p s.core.store).isSome = true
        · simp only [if_pos b]
        · simp only [if_neg b]
      | fail e => trivial
      | cancel => trivial
  | clear => rfl
  | discard q => rfl
  | info => trivial

theorem seqHistory_shape (cfg : Cfg) : ∀ (ops : List COp) (s : CSt), ∀ o ∈ seqHistory cfg s ops,
    (∃ p v, o = Op.call p (.ok v)) ∨ (o = Op.clear ∧ COp.clear ∈ ops) ∨ (∃ p, o = Op.discard p ∧ COp.discard p ∈ ops) := by
  intro ops
  induction ops with
  | nil => nofun
  | cons op rest ih =>
    intro s o ho
    rcases List.mem_append.mp ho with h1 | h1
    · have hop := classify_op cfg.typed s op
      unfold seqOps at h1
      generalize classify cfg.typed s op = τ at hop h1
      cases τ with
      | hit p => exact .inl ⟨p, 0, List.mem_singleton.mp h1⟩
      | ins p v => exact .inl ⟨p, v, List.mem_singleton.mp h1⟩
      | clear => exact .inr (.inl ⟨List.mem_singleton.mp h1, List.mem_cons.mpr (.inl (Eq.symm hop))⟩)
      | discard p => exact .inr (.inr ⟨p, List.mem_singleton.mp h1, List.mem_cons.mpr (.inl (Eq.symm hop))⟩)
      | none => cases h1
    · rcases ih _ o h1 with h | ⟨h, hm⟩ | ⟨p, h, hm⟩
      · exact .inl h
      · exact .inr (.inl ⟨h, List.mem_cons_of_mem _ hm⟩)
      · exact .inr (.inr ⟨p, h, List.mem_cons_of_mem _ hm⟩)

theorem foldl_touch_nodup : ∀ (ks acc : List NKey), acc.Nodup → (ks.foldl touch acc).Nodup := by
  intro ks
  induction ks with
  | nil => exact fun _ h => h
  | cons k r ih => exact fun _ h => ih _ (touch_nodup h k)

theorem recency_nodup (log : List NKey) : (recency log).Nodup :=
  foldl_touch_nodup log [] List.nodup_nil

theorem recency_snoc (log : List NKey) (k : NKey) : recency (log ++ [k]) = touch (recency log) k := by
  simp only [recency, List.foldl_append, List.foldl_cons, List.foldl_nil]

theorem call_ok_sublist (n : Nat) (t : Bool) (s : St) (R : List NKey) (h : (keys t s.store).Sublist R)
    (p : Pattern) (v : Nat) :
    (keys t (Impl.call ⟨.bounded n, t⟩ s p (.ok v)).1.store).Sublist (touch R (keyOf t p)) := by
  rw [call_ok_keys]
  unfold touch
  split
  next => exact (h.erase _).append (List.Sublist.refl _)
  next hm =>
    have h1 := List.erase_of_not_mem hm ▸ h.erase (keyOf t p)
    refine List.Sublist.append ?_ (List.Sublist.refl _)
    split
    · exact h1
    · exact (List.drop_sublist 1 _).trans h1

theorem tstep_sublist (n : Nat) (t : Bool) (x : CSt × List NKey)
    (h : (keys t x.1.core.store).Sublist (recency x.2)) (op : COp) :
    (keys t (tstep ⟨.bounded n, t⟩ x op).1.core.store).Sublist (recency (tstep ⟨.bounded n, t⟩ x op).2) := by
  simp only [tstep]
  rw [cstep_store]
  unfold logStep seqOps
  cases classify t x.1 op with
  | hit p => rw [recency_snoc]; exact call_ok_sublist n t _ _ h p 0
  | ins p v => rw [recency_snoc]; exact call_ok_sublist n t _ _ h p v
  | clear => exact List.Sublist.refl _
  | discard p => exact keys_erase .. ▸ List.erase_sublist.trans h
  | none => exact h

theorem trun_sublist (n : Nat) (t : Bool) : ∀ (ops : List COp) (x : CSt × List NKey),
    (keys t x.1.core.store).Sublist (recency x.2) →
    (keys t (trun ⟨.bounded n, t⟩ x ops).1.core.store).Sublist (recency (trun ⟨.bounded n, t⟩ x ops).2) := by
  intro ops
  induction ops with
  | nil => exact fun _ h => h
  | cons op rest ih => exact fun x h => ih _ (tstep_sublist n t x h op)

theorem tstep_lastN (n : Nat) (hn : 1 ≤ n) (t : Bool) (x : CSt × List NKey)
    (h : keys t x.1.core.store = lastN n (recency x.2)) (op : COp) (hop : ∀ p, op ≠ .discard p) :
    keys t (tstep ⟨.bounded n, t⟩ x op).1.core.store = lastN n (recency (tstep ⟨.bounded n, t⟩ x op).2) := by
  have hd := classify_op t x.1 op
  simp only [tstep]
  rw [cstep_store]
  unfold logStep seqOps
  generalize classify t x.1 op = τ at hd
  cases τ with
  | hit p => rw [recency_snoc]; exact call_ok_lru n hn t _ _ (recency_nodup _) h p 0
  | ins p v => rw [recency_snoc]; exact call_ok_lru n hn t _ _ (recency_nodup _) h p v
  | clear => exact List.drop_nil.symm
  | discard p => exact absurd hd (hop p)
  | none => exact h

theorem trun_lastN (n : Nat) (hn : 1 ≤ n) (t : Bool) : ∀ (ops : List COp) (x : CSt × List NKey),
    keys t x.1.core.store = lastN n (recency x.2) → (∀ op ∈ ops, ∀ p, op ≠ .discard p) →
    keys t (trun ⟨.bounded n, t⟩ x ops).1.core.store = lastN n (recency (trun ⟨.bounded n, t⟩ x ops).2) := by
  intro ops
  induction ops with
  | nil => exact fun _ h _ => h
  | cons op rest ih =>
    exact fun x h hop => ih _ (tstep_lastN n hn t x h op (hop op (List.mem_cons_self ..)))
      fun o ho => hop o (List.mem_cons_of_mem _ ho)

theorem sublist_eq_filter {l R : List NKey} (h : l.Sublist R) (hR : R.Nodup) :
    R.filter (fun k => decide (k ∈ l)) = l := by
  induction h with
  | slnil => rfl
  | @cons l R' a hs ih =>
    have hR' := List.nodup_cons.mp hR
    have : a ∉ l := fun hm => hR'.1 (hs.subset hm)
    simp [this, ih hR'.2]
  | @cons_cons l R' a hs ih =>
    have hR' := List.nodup_cons.mp hR
    simp only [List.filter_cons, List.mem_cons, true_or, decide_true, if_true, List.cons.injEq, true_and]
    rw [← ih hR'.2]
    apply List.filter_congr
    intro x hx
    have : x ≠ a := fun hxa => hR'.1 (hxa ▸ hx)
    simp [this, ih hR'.2]

theorem idxOf_cons_ne' {a b : NKey} (l : List NKey) (h : a ≠ b) : (a :: l).idxOf b = l.idxOf b + 1 := by
  rw [List.idxOf_cons]
  have : (a == b) = false := by simpa using h
  rw [this]; rfl

theorem idxOf_lt_of_pair_sublist {a b : NKey} : ∀ {R : List NKey}, [a, b].Sublist R → R.Nodup →
    R.idxOf a < R.idxOf b := by
  intro R
  induction R with
  | nil => intro h; cases h
  | cons r R' ih =>
    intro h hR
    have hR' := List.nodup_cons.mp hR
    cases h with
    | cons _ h' =>
      have ha : a ∈ R' := h'.subset (by simp)
      have hb : b ∈ R' := h'.subset (by simp)
      have hra : r ≠ a := fun e => hR'.1 (e ▸ ha)
      have hrb : r ≠ b := fun e => hR'.1 (e ▸ hb)
      have := ih h' hR'.2
      rw [idxOf_cons_ne' _ hra, idxOf_cons_ne' _ hrb]
      omega
    | cons_cons _ h' =>
      have hb : b ∈ R' := h'.subset (by simp)
      have hrb : a ≠ b := fun e => hR'.1 (e ▸ hb)
      rw [List.idxOf_cons_self, idxOf_cons_ne' _ hrb]
      omega

end AsyncVerif.Lru
