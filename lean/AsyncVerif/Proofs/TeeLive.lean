import AsyncVerif.Proofs.Tee
/-!
Liveness of the `tee` machine under fair (round-robin) schedules — helper lemmas for
`Properties/C09Live.lean`.

* `round n` = one `send` on every consumer `0 … n-1`, `roundRobin n k` = `k` such rounds (the "drain"
  of the harness).
* `St.measure` — a natural number that bounds the work that is left: the suspensions the source's
  script still holds, plus, for every child whose consumer is still running, twice the number of items
  it may still have to yield (its buffer and what the source still holds) plus a small rank of its
  program counter.
* every `send` leaves the measure unchanged or makes it smaller (`sched_measure_le`); a `send` on a
  running consumer that is not waiting for a held lock makes it strictly smaller
  (`sched_measure_lt`); a `send` that does not make it smaller does not change the state at all
  (`step_sched_id_or_lt`).
* in a state that satisfies the invariant `Inv` a held lock has a holder that is inside the source and
  whose consumer is running, so a round over all children contains a strictly decreasing `send`
  whenever a consumer is still running (`Inv.round_lt`); as many rounds as the measure says leave no
  consumer running (`Inv.drain`).
* `aclose()`, cancellation and `Tee.aclose()` do not make the measure larger either
  (`step_measure_le`), so in every reachable state it is at most `drainBound items n susp`, the
  measure of the fresh tee (`reach_measure_le`).
* `Running s j`: child `j` was not closed and its consumer is running, or it has ended by itself —
  kept by every operation except `close j`, `cancel j`, `closeAll` (`Running.runOps_ok`);
  and only a cancellation sets `srcKilled` (`killed_runOps` of `Proofs/Tee.lean`).
-/
namespace AsyncVerif.Tee

/-! ## Fair schedules -/

/-- one `send` on every consumer, in order -/
def round (n : Nat) : List Op := (List.range n).map Op.sched

/-- `k` rounds over all `n` consumers -/
def roundRobin (n : Nat) : Nat → List Op
  | 0 => []
  | k + 1 => round n ++ roundRobin n k

/-! ## The measure -/

/-- how far a `tee_peer` generator is from its next `yield`, in `send`s (without the source's
    suspensions that have not started yet).  `done` has rank 1, not 0: the `send` that turns the
    running consumer of a closed child to `stopped` must decrease the measure too. -/
def Pc.rank : Pc → Nat
  | .unstarted => 2
  | .atYield => 2
  | .acquiring => 1
  | .fetching k => k + 1
  | .done => 1

/-- work left for a child whose consumer is still running, if the source still holds `L` items -/
def Child.weight (L : Nat) (c : Child) : Nat :=
  if c.task = .active then 2 * ((c.buf.getD []).length + L) + c.pc.rank else 0

def kidsWeight (L : Nat) (kids : List Child) : Nat := (kids.map (Child.weight L)).sum

/-- suspensions of the pulls that have not started yet + work left for every running consumer -/
def St.measure (s : St) : Nat :=
  (s.suspPat.drop s.pulls).sum + kidsWeight s.src.length s.kids

theorem rank_pos (p : Pc) : 1 ≤ p.rank := by cases p <;> simp [Pc.rank]
@[simp] theorem rank_unstarted : Pc.rank .unstarted = 2 := rfl
@[simp] theorem rank_atYield : Pc.rank .atYield = 2 := rfl
@[simp] theorem rank_acquiring : Pc.rank .acquiring = 1 := rfl
@[simp] theorem rank_fetching (k : Nat) : Pc.rank (.fetching k) = k + 1 := rfl
@[simp] theorem rank_done : Pc.rank .done = 1 := rfl

theorem kidsWeight_set (L : Nat) (kids : List Child) (i : Nat) (c : Child) (hi : i < kids.length) :
    kidsWeight L (kids.set i c) + (kids[i]).weight L = kidsWeight L kids + c.weight L := by
  induction kids generalizing i with
  | nil => simp at hi
  | cons a r ih =>
    cases i with
    | zero => simp [kidsWeight]; omega
    | succ i =>
      have := ih i (by simpa using hi)
      simp only [kidsWeight, List.set_cons_succ, List.map_cons, List.sum_cons,
        List.getElem_cons_succ] at this ⊢
      omega

theorem kidsWeight_map_le (L L' : Nat) (f : Child → Child) (kids : List Child)
    (h : ∀ c, (f c).weight L ≤ c.weight L') : kidsWeight L (kids.map f) ≤ kidsWeight L' kids := by
  induction kids with
  | nil => simp [kidsWeight]
  | cons a r ih =>
    have := h a
    simp only [kidsWeight, List.map_cons, List.sum_cons] at ih ⊢
    omega

theorem weight_le_kidsWeight (L : Nat) (kids : List Child) (i : Nat) (hi : i < kids.length) :
    (kids[i]).weight L ≤ kidsWeight L kids := by
  induction kids generalizing i with
  | nil => simp at hi
  | cons a r ih =>
    cases i with
    | zero => simp [kidsWeight]
    | succ i =>
      have := ih i (by simpa using hi)
      simp only [kidsWeight, List.map_cons, List.sum_cons, List.getElem_cons_succ] at this ⊢
      omega

theorem measure_congr {s s' : St} (h1 : s'.suspPat = s.suspPat) (h2 : s'.pulls = s.pulls)
    (h3 : s'.src = s.src) (h4 : s'.kids = s.kids) : s'.measure = s.measure := by
  simp [St.measure, h1, h2, h3, h4]

theorem measure_setKid (s : St) (i : Nat) (c : Child) (hi : i < s.kids.length) :
    (s.setKid i c).measure + (s.kid i).weight s.src.length = s.measure + c.weight s.src.length := by
  have := kidsWeight_set s.src.length s.kids i c hi
  rw [kid_eq_getElem s i hi]
  simp only [St.measure, St.setKid]
  omega

@[simp] theorem measure_release (s : St) (i : Nat) : (release s i).measure = s.measure := by
  unfold release; split <;> rfl

theorem measure_finishKid (s : St) (i : Nat) (t : Task) (hi : i < s.kids.length) :
    (finishKid s i t).measure + (s.kid i).weight s.src.length
      = s.measure + ((s.kid i).finished t).weight s.src.length := by
  have : (finishKid s i t).measure = (s.setKid i ((s.kid i).finished t)).measure := by
    unfold finishKid; simp only []; split <;> rfl
  rw [this]; exact measure_setKid s i _ hi

theorem weight_active (L : Nat) (c : Child) (h : c.task = .active) :
    c.weight L = 2 * ((c.buf.getD []).length + L) + c.pc.rank := by
  simp [Child.weight, h]

theorem weight_inactive (L : Nat) (c : Child) (h : c.task ≠ .active) : c.weight L = 0 := by
  simp [Child.weight, h]

/-- a running consumer's child is replaced by another running one -/
theorem measure_setKid_active (s : St) (i : Nat) (c : Child) (hi : i < s.kids.length)
    (ha : (s.kid i).task = .active) (hc : c.task = .active) :
    (s.setKid i c).measure + 2 * ((s.kid i).buf.getD []).length + (s.kid i).pc.rank
      = s.measure + 2 * (c.buf.getD []).length + c.pc.rank := by
  have := measure_setKid s i c hi
  rw [weight_active _ _ ha, weight_active _ _ hc] at this
  omega

/-- a running consumer's child is replaced by one whose consumer does not run any more -/
theorem measure_setKid_inactive (s : St) (i : Nat) (c : Child) (hi : i < s.kids.length)
    (ha : (s.kid i).task = .active) (hc : c.task ≠ .active) :
    (s.setKid i c).measure + 2 * (((s.kid i).buf.getD []).length + s.src.length) + (s.kid i).pc.rank
      = s.measure := by
  have := measure_setKid s i c hi
  rw [weight_active _ _ ha, weight_inactive _ _ hc] at this
  omega

theorem measure_finishKid_inactive (s : St) (i : Nat) (t : Task) (hi : i < s.kids.length)
    (ha : (s.kid i).task = .active) (ht : t ≠ .active) :
    (finishKid s i t).measure + 2 * (((s.kid i).buf.getD []).length + s.src.length) + (s.kid i).pc.rank
      = s.measure := by
  have := measure_finishKid s i t hi
  rw [weight_active _ _ ha, weight_inactive _ _ (by simpa [Child.finished] using ht)] at this
  omega

/-- a running consumer contributes at least one -/
theorem measure_pos_of_active (s : St) (j : Nat) (hj : j < s.kids.length)
    (ha : (s.kid j).task = .active) : 1 ≤ s.measure := by
  have h1 := weight_le_kidsWeight s.src.length s.kids j hj
  rw [← kid_eq_getElem s j hj, weight_active _ _ ha] at h1
  have h2 := rank_pos (s.kid j).pc
  simp only [St.measure]
  omega

/-! ## One `send` -/

theorem popYield_measure (s : St) (i : Nat) (hi : i < s.kids.length)
    (ha : (s.kid i).task = .active) :
    (popYield s i).1.measure + (s.kid i).pc.rank ≤ s.measure := by
  unfold popYield
  split
  · rename_i v r hb
    have := measure_setKid_active s i
      { (s.kid i) with pc := .atYield, buf := some r, out := (s.kid i).out ++ [v] } hi ha ha
    simp only [hb, rank_atYield, Option.getD_some, List.length_cons] at this ⊢
    omega
  · have := measure_finishKid_inactive s i .failed hi ha (by simp)
    dsimp only
    omega

theorem weight_broadcast_le (L : Nat) (v : Val) (c : Child) :
    ({ c with buf := c.buf.map (· ++ [v]) } : Child).weight L ≤ c.weight (L + 1) := by
  simp only [Child.weight]
  split
  · cases c.buf <;> simp <;> omega
  · exact Nat.le_refl _

theorem measure_fetch_le (s : St) (v : Val) (r : List Val) (hs : s.src = v :: r) :
    (broadcast { s with src := r, fetched := s.fetched ++ [v] } v).measure ≤ s.measure := by
  have := kidsWeight_map_le r.length (r.length + 1)
    (fun c => { c with buf := c.buf.map (· ++ [v]) }) s.kids (weight_broadcast_le r.length v)
  simp only [St.measure, broadcast, hs, List.length_cons]
  omega

theorem completeFetch_measure (s : St) (i : Nat) (hi : i < s.kids.length)
    (ha : (s.kid i).task = .active) :
    (completeFetch s i).1.measure + (s.kid i).pc.rank ≤ s.measure := by
  unfold completeFetch
  split
  · have := measure_finishKid_inactive (release s i) i .ended (by simpa using hi)
      (by rw [release_kid]; exact ha) (by simp)
    rw [release_kid, release_src, measure_release] at this
    dsimp only
    omega
  · split
    · have := measure_finishKid_inactive (release { s with srcEnded := true } i) i .ended
        (by simpa using hi) (by rw [release_kid]; exact ha) (by simp)
      rw [release_kid, release_src, measure_release] at this
      have hk : ({ s with srcEnded := true } : St).kid i = s.kid i := rfl
      have hm : ({ s with srcEnded := true } : St).measure = s.measure := rfl
      have hsrc : ({ s with srcEnded := true } : St).src = s.src := rfl
      rw [hk, hm, hsrc] at this
      dsimp only
      omega
    · rename_i v r hs
      have h1 := measure_fetch_le s v r hs
      have hlen : (release (broadcast { s with src := r, fetched := s.fetched ++ [v] } v) i).kids.length
          = s.kids.length := by simp
      have hkid : (release (broadcast { s with src := r, fetched := s.fetched ++ [v] } v) i).kid i
          = { s.kid i with buf := (s.kid i).buf.map (· ++ [v]) } := by
        rw [release_kid, kid_broadcast _ _ _ (by simpa using hi)]; rfl
      have h2 := popYield_measure
        (release (broadcast { s with src := r, fetched := s.fetched ++ [v] } v) i) i
        (by rw [hlen]; exact hi) (by rw [hkid]; exact ha)
      rw [hkid, measure_release] at h2
      simp only [] at h2
      omega

theorem sum_drop_getD (l : List Nat) (n : Nat) :
    (l.drop n).sum = l.getD n 0 + (l.drop (n + 1)).sum := by
  induction l generalizing n with
  | nil => simp
  | cons a r ih =>
    cases n with
    | zero => simp
    | succ n => simpa using ih n

/-- the pull counter advances: the suspensions of the pull that starts leave the script's budget -/
theorem measure_pull (s s' : St) (hk : s'.kids = s.kids) (hs : s'.src = s.src)
    (hp : s'.suspPat = s.suspPat) (hpl : s'.pulls = s.pulls + 1) :
    s'.measure + s.suspPat.getD s.pulls 0 = s.measure := by
  have hd := sum_drop_getD s.suspPat s.pulls
  simp only [St.measure, hk, hs, hp, hpl]
  omega

theorem completeFetch_measure_of_le (s s' : St) (i : Nat) (hi : i < s.kids.length)
    (ha : (s.kid i).task = .active) (hk : s'.kids = s.kids) (hm : s'.measure ≤ s.measure) :
    (completeFetch s' i).1.measure + (s.kid i).pc.rank ≤ s.measure := by
  have hkid : s'.kid i = s.kid i := by simp [St.kid, hk]
  have := completeFetch_measure s' i (by rw [hk]; exact hi) (by rw [hkid]; exact ha)
  rw [hkid] at this
  omega

theorem suspend_measure (s s' : St) (i k : Nat) (hi : i < s.kids.length)
    (ha : (s.kid i).task = .active) (hk : s'.kids = s.kids) (hs : s'.src = s.src)
    (hp : s'.suspPat = s.suspPat) (hpl : s'.pulls = s.pulls + 1)
    (hg : s.suspPat.getD s.pulls 0 = k + 1) :
    (s'.setKid i { (s'.kid i) with pc := .fetching k }).measure + (s.kid i).pc.rank ≤ s.measure := by
  have hkid : s'.kid i = s.kid i := by simp [St.kid, hk]
  have h1 := measure_setKid_active s' i { (s'.kid i) with pc := .fetching k } (by rw [hk]; exact hi)
    (by rw [hkid]; exact ha) (by rw [hkid]; exact ha)
  have h2 := measure_pull s s' hk hs hp hpl
  simp only [hkid, rank_fetching] at h1 ⊢
  omega

theorem startFetch_measure (s : St) (i : Nat) (hi : i < s.kids.length)
    (ha : (s.kid i).task = .active) :
    (startFetch s i).1.measure + (s.kid i).pc.rank ≤ s.measure := by
  unfold startFetch
  simp only []
  split
  · exact completeFetch_measure_of_le s _ i hi ha rfl (Nat.le_of_eq rfl)
  · split
    · refine completeFetch_measure_of_le s _ i hi ha rfl ?_
      exact Nat.le.intro (measure_pull s _ rfl rfl rfl rfl)
    · rename_i k hk
      exact suspend_measure s _ i k hi ha rfl rfl rfl rfl hk

theorem enterCritical_measure (s : St) (i : Nat) (hi : i < s.kids.length)
    (ha : (s.kid i).task = .active) :
    (enterCritical s i).1.measure + (s.kid i).pc.rank ≤ s.measure := by
  unfold enterCritical
  simp only []
  have hk : (if s.withLock = true then { s with holder := some i } else s).kids = s.kids := by
    split <;> rfl
  have hkid : (if s.withLock = true then { s with holder := some i } else s).kid i = s.kid i := by
    simp [St.kid, hk]
  have hm : (if s.withLock = true then { s with holder := some i } else s).measure = s.measure := by
    split <;> rfl
  rw [hkid]
  split
  · have := popYield_measure (release (if s.withLock = true then { s with holder := some i } else s) i) i
      (by simpa [hk] using hi) (by rw [release_kid, hkid]; exact ha)
    rw [release_kid, hkid, measure_release, hm] at this
    exact this
  · have := startFetch_measure (if s.withLock = true then { s with holder := some i } else s) i
      (by simpa [hk] using hi) (by rw [hkid]; exact ha)
    rw [hkid, hm] at this
    exact this

/-- `+ 1`: a child that goes to wait for the lock keeps rank 1 (`acquiring`); `loopTop` is entered
    only at rank 2 (`unstarted`, `atYield`), so the `send` still decreases the measure. -/
theorem loopTop_measure (s : St) (i : Nat) (hi : i < s.kids.length)
    (ha : (s.kid i).task = .active) :
    (loopTop s i).1.measure + (s.kid i).pc.rank ≤ s.measure + 1 := by
  unfold loopTop
  split
  · have := popYield_measure s i hi ha; omega
  · split
    · have := measure_setKid_active s i { (s.kid i) with pc := .acquiring } hi ha ha
      simp only [rank_acquiring] at this ⊢
      omega
    · have := enterCritical_measure s i hi ha; omega

/-- the only `send`s that change nothing: the consumer is not running any more, or its child waits
    for a lock that is held -/
def Blocked (s : St) (i : Nat) : Prop :=
  (s.kid i).task ≠ .active ∨ ((s.kid i).pc = .acquiring ∧ s.holder.isSome = true)

theorem sched_blocked (s : St) (i : Nat) (h : Blocked s i) : (sched s i).1 = s := by
  unfold sched
  rcases h with h | ⟨h1, h2⟩
  · split
    · rename_i ha; exact absurd ha h
    · rfl
  · split
    · simp [h1, h2]
    · rfl

theorem sched_measure_lt (s : St) (i : Nat) (hi : i < s.kids.length) (h : ¬ Blocked s i) :
    (sched s i).1.measure < s.measure := by
  have ha : (s.kid i).task = .active := by
    cases ht : (s.kid i).task with
    | active => rfl
    | _ => exact absurd (Or.inl (by simp [ht])) h
  have hr := rank_pos (s.kid i).pc
  unfold sched
  split
  · split
    · have := measure_setKid_inactive s i { (s.kid i) with task := .stopped } hi ha (by simp)
      dsimp only at this ⊢
      omega
    · rename_i hp
      have := loopTop_measure s i hi ha
      simp only [hp, rank_unstarted] at this
      omega
    · rename_i hp
      have := loopTop_measure s i hi ha
      simp only [hp, rank_atYield] at this
      omega
    · rename_i hp
      split
      · rename_i hh; exact absurd (Or.inr ⟨hp, hh⟩) h
      · have := enterCritical_measure s i hi ha
        omega
    · have := completeFetch_measure s i hi ha
      omega
    · rename_i k hp
      have := measure_setKid_active s i { (s.kid i) with pc := .fetching k } hi ha ha
      simp only [hp, rank_fetching] at this ⊢
      omega
  · rename_i hna; exact absurd ha (by simpa using hna)

theorem step_sched_id_or_lt (s : St) (i : Nat) :
    (step s (.sched i)).1 = s ∨ (step s (.sched i)).1.measure < s.measure := by
  simp only [step]
  split
  · rename_i hi
    by_cases hb : Blocked s i
    · exact Or.inl (sched_blocked s i hb)
    · exact Or.inr (sched_measure_lt s i hi hb)
  · exact Or.inl rfl

theorem step_sched_measure_le (s : St) (i : Nat) : (step s (.sched i)).1.measure ≤ s.measure := by
  rcases step_sched_id_or_lt s i with h | h
  · rw [h]; exact Nat.le_refl _
  · exact Nat.le_of_lt h

theorem sched_measure_le (s : St) (i : Nat) (hi : i < s.kids.length) :
    (sched s i).1.measure ≤ s.measure := by
  have := step_sched_measure_le s i
  simpa [step, hi] using this

theorem runSched_measure_le (s : St) (l : List Nat) :
    (runOps s (l.map Op.sched)).measure ≤ s.measure := by
  induction l generalizing s with
  | nil => exact Nat.le_refl _
  | cons i rest ih =>
    exact Nat.le_trans (ih _) (step_sched_measure_le s i)

/-- a sequence of `send`s makes the measure smaller, or none of them changes the state -/
theorem runSched_lt_or_id (s : St) (l : List Nat) :
    (runOps s (l.map Op.sched)).measure < s.measure ∨ ∀ i ∈ l, (step s (.sched i)).1 = s := by
  induction l generalizing s with
  | nil => right; intro i hi; simp at hi
  | cons i rest ih =>
    rcases step_sched_id_or_lt s i with h | h
    · rcases ih s with h' | h'
      · left
        show (runOps (step s (.sched i)).1 (rest.map Op.sched)).measure < s.measure
        rw [h]; exact h'
      · right
        intro j hj
        rcases List.mem_cons.1 hj with e | e
        · rw [e]; exact h
        · exact h' j e
    · left
      exact Nat.lt_of_le_of_lt (runSched_measure_le _ rest) h

/-! ## One round -/

/-- **Progress.** In a state that satisfies the invariant, if some consumer is still running then a
    round over all children makes the measure strictly smaller: the running consumer moves, or it
    waits for the lock, whose holder is inside the source with a running consumer and moves. -/
theorem Inv.round_lt {s : St} (h : Inv s) (j : Nat) (hj : j < s.kids.length)
    (ha : (s.kid j).task = .active) :
    (runOps s (round s.kids.length)).measure < s.measure := by
  rcases runSched_lt_or_id s (List.range s.kids.length) with hlt | hid
  · exact hlt
  · exfalso
    have moves : ∀ i, i < s.kids.length → ¬ Blocked s i → False := by
      intro i hi hb
      have h1 := hid i (by simpa using hi)
      have h2 := sched_measure_lt s i hi hb
      simp only [step, hi, if_true] at h1
      rw [h1] at h2
      exact Nat.lt_irrefl _ h2
    by_cases hb : Blocked s j
    · rcases hb with hb | ⟨_, hh⟩
      · exact hb ha
      · cases hx : s.holder with
        | none => simp [hx] at hh
        | some x =>
          have hl := h.holder_lt x hx
          have hact := h.inside x hl.1 (Or.inl hl.2.2)
          refine moves x hl.1 ?_
          rintro (hb | ⟨hb, _⟩)
          · exact hb hact
          · have := hl.2.2; rw [hb] at this; simp [isFetching] at this
    · exact moves j hj hb

theorem runOps_round_length (s : St) (n : Nat) : (runOps s (round n)).kids.length = s.kids.length :=
  length_runOps s _

/-- when no consumer is running any more, `send`s do nothing -/
theorem runSched_id_of_finished (s : St) (hf : ∀ j, j < s.kids.length → (s.kid j).task ≠ .active)
    (ops : List Op) (hops : ∀ op ∈ ops, ∃ i, op = .sched i) : runOps s ops = s := by
  induction ops with
  | nil => rfl
  | cons op rest ih =>
    obtain ⟨i, rfl⟩ := hops _ (List.mem_cons_self ..)
    have : (step s (.sched i)).1 = s := by
      simp only [step]
      split
      · rename_i hi; exact sched_blocked s i (Or.inl (hf i hi))
      · rfl
    show runOps (step s (.sched i)).1 rest = s
    rw [this]
    exact ih (fun op h => hops op (List.mem_cons_of_mem _ h))

theorem round_sched (n : Nat) : ∀ op ∈ round n, ∃ i, op = .sched i := by
  intro op h
  simp only [round, List.mem_map] at h
  obtain ⟨i, _, e⟩ := h
  exact ⟨i, e.symm⟩

theorem roundRobin_sched (n k : Nat) : ∀ op ∈ roundRobin n k, ∃ i, op = .sched i := by
  induction k with
  | zero => intro op h; simp [roundRobin] at h
  | succ k ih =>
    intro op h
    simp only [roundRobin, List.mem_append] at h
    rcases h with h | h
    · exact round_sched n op h
    · exact ih op h

/-- **Fair drain.** From a state that satisfies the invariant, as many rounds as the measure says
    (or more) leave no consumer running. -/
theorem Inv.drain {s : St} (h : Inv s) (n : Nat) (hn : s.kids.length = n) (B : Nat)
    (hB : s.measure ≤ B) :
    ∀ j, j < n → ((runOps s (roundRobin n B)).kid j).task ≠ .active := by
  induction B generalizing s with
  | zero =>
    intro j hj ha
    simp only [roundRobin, runOps] at ha
    have := measure_pos_of_active s j (by rw [hn]; exact hj) ha
    omega
  | succ B ih =>
    by_cases hex : ∃ j, j < s.kids.length ∧ (s.kid j).task = .active
    · obtain ⟨j, hj, ha⟩ := hex
      have hlt := h.round_lt j hj ha
      rw [hn] at hlt
      simp only [roundRobin, runOps_append]
      exact ih (h.runOps_inv _) (by rw [length_runOps]; exact hn) (by omega)
    · have hf : ∀ j, j < s.kids.length → (s.kid j).task ≠ .active :=
        fun j hj ha => hex ⟨j, hj, ha⟩
      rw [runSched_id_of_finished s hf _ (roundRobin_sched n (B + 1))]
      intro j hj
      exact hf j (by rw [hn]; exact hj)

/-! ## No operation adds work: a bound from the configuration alone -/

theorem measure_setKid_le (s : St) (i : Nat) (c : Child) (hi : i < s.kids.length)
    (hw : c.weight s.src.length ≤ (s.kid i).weight s.src.length) :
    (s.setKid i c).measure ≤ s.measure := by
  have := measure_setKid s i c hi
  omega

theorem measure_finishKid_le (s : St) (i : Nat) (t : Task) (hi : i < s.kids.length)
    (hw : ((s.kid i).finished t).weight s.src.length ≤ (s.kid i).weight s.src.length) :
    (finishKid s i t).measure ≤ s.measure := by
  have := measure_finishKid s i t hi
  omega

theorem closeKid_measure_le (s : St) (i : Nat) (hi : i < s.kids.length) :
    (closeKid s i).1.measure ≤ s.measure := by
  unfold closeKid
  split
  · rename_i hp
    refine measure_setKid_le s i _ hi ?_
    simp only [Child.weight, hp, rank_done, rank_unstarted]
    split <;> omega
  · rename_i hp
    refine measure_finishKid_le s i _ hi ?_
    have hr := rank_pos (s.kid i).pc
    by_cases ha : (s.kid i).task = .active
    · simp [Child.weight, Child.finished, ha]; omega
    · simp [Child.weight, Child.finished, ha]
  · exact Nat.le_refl _
  · exact Nat.le_refl _

theorem cancel_measure_le (s : St) (i : Nat) (hi : i < s.kids.length) :
    (cancel s i).1.measure ≤ s.measure := by
  unfold cancel
  split
  · split
    · exact measure_finishKid_le s i _ hi (by simp [Child.weight, Child.finished])
    · dsimp only
      have hk : (if s.diesOnCancel = true then { s with srcKilled := true } else s).kids = s.kids := by
        split <;> rfl
      have hm : (if s.diesOnCancel = true then { s with srcKilled := true } else s).measure
          = s.measure := by split <;> rfl
      have := measure_finishKid_le (release (if s.diesOnCancel = true then { s with srcKilled := true } else s) i)
        i .cancelled (by simpa [hk] using hi) (by simp [Child.weight, Child.finished])
      rw [measure_release, hm] at this
      exact this
    · exact measure_setKid_le s i _ hi (by simp [Child.weight])
  · exact Nat.le_refl _

theorem closeFrom_measure_le (s : St) (l : List Nat) (hl : ∀ i ∈ l, i < s.kids.length) :
    (closeFrom s l).1.measure ≤ s.measure := by
  induction l generalizing s with
  | nil => exact Nat.le_refl _
  | cons i rest ih =>
    have hi : i < s.kids.length := hl i (by simp)
    have h1 := closeKid_measure_le s i hi
    rw [closeFrom_cons]
    split
    · exact h1
    · refine Nat.le_trans (ih _ ?_) h1
      intro k hk; rw [closeKid_length]; exact hl k (by simp [hk])

theorem clearBuffers_measure_le (s : St) : (clearBuffers s).measure ≤ s.measure := by
  rw [clearBuffers_eq]
  exact Nat.add_le_add_left (kidsWeight_map_le _ _ _ s.kids fun c => by
    simp only [Child.weight]; split <;> simp <;> omega) _

theorem closeAll_measure_le (s : St) : (closeAll s).1.measure ≤ s.measure := by
  have h1 := closeFrom_measure_le s _ (range_lt s)
  by_cases hb : (closeFrom s (List.range s.kids.length)).2 = .busy
  · rw [closeAll_busy s hb]; exact h1
  · rw [closeAll_not_busy s hb]; exact Nat.le_trans (clearBuffers_measure_le _) h1

/-- no operation — `send`, `aclose()`, cancellation, `Tee.aclose()` — adds work -/
theorem step_measure_le (s : St) (op : Op) : (step s op).1.measure ≤ s.measure := by
  cases op with
  | sched i => exact step_sched_measure_le s i
  | close i => simp only [step]; split; exact closeKid_measure_le s i ‹_›; exact Nat.le_refl _
  | cancel i => simp only [step]; split; exact cancel_measure_le s i ‹_›; exact Nat.le_refl _
  | closeAll => exact closeAll_measure_le s

theorem runOps_measure_le (s : St) (ops : List Op) : (runOps s ops).measure ≤ s.measure := by
  induction ops generalizing s with
  | nil => exact Nat.le_refl _
  | cons op rest ih => exact Nat.le_trans (ih _) (step_measure_le s op)

/-- the measure of a fresh tee: every suspension of the script, and for each of the `n` children
    two `send`s per item plus two -/
def drainBound (items : List Val) (n : Nat) (susp : List Nat) : Nat :=
  susp.sum + n * (2 * items.length + 2)

theorem kidsWeight_replicate (L n : Nat) (c : Child) :
    kidsWeight L (List.replicate n c) = n * c.weight L := by
  induction n with
  | zero => simp [kidsWeight]
  | succ n ih =>
    simp only [kidsWeight, List.replicate_succ, List.map_cons, List.sum_cons] at ih ⊢
    rw [ih, Nat.succ_mul]; omega

theorem measure_init (items : List Val) (n : Nat) (susp : List Nat) (lock closeable dies : Bool) :
    (init items n susp lock closeable dies).measure = drainBound items n susp := by
  simp [St.measure, init, kidsWeight_replicate, drainBound, Child.weight]

theorem reach_measure_le (items n susp lock closeable dies ops) :
    (reach items n susp lock closeable dies ops).measure ≤ drainBound items n susp := by
  rw [← measure_init items n susp lock closeable dies]
  exact runOps_measure_le _ ops

/-! ## A child that is never closed and whose consumer is never cancelled -/

/-- the consumer of child `j` is running and the child has not been closed, or the child has
    reported the end of the source by itself -/
def Running (s : St) (j : Nat) : Prop :=
  ((s.kid j).task = .active ∧ (s.kid j).pc ≠ .done) ∨ (s.kid j).task = .ended

/-- a `send` on a running consumer of a child that was not closed fails on an empty deque, ends the
    child by itself, or leaves consumer and child running -/
theorem sched_good (s : St) (i : Nat) (hi : i < s.kids.length)
    (ha : (s.kid i).task = .active) (hl : (s.kid i).pc ≠ .done) :
    (sched s i).2 = .error ∨ ((sched s i).1.kid i).task = .ended ∨
      (((sched s i).1.kid i).task = .active ∧ ((sched s i).1.kid i).pc ≠ .done) := by
  have hs := sched_sent s i hi
  generalize (sched s i).1.kid i = c', (sched s i).2 = o at hs
  cases hs with
  | noop h => exact absurd ha h
  | blocked => exact .inr (.inr ⟨ha, hl⟩)
  | stopped h => exact absurd h hl
  | ended => exact .inr (.inl rfl)
  | failed => exact .inl rfl
  | _ => exact .inr (.inr ⟨ha, nofun⟩)

/-- an operation other than `aclose()` of child `j`, a cancellation of consumer `j` and
    `Tee.aclose()` keeps child `j` running (or finished by itself) -/
theorem Running.step_ok {s : St} {j : Nat} (h : Running s j) (hinv : Inv s) (hj : j < s.kids.length)
    (op : Op) (h1 : op ≠ .close j) (h2 : op ≠ .cancel j) (h3 : op ≠ .closeAll) :
    Running (step s op).1 j := by
  cases op with
  | sched i =>
    simp only [step]
    split
    · rename_i hi
      by_cases hji : j = i
      · subst hji
        rcases h with ⟨ha, hl⟩ | he
        · rcases sched_good s j hj ha hl with e | e | e
          · exact absurd e (hinv.sched_noerr j hj)
          · exact Or.inr e
          · exact Or.inl e
        · right
          have : (sched s j).1 = s := sched_blocked s j (Or.inl (by simp [he]))
          rw [this]; exact he
      · have := (sched_eff s i hi).others j hj hji
        unfold Running
        rw [this.1, this.2.1]; exact h
    · exact h
  | close i =>
    simp only [step]
    split
    · rename_i hi
      have hji : j ≠ i := fun e => h1 (by rw [e])
      have := (closeKid_frame s i j hi hji).1
      unfold Running; rw [this]; exact h
    · exact h
  | cancel i =>
    simp only [step]
    split
    · rename_i hi
      have hji : j ≠ i := fun e => h2 (by rw [e])
      have := (cancel_frame s i j hi hji).1
      unfold Running; rw [this]; exact h
    · exact h
  | closeAll => exact absurd rfl h3

theorem Running.runOps_ok {s : St} {j : Nat} (h : Running s j) (hinv : Inv s) (hj : j < s.kids.length)
    (ops : List Op) (h1 : Op.close j ∉ ops) (h2 : Op.cancel j ∉ ops) (h3 : Op.closeAll ∉ ops) :
    Running (runOps s ops) j := by
  induction ops generalizing s with
  | nil => exact h
  | cons op rest ih =>
    refine ih (h.step_ok hinv hj op ?_ ?_ ?_) (hinv.step_inv op) (by rw [length_step]; exact hj)
      ?_ ?_ ?_
    · intro e; exact h1 (by rw [e]; exact List.mem_cons_self ..)
    · intro e; exact h2 (by rw [e]; exact List.mem_cons_self ..)
    · intro e; exact h3 (by rw [e]; exact List.mem_cons_self ..)
    · intro e; exact h1 (List.mem_cons_of_mem _ e)
    · intro e; exact h2 (List.mem_cons_of_mem _ e)
    · intro e; exact h3 (List.mem_cons_of_mem _ e)

theorem init_running (items : List Val) (n : Nat) (susp : List Nat) (lock closeable dies : Bool)
    (j : Nat) : Running (init items n susp lock closeable dies) j := by
  left; rw [kid_init]; simp

end AsyncVerif.Tee
