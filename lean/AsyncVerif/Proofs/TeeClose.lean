import AsyncVerif.Machines.TeeClose
import AsyncVerif.Proofs.Tee
/-!
Helper lemmas for `Tee.aclose()` with a source whose `aclose()` may fail (`Machines/TeeClose.lean`).
Property theorems live in `Properties/C20TeeClose.lean`.
-/
namespace AsyncVerif.TeeClose
open AsyncVerif.Tee

/-! ## The invariant of the tee machine does not read `closeable` -/

/-- the same state with another answer to `hasattr(iterator, "aclose")` -/
def setCl (s : St) (b : Bool) : St := { s with closeable := b }

@[simp] theorem setCl_kids (s : St) (b) : (setCl s b).kids = s.kids := rfl
@[simp] theorem setCl_kid (s : St) (b j) : (setCl s b).kid j = s.kid j := rfl
@[simp] theorem setCl_closeable (s : St) (b) : (setCl s b).closeable = b := rfl
@[simp] theorem setCl_srcCloses (s : St) (b) : (setCl s b).srcCloses = s.srcCloses := rfl
theorem setCl_self (s : St) : setCl s s.closeable = s := rfl
@[simp] theorem setCl_setCl (s : St) (a b) : setCl (setCl s a) b = setCl s b := rfl

theorem inv_setCl {s : St} (h : Inv s) (b : Bool) : Inv (setCl s b) :=
  { h with d := { h.d with } }

/-! ## The failing-source functions are the ones of `Machines/Tee.lean` in a world whose source can
be closed iff `canClose` -/

theorem finishKidF_fst (s : St) (i : Nat) (t : Task) (sc : SrcClose) :
    (finishKidF s i t sc).1 = setCl (finishKid (setCl s (canClose s sc)) i t) s.closeable := by
  unfold finishKidF finishKid
  simp only []
  split
  · rename_i h; rw [if_pos (by exact h)]; rfl
  · rename_i h; rw [if_neg (by exact h)]; rfl

/-- the error is raised iff this `finally:` block called the source's `aclose()` and that raises -/
theorem finishKidF_snd (s : St) (i : Nat) (t : Task) (sc : SrcClose) :
    (finishKidF s i t sc).2 =
      (decide (sc = .raises) && decide (s.srcCloses < (finishKidF s i t sc).1.srcCloses)) := by
  unfold finishKidF; simp only []; split <;> simp

theorem closeKidF_fst (s : St) (i : Nat) (sc : SrcClose) :
    (closeKidF s i sc).1 = setCl (closeKid (setCl s (canClose s sc)) i).1 s.closeable := by
  cases hp : (s.kid i).pc <;> simp only [closeKidF, closeKid, setCl_kid, hp]
  · rfl
  · exact finishKidF_fst s i _ sc
  · rfl
  · rfl
  · rfl

theorem clearBuffersF_fst (s : St) (sc : SrcClose) :
    (clearBuffersF s sc).1 = setCl (clearBuffers (setCl s (canClose s sc))) s.closeable := by
  by_cases h1 : (s.kids.any fun c => c.buf.isSome) = true
  · simp only [clearBuffersF, clearBuffers, setCl_kids, h1, ↓reduceIte]
    split
    · rename_i h; rw [if_pos (by exact h)]; rfl
    · rename_i h; rw [if_neg (by exact h)]; rfl
  · simp only [clearBuffersF, clearBuffers, setCl_kids, h1]
    rfl

/-- everything but the children and the count of `iterator.aclose()` calls -/
def base (s : St) : St := { s with kids := [], srcCloses := 0 }

theorem base_ext {s s' : St} (hb : base s' = base s) (hc : s'.srcCloses = s.srcCloses) :
    { s' with kids := s.kids } = s := by
  cases s; cases s'; simp_all [base]

theorem finishKidF_base (s : St) (i : Nat) (t : Task) (sc : SrcClose) :
    base (finishKidF s i t sc).1 = base s := by
  unfold finishKidF; simp only []; split <;> rfl

theorem closeKidF_base (s : St) (i : Nat) (sc : SrcClose) : base (closeKidF s i sc).1 = base s := by
  cases hp : (s.kid i).pc <;> simp only [closeKidF, hp] <;>
    first | rfl | exact finishKidF_base s i _ sc

theorem clearBuffersF_base (s : St) (sc : SrcClose) : base (clearBuffersF s sc).1 = base s := by
  unfold clearBuffersF; simp only []; split
  · split <;> rfl
  · rfl

theorem canClose_of_base {s s' : St} (h : base s' = base s) (sc : SrcClose) :
    canClose s' sc = canClose s sc := by
  have h2 : (base s').closeable = (base s).closeable := congrArg St.closeable h
  have : s'.closeable = s.closeable := h2
  simp [canClose, this]

/-! ## One `child.aclose()` -/

@[simp] theorem closeKidF_length (s : St) (i : Nat) (sc : SrcClose) :
    (closeKidF s i sc).1.kids.length = s.kids.length := by
  rw [closeKidF_fst]; simp

theorem inv_closeKidF {s : St} (h : Inv s) (i : Nat) (hi : i < s.kids.length) (sc : SrcClose) :
    Inv (closeKidF s i sc).1 := by
  rw [closeKidF_fst]
  exact inv_setCl ((inv_setCl h (canClose s sc)).closeKid_inv i hi) _

theorem closedChild_done (c : Child) (h : c.pc = .done) : closedChild c = c := by
  simp [closedChild, h]

theorem closedChild_busy (c : Child) (h : isBusy c.pc = true) : closedChild c = c := by
  cases hp : c.pc <;> simp [closedChild, hp, isBusy] at h ⊢

theorem closedChild_pc (c : Child) (h : isBusy c.pc = false) : (closedChild c).pc = .done := by
  cases hp : c.pc <;> simp [closedChild, hp, isBusy] at h ⊢

theorem closedChild_idem (c : Child) : closedChild (closedChild c) = closedChild c := by
  cases hp : c.pc <;> simp [closedChild, hp]

theorem closedChild_out (c : Child) : (closedChild c).out = c.out ∧ (closedChild c).task = c.task := by
  cases hp : c.pc <;> simp [closedChild, hp]

theorem bufLen_closedChild (c : Child) : bufLen (closedChild c) ≤ bufLen c := by
  cases hp : c.pc <;> simp [closedChild, hp, bufLen]

/-- what `child.aclose()` does to the children: child `i` is closed as the specification says,
    the others are not touched -/
theorem closeKidF_kid (s : St) (i j : Nat) (hi : i < s.kids.length) (sc : SrcClose) :
    (closeKidF s i sc).1.kid j = if j = i then closedChild (s.kid i) else s.kid j := by
  rw [closeKidF_fst]
  simp only [setCl_kid]
  have hi' : i < (setCl s (canClose s sc)).kids.length := hi
  cases hp : (s.kid i).pc <;> simp only [closeKid, setCl_kid, hp, closedChild]
  · rw [kid_setKid _ _ _ _ hi']; rfl
  · rw [finishKid_kid _ _ _ _ hi']; rfl
  · split
    · rename_i h; rw [h]
    · rfl
  · split
    · rename_i h; rw [h]
    · rfl
  · split
    · rename_i h; rw [h]
    · rfl

theorem closeKidF_busy_iff (s : St) (i : Nat) (sc : SrcClose) :
    (closeKidF s i sc).2.1 = .busy ↔ isBusy (s.kid i).pc = true := by
  cases hp : (s.kid i).pc <;> simp only [closeKidF, hp, isBusy] <;> (try split) <;> simp

/-- RuntimeError of a busy child: nothing has changed -/
theorem closeKidF_of_busy (s : St) (i : Nat) (sc : SrcClose) (h : isBusy (s.kid i).pc = true) :
    closeKidF s i sc = (s, .busy, false) := by
  cases hp : (s.kid i).pc <;> simp [closeKidF, hp, isBusy] at h ⊢

theorem closeKidF_of_done (s : St) (i : Nat) (sc : SrcClose) (h : (s.kid i).pc = .done) :
    closeKidF s i sc = (s, .closed, false) := by
  simp [closeKidF, h]

/-- the answer of `child.aclose()` is determined by whether it raised the source's error -/
theorem closeKidF_out (s : St) (i : Nat) (sc : SrcClose) :
    ((closeKidF s i sc).2.2 = true → (closeKidF s i sc).2.1 = .error) ∧
    ((closeKidF s i sc).2.2 = false →
      (closeKidF s i sc).2.1 = .closed ∨ (closeKidF s i sc).2.1 = .busy) := by
  cases hp : (s.kid i).pc <;> simp only [closeKidF, hp] <;> (try split) <;> simp_all

/-- bookkeeping of `iterator.aclose()` calls in one `child.aclose()`: none, or one — then the source
    can be closed and no buffer is registered any more; the error is raised iff a call was made and
    the source's `aclose()` raises -/
theorem closeKidF_acct (s : St) (i : Nat) (sc : SrcClose) :
    ((closeKidF s i sc).1.srcCloses = s.srcCloses ∨
      ((closeKidF s i sc).1.srcCloses = s.srcCloses + 1 ∧ canClose s sc = true ∧
        ∀ j, j < s.kids.length → ((closeKidF s i sc).1.kid j).buf = none)) ∧
    (closeKidF s i sc).2.2 =
      (decide (sc = .raises) && decide (s.srcCloses < (closeKidF s i sc).1.srcCloses)) := by
  cases hp : (s.kid i).pc <;> simp only [closeKidF, hp] <;> try (simp; done)
  refine ⟨?_, finishKidF_snd s i _ sc⟩
  unfold finishKidF; simp only []
  split
  · rename_i h
    right
    simp only [Bool.and_eq_true] at h
    refine ⟨rfl, h.2, ?_⟩
    intro j hj
    exact (all_none_iff _).1 h.1 j (by simpa using hj)
  · left; rfl

/-! ## The loop `for child in self._children: await child.aclose()` -/

theorem closeFromF_cons (s : St) (sc : SrcClose) (i : Nat) (rest : List Nat) :
    closeFromF s sc (i :: rest) =
      if (closeKidF s i sc).2.1 = .busy then ((closeKidF s i sc).1, .busy, false)
      else if (closeKidF s i sc).2.2 = true then closeKidF s i sc
      else closeFromF (closeKidF s i sc).1 sc rest := by
  simp only [closeFromF]
  generalize closeKidF s i sc = r
  obtain ⟨s', o, b⟩ := r
  cases o <;> cases b <;> simp

/-- the three ways one round of the loop can go -/
theorem closeFromF_cases (s : St) (sc : SrcClose) (i : Nat) (rest : List Nat) :
    (isBusy (s.kid i).pc = true ∧ closeFromF s sc (i :: rest) = (s, .busy, false)) ∨
    (isBusy (s.kid i).pc = false ∧ (closeKidF s i sc).2.2 = true ∧
      closeFromF s sc (i :: rest) = ((closeKidF s i sc).1, .error, true)) ∨
    (isBusy (s.kid i).pc = false ∧ (closeKidF s i sc).2.2 = false ∧
      closeFromF s sc (i :: rest) = closeFromF (closeKidF s i sc).1 sc rest) := by
  rw [closeFromF_cons]
  cases hb : isBusy (s.kid i).pc with
  | true =>
    left
    rw [closeKidF_of_busy s i sc hb]; simp
  | false =>
    right
    have hnb : ¬ (closeKidF s i sc).2.1 = .busy := by
      rw [closeKidF_busy_iff, hb]; simp
    rw [if_neg hnb]
    cases hr : (closeKidF s i sc).2.2 with
    | true =>
      left
      refine ⟨rfl, rfl, ?_⟩
      have := (closeKidF_out s i sc).1 hr
      simp only [if_true]
      ext <;> simp [this, hr]
    | false =>
      right
      simp

@[simp] theorem closeFromF_length (s : St) (sc : SrcClose) (l : List Nat) :
    (closeFromF s sc l).1.kids.length = s.kids.length := by
  induction l generalizing s with
  | nil => rfl
  | cons i rest ih =>
    rcases closeFromF_cases s sc i rest with ⟨_, e⟩ | ⟨_, _, e⟩ | ⟨_, _, e⟩ <;> rw [e] <;> simp [ih]

theorem closeFromF_base (s : St) (sc : SrcClose) (l : List Nat) :
    base (closeFromF s sc l).1 = base s := by
  induction l generalizing s with
  | nil => rfl
  | cons i rest ih =>
    rcases closeFromF_cases s sc i rest with ⟨_, e⟩ | ⟨_, _, e⟩ | ⟨_, _, e⟩ <;> rw [e]
    · exact closeKidF_base s i sc
    · rw [ih]; exact closeKidF_base s i sc

theorem inv_closeFromF {s : St} (h : Inv s) (sc : SrcClose) (l : List Nat)
    (hl : ∀ i ∈ l, i < s.kids.length) : Inv (closeFromF s sc l).1 := by
  induction l generalizing s with
  | nil => exact h
  | cons i rest ih =>
    have hi := hl i (by simp)
    have h1 := inv_closeKidF h i hi sc
    rcases closeFromF_cases s sc i rest with ⟨_, e⟩ | ⟨_, _, e⟩ | ⟨_, _, e⟩ <;> rw [e]
    · exact h
    · exact h1
    · exact ih h1 (by intro k hk; rw [closeKidF_length]; exact hl k (by simp [hk]))

/-- every child is either untouched or closed as the specification of `child.aclose()` says -/
theorem closeFromF_kid (s : St) (sc : SrcClose) (l : List Nat) (hl : ∀ i ∈ l, i < s.kids.length)
    (j : Nat) :
    (closeFromF s sc l).1.kid j = s.kid j ∨ (closeFromF s sc l).1.kid j = closedChild (s.kid j) := by
  induction l generalizing s with
  | nil => left; rfl
  | cons i rest ih =>
    have hi := hl i (by simp)
    have hk := closeKidF_kid s i j hi sc
    have h1 : (closeKidF s i sc).1.kid j = s.kid j ∨
        (closeKidF s i sc).1.kid j = closedChild (s.kid j) := by
      rw [hk]; split
      · rename_i e; subst e; right; rfl
      · left; rfl
    rcases closeFromF_cases s sc i rest with ⟨_, e⟩ | ⟨_, _, e⟩ | ⟨_, _, e⟩ <;> rw [e]
    · left; rfl
    · exact h1
    · have := ih (s := (closeKidF s i sc).1)
        (by intro k hk'; rw [closeKidF_length]; exact hl k (by simp [hk']))
      rcases this with a | a <;> rcases h1 with b | b <;> rw [a, b]
      · left; rfl
      · right; rfl
      · right; rfl
      · right; exact closedChild_idem _

/-- children the loop does not go over are not touched -/
theorem closeFromF_frame (s : St) (sc : SrcClose) (l : List Nat) (hl : ∀ i ∈ l, i < s.kids.length)
    (j : Nat) (hj : j ∉ l) : (closeFromF s sc l).1.kid j = s.kid j := by
  induction l generalizing s with
  | nil => rfl
  | cons i rest ih =>
    have hi := hl i (by simp)
    have hji : j ≠ i := fun e => hj (by simp [e])
    have hk : (closeKidF s i sc).1.kid j = s.kid j := by rw [closeKidF_kid s i j hi sc]; simp [hji]
    rcases closeFromF_cases s sc i rest with ⟨_, e⟩ | ⟨_, _, e⟩ | ⟨_, _, e⟩ <;> rw [e]
    · exact hk
    · rw [ih (s := (closeKidF s i sc).1)
        (by intro k hk'; rw [closeKidF_length]; exact hl k (by simp [hk']))
        (fun e => hj (by simp [e]))]
      exact hk

/-- the answer of the loop is determined by the Bool -/
theorem closeFromF_out (s : St) (sc : SrcClose) (l : List Nat) :
    ((closeFromF s sc l).2.2 = true → (closeFromF s sc l).2.1 = .error) ∧
    ((closeFromF s sc l).2.2 = false →
      (closeFromF s sc l).2.1 = .closed ∨ (closeFromF s sc l).2.1 = .busy) := by
  induction l generalizing s with
  | nil => simp [closeFromF]
  | cons i rest ih =>
    rcases closeFromF_cases s sc i rest with ⟨_, e⟩ | ⟨_, _, e⟩ | ⟨_, _, e⟩ <;> rw [e]
    · simp
    · simp
    · exact ih _

/-- a loop over children that are all closed already does nothing -/
theorem closeFromF_of_done (s : St) (sc : SrcClose) (l : List Nat)
    (h : ∀ i ∈ l, (s.kid i).pc = .done) : closeFromF s sc l = (s, .closed, false) := by
  induction l with
  | nil => rfl
  | cons i rest ih =>
    rw [closeFromF_cons, closeKidF_of_done s i sc (h i (by simp))]
    simp only [reduceCtorEq, if_false, Bool.false_eq_true]
    exact ih (fun k hk => h k (by simp [hk]))

/-- a child the loop has closed stays closed -/
theorem closeFromF_keeps_done (s : St) (sc : SrcClose) (l : List Nat)
    (hl : ∀ i ∈ l, i < s.kids.length) (j : Nat) (hd : (s.kid j).pc = .done) :
    ((closeFromF s sc l).1.kid j).pc = .done := by
  rcases closeFromF_kid s sc l hl j with e | e <;> rw [e]
  · exact hd
  · rw [closedChild_done _ hd]; exact hd

/-- a loop that was left by no exception has closed every child it went over -/
theorem closeFromF_pc_done (s : St) (sc : SrcClose) (l : List Nat) (hl : ∀ i ∈ l, i < s.kids.length)
    (hb : (closeFromF s sc l).2.1 ≠ .busy) (hr : (closeFromF s sc l).2.2 = false) :
    ∀ i ∈ l, ((closeFromF s sc l).1.kid i).pc = .done := by
  induction l generalizing s with
  | nil => intro i hi; simp at hi
  | cons i rest ih =>
    have hi := hl i (by simp)
    have hl' : ∀ k ∈ rest, k < (closeKidF s i sc).1.kids.length := by
      intro k hk; rw [closeKidF_length]; exact hl k (by simp [hk])
    rcases closeFromF_cases s sc i rest with ⟨_, e⟩ | ⟨_, _, e⟩ | ⟨hnb, _, e⟩
    · rw [e] at hb; simp at hb
    · rw [e] at hr; simp at hr
    · rw [e] at hb hr ⊢
      intro k hk
      rcases List.mem_cons.1 hk with e' | hk'
      · subst e'
        apply closeFromF_keeps_done _ sc rest hl'
        rw [closeKidF_kid s k k hi sc]; simp only [if_true]
        exact closedChild_pc _ hnb
      · exact ih _ hl' hb hr k hk'

/-- the loop was left by the error of the source's `aclose()`: it was raised in the `finally:` block
    of the last registered child, so no buffer is registered any more -/
theorem closeFromF_raised (s : St) (sc : SrcClose) (l : List Nat)
    (hr : (closeFromF s sc l).2.2 = true) :
    sc = .raises ∧ canClose s sc = true ∧
      ∀ j, j < s.kids.length → ((closeFromF s sc l).1.kid j).buf = none := by
  induction l generalizing s with
  | nil => simp [closeFromF] at hr
  | cons i rest ih =>
    rcases closeFromF_cases s sc i rest with ⟨_, e⟩ | ⟨_, hr', e⟩ | ⟨_, _, e⟩
    · rw [e] at hr; simp at hr
    · rw [e]
      have ha := closeKidF_acct s i sc
      rw [hr'] at ha
      have h2 := ha.2
      simp only [Bool.true_eq, Bool.and_eq_true, decide_eq_true_eq] at h2
      rcases ha.1 with h1 | h1
      · omega
      · exact ⟨h2.1, h1.2.1, h1.2.2⟩
    · rw [e] at hr ⊢
      have := ih _ hr
      rw [canClose_of_base (closeKidF_base s i sc), closeKidF_length] at this
      exact this

/-- accounting of `iterator.aclose()` calls in two stages, the first of which did not raise -/
theorem acct_trans {d r1 r2 : Bool} {a b c : Nat} (hab : a ≤ b) (hbc : b ≤ c)
    (h1 : r1 = (d && decide (a < b))) (hr : r1 = false) (h2 : r2 = (d && decide (b < c))) :
    r2 = (d && decide (a < c)) := by
  subst h1 h2
  cases d with
  | false => rfl
  | true =>
    simp only [Bool.true_and, decide_eq_false_iff_not] at hr
    rw [show a = b by omega]

/-- bookkeeping of `iterator.aclose()` calls in the loop: the count never decreases, and the error is
    raised iff a call was made and the source's `aclose()` raises -/
theorem closeFromF_acct (s : St) (sc : SrcClose) (l : List Nat) :
    s.srcCloses ≤ (closeFromF s sc l).1.srcCloses ∧
    (closeFromF s sc l).2.2 =
      (decide (sc = .raises) && decide (s.srcCloses < (closeFromF s sc l).1.srcCloses)) := by
  induction l generalizing s with
  | nil => simp [closeFromF]
  | cons i rest ih =>
    have ha := closeKidF_acct s i sc
    have hmono : s.srcCloses ≤ (closeKidF s i sc).1.srcCloses := by
      rcases ha.1 with h | h <;> omega
    rcases closeFromF_cases s sc i rest with ⟨_, e⟩ | ⟨_, hr', e⟩ | ⟨_, hr', e⟩ <;> rw [e]
    · simp
    · exact ⟨hmono, by rw [← ha.2, hr']⟩
    · have := ih (closeKidF s i sc).1
      exact ⟨Nat.le_trans hmono this.1, acct_trans hmono this.1 ha.2 hr' this.2⟩

/-- without a closeable source the loop never calls `iterator.aclose()` -/
theorem closeFromF_cannot (s : St) (sc : SrcClose) (l : List Nat) (hc : canClose s sc = false) :
    (closeFromF s sc l).1.srcCloses = s.srcCloses := by
  induction l generalizing s with
  | nil => rfl
  | cons i rest ih =>
    have ha := (closeKidF_acct s i sc).1
    have h1 : (closeKidF s i sc).1.srcCloses = s.srcCloses := by
      rcases ha with h | h
      · exact h
      · rw [hc] at h; simp at h
    rcases closeFromF_cases s sc i rest with ⟨_, e⟩ | ⟨_, _, e⟩ | ⟨_, _, e⟩ <;> rw [e]
    · exact h1
    · rw [ih _ (by rw [canClose_of_base (closeKidF_base s i sc)]; exact hc)]; exact h1

/-! ## The loop over `range' a m` = children `a, a+1, …, a+m-1`: the busy case -/

/-- a child that is suspended inside the generator is registered -/
theorem inv_busy_registered {s : St} (h : Inv s) (k : Nat) (hk : k < s.kids.length)
    (hb : isBusy (s.kid k).pc = true) : (s.kid k).buf ≠ none := by
  apply h.buf_ne_none k hk
  intro hd; rw [hd] at hb; simp [isBusy] at hb

/-- **The busy case.** The loop answers RuntimeError iff it meets a busy child; it stops at the
    first one, `k`: the children before `k` have been closed as `closedChild` says, `k` and all
    others are untouched, the source has not been closed and no error of the source was raised. -/
theorem closeFromF_busy_range' (sc : SrcClose) : ∀ (m a : Nat) (s : St), Inv s →
    a + m ≤ s.kids.length → (closeFromF s sc (List.range' a m)).2.1 = .busy →
    ∃ k, a ≤ k ∧ k < a + m ∧ isBusy (s.kid k).pc = true ∧
      (∀ j, a ≤ j → j < k → isBusy (s.kid j).pc = false ∧
        (closeFromF s sc (List.range' a m)).1.kid j = closedChild (s.kid j)) ∧
      (∀ j, (j < a ∨ k ≤ j) → (closeFromF s sc (List.range' a m)).1.kid j = s.kid j) ∧
      (closeFromF s sc (List.range' a m)).2.2 = false ∧
      (closeFromF s sc (List.range' a m)).1.srcCloses = s.srcCloses := by
  intro m
  induction m with
  | zero => intro a s _ _ hb; simp [closeFromF] at hb
  | succ m ih =>
    intro a s hinv hlen hb
    have ha : a < s.kids.length := by omega
    rw [List.range'_succ] at hb ⊢
    rcases closeFromF_cases s sc a (List.range' (a + 1) m) with ⟨hbusy, e⟩ | ⟨_, _, e⟩ | ⟨hnb, hr, e⟩
    · rw [e]
      exact ⟨a, Nat.le_refl _, by omega, hbusy, fun j h1 h2 => by omega, fun _ _ => rfl, rfl, rfl⟩
    · rw [e] at hb; simp at hb
    · rw [e] at hb ⊢
      have hinv1 := inv_closeKidF hinv a ha sc
      have hkid := fun j => closeKidF_kid s a j ha sc
      obtain ⟨k, hk1, hk2, hk3, hk4, hk5, hk6, hk7⟩ :=
        ih (a + 1) (closeKidF s a sc).1 hinv1 (by rw [closeKidF_length]; omega) hb
      have hka : k ≠ a := by omega
      rw [hkid k, if_neg hka] at hk3
      refine ⟨k, by omega, by omega, hk3, ?_, ?_, hk6, ?_⟩
      · intro j h1 h2
        by_cases hja : j = a
        · subst hja
          refine ⟨hnb, ?_⟩
          rw [hk5 j (Or.inl (by omega)), hkid j]; simp
        · have := hk4 j (by omega) h2
          rw [hkid j, if_neg hja] at this
          exact this
      · intro j hj
        have hja : j ≠ a := by omega
        rw [hk5 j (by omega), hkid j, if_neg hja]
      · rw [hk7]
        rcases (closeKidF_acct s a sc).1 with h | h
        · exact h
        · exfalso
          have hreg := inv_busy_registered hinv1 k (by rw [closeKidF_length]; omega)
            (by rw [hkid k, if_neg hka]; exact hk3)
          exact hreg (h.2.2 k (by omega))

/-- a loop that meets a busy child after children that are all closed already changes nothing -/
theorem closeFromF_stops (sc : SrcClose) (s : St) (k : Nat) (hb : isBusy (s.kid k).pc = true) :
    ∀ (m a : Nat), a ≤ k → k < a + m → (∀ j, a ≤ j → j < k → (s.kid j).pc = .done) →
      closeFromF s sc (List.range' a m) = (s, .busy, false) := by
  intro m
  induction m with
  | zero => intro a h1 h2; omega
  | succ m ih =>
    intro a h1 h2 hd
    rw [List.range'_succ, closeFromF_cons]
    by_cases hak : a = k
    · subst hak
      rw [closeKidF_of_busy s a sc hb]; simp
    · rw [closeKidF_of_done s a sc (hd a (Nat.le_refl _) (by omega))]
      simp only [reduceCtorEq, if_false, Bool.false_eq_true]
      exact ih (a + 1) (by omega) (by omega) (fun j h3 h4 => hd j (by omega) h4)

/-! ## The tee machine calls `iterator.aclose()` at most once (a fact about `Machines/Tee.lean`, not part of `Inv`) -/

/-- `iterator.aclose()` has been called at most once -/
def Once (s : St) : Prop := s.srcCloses ≤ 1

/-- every child is closed and unregistered -/
def Dead (s : St) : Prop := ∀ j, j < s.kids.length → (s.kid j).pc = .done ∧ (s.kid j).buf = none

/-- once the source has been closed, every child is closed and unregistered -/
theorem inv_dead {s : St} (h : Inv s) (hc : 0 < s.srcCloses) : Dead s := by
  intro j hj
  have hb := h.d.closedAll hc j hj
  exact ⟨(h.d.unreg j hj hb).2, hb⟩

/-! in a state where every child is closed and unregistered, nothing closes the source -/

theorem dead_sched {s : St} (h : Dead s) (i : Nat) (hi : i < s.kids.length) :
    (sched s i).1.srcCloses = s.srcCloses := by
  unfold sched
  rw [(h i hi).1]
  split <;> rfl

theorem dead_closeKid {s : St} (h : Dead s) (i : Nat) (hi : i < s.kids.length) :
    closeKid s i = (s, .closed) := by
  unfold closeKid
  rw [(h i hi).1]

theorem dead_cancel {s : St} (h : Dead s) (i : Nat) (hi : i < s.kids.length) :
    (cancel s i).1.srcCloses = s.srcCloses := by
  unfold cancel
  rw [(h i hi).1]
  split <;> rfl

theorem dead_clearBuffers {s : St} (h : Dead s) : clearBuffers s = s := by
  unfold clearBuffers
  rw [(any_some_iff s).2 fun j hj => (h j hj).2]
  rfl

/-- an operation on one child calls `iterator.aclose()` at most once, and not at all once every
    child is closed and unregistered — which is so once the source has been closed -/
theorem once_shape {k : Bool} {i : Nat} {s s' : St} (hs : Shape k i s s') (h : Inv s) (ho : Once s)
    (hd : Dead s → s'.srcCloses = s.srcCloses) : Once s' := by
  unfold Once at *
  by_cases h0 : s.srcCloses = 0
  · have := hs.keeps.once; omega
  · rw [hd (inv_dead h (by omega))]; exact ho

theorem once_closeKid {s : St} (h : Inv s) (ho : Once s) (i : Nat) (hi : i < s.kids.length) :
    Once (closeKid s i).1 :=
  once_shape (closeKid_shape s i) h ho fun d => by rw [dead_closeKid d i hi]

theorem once_closeFrom {s : St} (h : Inv s) (ho : Once s) (l : List Nat)
    (hl : ∀ i ∈ l, i < s.kids.length) : Once (closeFrom s l).1 := by
  induction l generalizing s with
  | nil => exact ho
  | cons i rest ih =>
    have hi := hl i (by simp)
    rw [closeFrom_cons]
    split
    · exact once_closeKid h ho i hi
    · exact ih (h.closeKid_inv i hi) (once_closeKid h ho i hi)
        (by intro k hk; rw [closeKid_length]; exact hl k (by simp [hk]))

theorem once_clearBuffers {s : St} (h : Inv s) (ho : Once s) : Once (clearBuffers s) := by
  unfold Once at *
  by_cases h0 : s.srcCloses = 0
  · rw [clearBuffers_eq]; dsimp only; split <;> omega
  · rw [dead_clearBuffers (inv_dead h (by omega))]; exact ho

theorem once_closeAll {s : St} (h : Inv s) (ho : Once s) : Once (closeAll s).1 := by
  have h1 := once_closeFrom h ho _ (range_lt s)
  by_cases hb : (closeFrom s (List.range s.kids.length)).2 = .busy
  · rw [closeAll_busy s hb]; exact h1
  · rw [closeAll_not_busy s hb]
    exact once_clearBuffers (h.closeFrom_inv _ (range_lt s)) h1

theorem once_step {s : St} (h : Inv s) (ho : Once s) (op : Op) : Once (step s op).1 := by
  cases op with
  | sched i =>
    simp only [step]; split
    · exact once_shape (sched_shape s i) h ho fun d => dead_sched d i ‹_›
    · exact ho
  | close i => simp only [step]; split; exact once_closeKid h ho i ‹_›; exact ho
  | cancel i =>
    simp only [step]; split
    · exact once_shape (cancel_shape s i) h ho fun d => dead_cancel d i ‹_›
    · exact ho
  | closeAll => exact once_closeAll h ho

theorem once_runOps {s : St} (h : Inv s) (ho : Once s) (ops : List Op) : Once (runOps s ops) := by
  induction ops generalizing s with
  | nil => exact ho
  | cons op rest ih => exact ih (h.step_inv op) (once_step h ho op)

/-- in every reachable state of the tee machine `iterator.aclose()` has been called at most once -/
theorem reach_once (items n susp lock closeable dies ops) :
    Once (reach items n susp lock closeable dies ops) :=
  once_runOps (init_inv items n susp lock closeable dies) (by simp [Once, init]) ops

/-! ## The end of `Tee.aclose`: `self._buffers.clear()`, then `iterator.aclose()` -/

@[simp] theorem clearBuffersF_length (s : St) (sc : SrcClose) :
    (clearBuffersF s sc).1.kids.length = s.kids.length := by
  rw [clearBuffersF_fst]; simp

theorem clearBuffersF_kid (s : St) (sc : SrcClose) (j : Nat) (hj : j < s.kids.length) :
    (clearBuffersF s sc).1.kid j = { s.kid j with buf := none } := by
  rw [clearBuffersF_fst, setCl_kid, clearBuffers_kid _ j (by simpa using hj)]
  rfl

theorem inv_clearBuffersF {s : St} (h : Inv s) (sc : SrcClose)
    (hd : ∀ j, j < s.kids.length → (s.kid j).pc = .done) : Inv (clearBuffersF s sc).1 := by
  rw [clearBuffersF_fst]
  exact inv_setCl ((inv_setCl h (canClose s sc)).clearBuffers_inv hd) _

theorem clearBuffersF_of_none (s : St) (sc : SrcClose)
    (h : ∀ j, j < s.kids.length → (s.kid j).buf = none) : clearBuffersF s sc = (s, false) := by
  have : s.kids.any (fun c => c.buf.isSome) = false := (any_some_iff s).2 h
  unfold clearBuffersF
  simp [this]

/-- bookkeeping of `iterator.aclose()` calls at the end of `Tee.aclose` -/
theorem clearBuffersF_acct (s : St) (sc : SrcClose) :
    ((clearBuffersF s sc).1.srcCloses = s.srcCloses ∨
      ((clearBuffersF s sc).1.srcCloses = s.srcCloses + 1 ∧ canClose s sc = true)) ∧
    (clearBuffersF s sc).2 =
      (decide (sc = .raises) && decide (s.srcCloses < (clearBuffersF s sc).1.srcCloses)) := by
  unfold clearBuffersF; simp only []
  split
  · split
    · rename_i h; exact ⟨Or.inr ⟨rfl, h⟩, by simp⟩
    · exact ⟨Or.inl rfl, by simp⟩
  · exact ⟨Or.inl rfl, by simp⟩

/-! ## `Tee.aclose()` -/

/-- the loop of `Tee.aclose()` over all children -/
abbrev loopF (s : St) (sc : SrcClose) : St × Out × Bool :=
  closeFromF s sc (List.range s.kids.length)

/-- `Tee.aclose()` is its loop over the children if an exception left the loop; otherwise the
    buffers are cleared and the source is closed -/
theorem closeAllF_cases (s : St) (sc : SrcClose) :
    (((loopF s sc).2.1 = .busy ∨ (loopF s sc).2.2 = true) ∧ closeAllF s sc = loopF s sc) ∨
    ((loopF s sc).2.1 ≠ .busy ∧ (loopF s sc).2.2 = false ∧
      closeAllF s sc = ((clearBuffersF (loopF s sc).1 sc).1,
        if (clearBuffersF (loopF s sc).1 sc).2 = true then Out.error else .closed,
        (clearBuffersF (loopF s sc).1 sc).2)) := by
  have ho := closeFromF_out s sc (List.range s.kids.length)
  unfold closeAllF loopF; simp only []
  generalize closeFromF s sc (List.range s.kids.length) = r at ho
  obtain ⟨s', o, b⟩ := r
  cases b with
  | true => exact .inl ⟨.inr rfl, by cases o <;> rfl⟩
  | false =>
    rcases ho.2 rfl with e | e <;> dsimp only at e <;> subst e
    · exact .inr ⟨nofun, rfl, rfl⟩
    · exact .inl ⟨.inl rfl, rfl⟩

theorem closeAllF_busy_iff (s : St) (sc : SrcClose) :
    (closeAllF s sc).2.1 = .busy ↔ (loopF s sc).2.1 = .busy := by
  rcases closeAllF_cases s sc with ⟨_, e⟩ | ⟨hb, _, e⟩ <;> rw [e]
  simp only [hb, iff_false]
  split <;> simp

@[simp] theorem closeAllF_length (s : St) (sc : SrcClose) :
    (closeAllF s sc).1.kids.length = s.kids.length := by
  rcases closeAllF_cases s sc with ⟨_, e⟩ | ⟨_, _, e⟩ <;> rw [e] <;> simp

theorem closeAllF_base (s : St) (sc : SrcClose) : base (closeAllF s sc).1 = base s := by
  rcases closeAllF_cases s sc with ⟨_, e⟩ | ⟨_, _, e⟩ <;> rw [e]
  · exact closeFromF_base s sc _
  · exact (clearBuffersF_base _ sc).trans (closeFromF_base s sc _)

theorem inv_closeAllF {s : St} (h : Inv s) (sc : SrcClose) : Inv (closeAllF s sc).1 := by
  have h1 := inv_closeFromF h sc _ (range_lt s)
  rcases closeAllF_cases s sc with ⟨_, e⟩ | ⟨hb, hr, e⟩ <;> rw [e]
  · exact h1
  · exact inv_clearBuffersF h1 sc fun j hj =>
      closeFromF_pc_done s sc _ (range_lt s) hb hr j (by simpa using hj)

/-- the answer is determined by the Bool, unless a busy child aborted the call -/
theorem closeAllF_out (s : St) (sc : SrcClose) (hb : (closeAllF s sc).2.1 ≠ .busy) :
    (closeAllF s sc).2.1 = if (closeAllF s sc).2.2 = true then .error else .closed := by
  rcases closeAllF_cases s sc with ⟨h, e⟩ | ⟨_, _, e⟩
  · rw [e] at hb ⊢
    have hr := h.resolve_left hb
    rw [hr, if_pos rfl]
    exact (closeFromF_out s sc _).1 hr
  · rw [e]

theorem child_closed_eq (c c' : Child) (h : c' = c ∨ c' = closedChild c) (hd : c'.pc = .done) :
    { c' with buf := none } = { c with pc := .done, buf := none } := by
  rcases h with e | e
  · subst e
    cases c'; simp_all
  · subst e
    cases hp : c.pc <;> simp_all [closedChild]

/-- **Not busy ⇒ everything is closed and unregistered**, also when the source's `aclose()` raises:
    every child is as before except that it is closed and its buffer is no longer registered -/
theorem closeAllF_kid {s : St} (h : Inv s) (sc : SrcClose) (hb : (closeAllF s sc).2.1 ≠ .busy)
    (j : Nat) (hj : j < s.kids.length) :
    (closeAllF s sc).1.kid j = { s.kid j with pc := .done, buf := none } := by
  have hk := closeFromF_kid s sc _ (range_lt s) j
  have h1 := inv_closeFromF h sc _ (range_lt s)
  rcases closeAllF_cases s sc with ⟨hl, e⟩ | ⟨hb', hr, e⟩
  · rw [e] at hb ⊢
    have hnone := (closeFromF_raised s sc _ (hl.resolve_left hb)).2.2 j hj
    rw [← child_closed_eq _ _ hk (h1.d.unreg j (by simpa using hj) hnone).2]
    show (loopF s sc).1.kid j = _
    cases hc : (loopF s sc).1.kid j with
    | mk pc buf out task =>
      have : ((loopF s sc).1.kid j).buf = none := hnone
      rw [hc] at this; simp at this; subst this; rfl
  · rw [e]
    simp only []
    rw [clearBuffersF_kid _ sc j (by simpa using hj)]
    exact child_closed_eq _ _ hk
      (closeFromF_pc_done s sc _ (range_lt s) hb' hr j (by simpa using hj))

/-- bookkeeping of `iterator.aclose()` calls of one `Tee.aclose()`: the count never decreases, and
    the source's error is raised iff a call was made and the source's `aclose()` raises -/
theorem closeAllF_acct (s : St) (sc : SrcClose) :
    s.srcCloses ≤ (closeAllF s sc).1.srcCloses ∧
    (closeAllF s sc).2.2 =
      (decide (sc = .raises) && decide (s.srcCloses < (closeAllF s sc).1.srcCloses)) := by
  have ha : s.srcCloses ≤ (loopF s sc).1.srcCloses ∧ (loopF s sc).2.2 =
      (decide (sc = .raises) && decide (s.srcCloses < (loopF s sc).1.srcCloses)) :=
    closeFromF_acct s sc (List.range s.kids.length)
  rcases closeAllF_cases s sc with ⟨_, e⟩ | ⟨_, hr, e⟩ <;> rw [e]
  · exact ha
  · have hc := clearBuffersF_acct (loopF s sc).1 sc
    have hmono : (loopF s sc).1.srcCloses ≤ (clearBuffersF (loopF s sc).1 sc).1.srcCloses := by
      rcases hc.1 with e | e <;> omega
    exact ⟨Nat.le_trans ha.1 hmono, acct_trans ha.1 hmono ha.2 hr hc.2⟩

/-- a source that cannot be closed is not closed -/
theorem closeAllF_cannot (s : St) (sc : SrcClose) (hc : canClose s sc = false) :
    (closeAllF s sc).1.srcCloses = s.srcCloses := by
  have ha := closeFromF_cannot s sc (List.range s.kids.length) hc
  rcases closeAllF_cases s sc with ⟨_, e⟩ | ⟨_, _, e⟩ <;> rw [e]
  · exact ha
  · rcases (clearBuffersF_acct (loopF s sc).1 sc).1 with e | e
    · exact e.trans ha
    · rw [canClose_of_base (closeFromF_base s sc _), hc] at e; simp at e

/-! ### a source that can be closed is closed exactly once -/

theorem setCl_eq_self {s : St} {b : Bool} (h : s.closeable = b) : setCl s b = s := by
  subst h; rfl

theorem canClose_closeable {s : St} {sc : SrcClose} (h : canClose s sc = true) : s.closeable = true := by
  simp only [canClose, Bool.and_eq_true] at h; exact h.1

theorem closeKid_closeable (s : St) (i : Nat) : (closeKid s i).1.closeable = s.closeable :=
  congrArg (·.2.2) (cfg_closeKid s i)

theorem closeKidF_eq_closeKid (s : St) (i : Nat) (sc : SrcClose) (hc : canClose s sc = true) :
    (closeKidF s i sc).1 = (closeKid s i).1 := by
  have hcl := canClose_closeable hc
  rw [closeKidF_fst, hc, setCl_eq_self hcl, setCl_eq_self (closeKid_closeable s i)]

theorem clearBuffersF_eq_clearBuffers (s : St) (sc : SrcClose) (hc : canClose s sc = true) :
    (clearBuffersF s sc).1 = clearBuffers s := by
  have hcl := canClose_closeable hc
  rw [clearBuffersF_fst, hc, setCl_eq_self hcl, setCl_eq_self (clearBuffers_closeable s)]

theorem good_closeFromF {s : St} {sc : SrcClose} (hc : canClose s sc = true) (h : Inv s) (ho : Once s)
    (hcl : ClosedLast s) (l : List Nat) (hl : ∀ i ∈ l, i < s.kids.length) :
    Once (closeFromF s sc l).1 ∧ ClosedLast (closeFromF s sc l).1 := by
  induction l generalizing s with
  | nil => exact ⟨ho, hcl⟩
  | cons i rest ih =>
    have hi := hl i (by simp)
    have e1 := closeKidF_eq_closeKid s i sc hc
    have ho1 : Once (closeKidF s i sc).1 := by rw [e1]; exact once_closeKid h ho i hi
    have hcl1 : ClosedLast (closeKidF s i sc).1 := by rw [e1]; exact (closeKid_shape s i).closedLast hcl
    rcases closeFromF_cases s sc i rest with ⟨_, e⟩ | ⟨_, _, e⟩ | ⟨_, _, e⟩ <;> rw [e]
    · exact ⟨ho, hcl⟩
    · exact ⟨ho1, hcl1⟩
    · exact ih (by rw [canClose_of_base (closeKidF_base s i sc)]; exact hc)
        (inv_closeKidF h i hi sc) ho1 hcl1
        (by intro k hk; rw [closeKidF_length]; exact hl k (by simp [hk]))

theorem good_closeAllF {s : St} {sc : SrcClose} (hc : canClose s sc = true) (h : Inv s) (ho : Once s)
    (hcl : ClosedLast s) : Once (closeAllF s sc).1 ∧ ClosedLast (closeAllF s sc).1 := by
  have hg := good_closeFromF hc h ho hcl _ (range_lt s)
  rcases closeAllF_cases s sc with ⟨_, e⟩ | ⟨_, _, e⟩ <;> rw [e]
  · exact hg
  · simp only []
    rw [clearBuffersF_eq_clearBuffers _ sc
      (by rw [canClose_of_base (closeFromF_base s sc _)]; exact hc)]
    exact ⟨once_clearBuffers (inv_closeFromF h sc _ (range_lt s)) hg.1, hg.2.clearBuffers_ok⟩

/-- **The source is closed exactly once.** If the source can be closed and the tee has a child,
    then after a `Tee.aclose()` that no busy child aborted `iterator.aclose()` has been called
    exactly once — by this call or before it -/
theorem closeAllF_closes_once {s : St} {sc : SrcClose} (hc : canClose s sc = true) (h : Inv s)
    (ho : Once s) (hcl : ClosedLast s) (hb : (closeAllF s sc).2.1 ≠ .busy) (hn : 0 < s.kids.length) :
    (closeAllF s sc).1.srcCloses = 1 := by
  have hg := good_closeAllF hc h ho hcl
  have hcl' : (closeAllF s sc).1.closeable = true := by
    have h2 : (base (closeAllF s sc).1).closeable = (base s).closeable :=
      congrArg St.closeable (closeAllF_base s sc)
    exact h2.trans (canClose_closeable hc)
  have hpos := hg.2 hcl' (by rw [closeAllF_length]; exact hn) (by
    intro j hj
    rw [closeAllF_length] at hj
    rw [closeAllF_kid h sc hb j hj])
  have := hg.1
  unfold Once at this
  omega

/-! ### the busy case, and a second `Tee.aclose()` -/

/-- **The busy case of `Tee.aclose()`.** -/
theorem closeAllF_busy {s : St} (h : Inv s) (sc : SrcClose) (hb : (closeAllF s sc).2.1 = .busy) :
    ∃ k, k < s.kids.length ∧ isBusy (s.kid k).pc = true ∧
      (∀ j, j < k → isBusy (s.kid j).pc = false ∧ (closeAllF s sc).1.kid j = closedChild (s.kid j)) ∧
      (∀ j, k ≤ j → (closeAllF s sc).1.kid j = s.kid j) ∧
      (closeAllF s sc).2.2 = false ∧ (closeAllF s sc).1.srcCloses = s.srcCloses := by
  have hb' := (closeAllF_busy_iff s sc).1 hb
  rw [((closeAllF_cases s sc).resolve_right fun h => h.1 hb').2]
  unfold loopF at hb' ⊢
  rw [List.range_eq_range'] at hb' ⊢
  obtain ⟨k, _, hk2, hk3, hk4, hk5, hk6, hk7⟩ :=
    closeFromF_busy_range' sc s.kids.length 0 s h (by omega) hb'
  exact ⟨k, by omega, hk3, fun j hj => hk4 j (Nat.zero_le _) hj, fun j hj => hk5 j (Or.inr hj), hk6, hk7⟩

/-- **A second `Tee.aclose()` changes nothing**: if the first one was aborted by a busy child, so is
    the second (that child is still busy); otherwise the second returns normally — whatever the
    source's `aclose()` would do now, it is not called again -/
theorem closeAllF_idem {s : St} (h : Inv s) (sc sc2 : SrcClose) :
    closeAllF (closeAllF s sc).1 sc2 =
      ((closeAllF s sc).1, if (closeAllF s sc).2.1 = .busy then .busy else .closed, false) := by
  by_cases hb : (closeAllF s sc).2.1 = .busy
  · obtain ⟨k, hk1, hk2, hk3, hk4, _, _⟩ := closeAllF_busy h sc hb
    have hloop : loopF (closeAllF s sc).1 sc2 = ((closeAllF s sc).1, .busy, false) := by
      unfold loopF
      rw [List.range_eq_range']
      refine closeFromF_stops sc2 _ k (by rw [hk4 k (Nat.le_refl _)]; exact hk2) _ 0 (Nat.zero_le _)
        (by rw [closeAllF_length]; omega) ?_
      intro j _ hj
      rw [(hk3 j hj).2]
      exact closedChild_pc _ (hk3 j hj).1
    rw [((closeAllF_cases _ sc2).resolve_right fun h => h.1 (by rw [hloop])).2, hloop, if_pos hb]
  · have hdone : ∀ j, j < (closeAllF s sc).1.kids.length →
        ((closeAllF s sc).1.kid j).pc = .done ∧ ((closeAllF s sc).1.kid j).buf = none := by
      intro j hj
      rw [closeAllF_length] at hj
      rw [closeAllF_kid h sc hb j hj]
      exact ⟨rfl, rfl⟩
    have hloop : loopF (closeAllF s sc).1 sc2 = ((closeAllF s sc).1, .closed, false) := by
      unfold loopF
      exact closeFromF_of_done _ sc2 _ (fun i hi => (hdone i (by simpa using hi)).1)
    rw [((closeAllF_cases _ sc2).resolve_left fun h => by rw [hloop] at h; simp at h).2.2, hloop]
    simp only []
    rw [clearBuffersF_of_none _ sc2 (fun j hj => (hdone j hj).2), if_neg hb]
    simp

/-! ## `retained` -/

theorem sum_bufLen_le : ∀ (l1 l2 : List Child), l1.length = l2.length →
    (∀ j, j < l1.length → bufLen (l1.getD j {}) ≤ bufLen (l2.getD j {})) →
    (l1.map bufLen).sum ≤ (l2.map bufLen).sum
  | [], [], _, _ => by simp
  | a :: l1, b :: l2, hl, h => by
    have h0 := h 0 (by simp)
    simp only [List.getD_cons_zero] at h0
    have := sum_bufLen_le l1 l2 (by simpa using hl) (fun j hj => by
      have := h (j + 1) (by simp; omega)
      simpa using this)
    simp only [List.map_cons, List.sum_cons]
    omega
  | [], _ :: _, hl, _ => by simp at hl
  | _ :: _, [], hl, _ => by simp at hl

/-- if no child holds more than before, the tee does not retain more than before -/
theorem retained_le {s s' : St} (hl : s'.kids.length = s.kids.length)
    (h : ∀ j, j < s.kids.length → bufLen (s'.kid j) ≤ bufLen (s.kid j)) : retained s' ≤ retained s :=
  sum_bufLen_le s'.kids s.kids hl (fun j hj => h j (by rw [← hl]; exact hj))

theorem sum_bufLen_zero (l : List Child) (h : ∀ c ∈ l, c.buf = none) : (l.map bufLen).sum = 0 := by
  induction l with
  | nil => rfl
  | cons c r ih =>
    have hc := h c (by simp)
    simp only [List.map_cons, List.sum_cons, ih (fun d hd => h d (by simp [hd]))]
    simp [bufLen, hc]

/-- no registered buffer, nothing retained -/
theorem retained_zero {s : St} (h : ∀ j, j < s.kids.length → (s.kid j).buf = none) : retained s = 0 := by
  apply sum_bufLen_zero
  have := (all_none_iff s).2 h
  simp only [List.all_eq_true, Option.isNone_iff_eq_none] at this
  exact this

/-- what a registered buffer holds is what has been fetched and not yet yielded by its child -/
theorem retained_eq_lag {s : St}
    (h : ∀ j, j < s.kids.length → ∀ b, (s.kid j).buf = some b → (s.kid j).out ++ b = s.fetched) :
    retained s = lag s := by
  unfold retained lag
  congr 1
  apply List.map_congr_left
  intro c hc
  obtain ⟨j, hj, rfl⟩ := List.getElem_of_mem hc
  rw [← kid_eq_getElem s j hj]
  cases hb : (s.kid j).buf with
  | none => simp [bufLen, hb]
  | some b =>
    have := h j hj b hb
    have hlen : (s.kid j).out.length + b.length = s.fetched.length := by
      rw [← this]; simp
    simp only [bufLen, hb, Option.isSome_some, if_true]
    rw [← hlen, Nat.add_sub_cancel_left]

/-! ## Further facts used by the property theorems -/

/-- any state, reachable or not: a `Tee.aclose()` that no busy child aborted leaves no buffer registered -/
theorem closeAllF_buf_none (s : St) (sc : SrcClose) (hb : (closeAllF s sc).2.1 ≠ .busy)
    (j : Nat) (hj : j < s.kids.length) : ((closeAllF s sc).1.kid j).buf = none := by
  rcases closeAllF_cases s sc with ⟨hl, e⟩ | ⟨_, _, e⟩
  · rw [e] at hb ⊢
    exact (closeFromF_raised s sc _ (hl.resolve_left hb)).2.2 j hj
  · rw [e]
    simp only []
    rw [clearBuffersF_kid _ sc j (by simpa using hj)]

/-- a tee without children: `Tee.aclose()` does nothing at all -/
theorem closeAllF_no_kids (s : St) (sc : SrcClose) (h : s.kids.length = 0) :
    closeAllF s sc = (s, .closed, false) := by
  have hk : s.kids = [] := List.length_eq_zero_iff.1 h
  simp [closeAllF, closeFromF, clearBuffersF, hk]

/-! ### with a source whose `aclose()` does not raise, `closeAllF` is `closeAll` of `Machines/Tee.lean` -/

theorem finishKidF_eq (s : St) (i : Nat) (t : Task) (sc : SrcClose)
    (hc : canClose s sc = s.closeable) (hr : sc ≠ .raises) :
    finishKidF s i t sc = (finishKid s i t, false) := by
  apply Prod.ext
  · rw [finishKidF_fst, hc, setCl_self, setCl_eq_self (finishKid_closeable s i t)]
  · rw [finishKidF_snd]; simp [hr]

theorem closeKidF_eq (s : St) (i : Nat) (sc : SrcClose)
    (hc : canClose s sc = s.closeable) (hr : sc ≠ .raises) :
    closeKidF s i sc = ((closeKid s i).1, (closeKid s i).2, false) := by
  cases hp : (s.kid i).pc <;> simp [closeKidF, closeKid, hp, finishKidF_eq s i _ sc hc hr]

theorem closeFromF_eq (s : St) (sc : SrcClose) (l : List Nat)
    (hc : canClose s sc = s.closeable) (hr : sc ≠ .raises) :
    closeFromF s sc l = ((closeFrom s l).1, (closeFrom s l).2, false) := by
  induction l generalizing s with
  | nil => rfl
  | cons i rest ih =>
    rw [closeFromF_cons, Tee.closeFrom_cons, closeKidF_eq s i sc hc hr]
    simp only [Bool.false_eq_true, if_false]
    split
    · rfl
    · exact ih _ (by
        have h1 : canClose (closeKid s i).1 sc = canClose s sc := by
          simp [canClose, closeKid_closeable]
        rw [h1, hc, closeKid_closeable])

theorem clearBuffersF_eq (s : St) (sc : SrcClose)
    (hc : canClose s sc = s.closeable) (hr : sc ≠ .raises) :
    clearBuffersF s sc = (clearBuffers s, false) := by
  apply Prod.ext
  · rw [clearBuffersF_fst, hc, setCl_self, setCl_eq_self (clearBuffers_closeable s)]
  · rw [(clearBuffersF_acct s sc).2]; simp [hr]

theorem closeFrom_closeable (s : St) (l : List Nat) : (closeFrom s l).1.closeable = s.closeable :=
  congrArg (·.2.2) (cfg_closeFrom s l)

theorem closeAllF_eq (s : St) (sc : SrcClose)
    (hc : canClose s sc = s.closeable) (hr : sc ≠ .raises) :
    closeAllF s sc = ((closeAll s).1, (closeAll s).2, false) := by
  have hl : loopF s sc = ((closeFrom s (List.range s.kids.length)).1,
      (closeFrom s (List.range s.kids.length)).2, false) := closeFromF_eq s sc _ hc hr
  by_cases hb : (closeFrom s (List.range s.kids.length)).2 = .busy
  · rw [((closeAllF_cases s sc).resolve_right fun h => h.1 (by rw [hl]; exact hb)).2, hl,
      closeAll_busy s hb]
  · rw [((closeAllF_cases s sc).resolve_left fun h => by rw [hl] at h; simp [hb] at h).2.2, hl,
      closeAll_not_busy s hb]
    simp only []
    rw [clearBuffersF_eq _ sc (by
      have h1 : canClose (closeFrom s (List.range s.kids.length)).1 sc = canClose s sc := by
        simp [canClose, closeFrom_closeable]
      rw [h1, hc, closeFrom_closeable]) hr]
    simp only [Bool.false_eq_true, if_false]
    rcases closeFrom_out s (List.range s.kids.length) with e | e
    · rw [e]
    · exact absurd e hb

end AsyncVerif.TeeClose
