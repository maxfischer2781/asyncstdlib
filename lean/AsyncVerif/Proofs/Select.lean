import AsyncVerif.Proofs.AggValues
/-!
# The bounded heap of `nlargest` / `nsmallest` selects `sorted(…)[:n]`

Three layers:
1. integer keys, no stamps: keeping the best `n` while folding (`selK`) is `(stable sort).take n` (`selK_eq_spec`);
2. the stamps implement exactly that: for every stamp direction the stamped heap, with stamps erased, is the stamp-free
   list (`insV_sim`, `selectV_eq_selectKV`) — so all four variants (asyncstdlib / CPython × largest / smallest) compute
   the same thing on every input, orderable or not;
3. orderable keys: the `Val`-level functions are the integer-level ones (`selectKV_orderable`).
-/
namespace AsyncVerif.Sel

open AsyncVerif List

/-! ## 1. integer keys -/

theorem kb_asymm (largest : Bool) (x y : Int) : kb largest x y = true → kb largest y x = false := by
  unfold kb; cases largest <;> simp <;> omega

theorem kb_irrefl (largest : Bool) (x : Int) : kb largest x x = false := by
  unfold kb; cases largest <;> simp

theorem kb_of_kb_of_not (largest : Bool) {e a z : Int} (h1 : kb largest e a = true) (h2 : kb largest z a = false) :
    kb largest e z = true := by
  unfold kb at *; cases largest <;> simp at * <;> omega

theorem insK_length (largest : Bool) (e : Int × Val) : ∀ l, (insK largest e l).length = l.length + 1
  | [] => rfl
  | a :: l => by
    unfold insK; split
    · simp
    · simp [insK_length largest e l]

theorem insK_perm (largest : Bool) (e : Int × Val) : ∀ l, insK largest e l ~ e :: l
  | [] => Perm.refl _
  | a :: l => by
    unfold insK; split
    · exact Perm.refl _
    · exact ((insK_perm largest e l).cons a).trans (Perm.swap e a l)

/-- best first: no later entry has a strictly better key than an earlier one -/
def SortedK (largest : Bool) (l : List (Int × Val)) : Prop := l.Pairwise (fun a b => kb largest b.1 a.1 = false)

theorem insK_sorted (largest : Bool) (e : Int × Val) : ∀ l, SortedK largest l → SortedK largest (insK largest e l)
  | [], _ => by simp [insK, SortedK]
  | a :: l, h => by
    unfold SortedK at h ⊢
    rw [pairwise_cons] at h
    unfold insK; split
    · rename_i hk
      rw [pairwise_cons, pairwise_cons]
      refine ⟨?_, h.1, h.2⟩
      intro b hb
      rcases mem_cons.mp hb with rfl | hb
      · exact kb_asymm largest _ _ hk
      · exact kb_asymm largest _ _ (kb_of_kb_of_not largest hk (h.1 b hb))
    · rename_i hk
      rw [pairwise_cons]
      refine ⟨?_, insK_sorted largest e l h.2⟩
      intro b hb
      have hb' : b ∈ e :: l := (insK_perm largest e l).mem_iff.mp hb
      rcases mem_cons.mp hb' with rfl | hb'
      · simpa using hk
      · exact h.1 b hb'

theorem take_insK (largest : Bool) (e : Int × Val) : ∀ (l : List (Int × Val)) (n : Nat),
    (insK largest e l).take n = (insK largest e (l.take n)).take n
  | _, 0 => by simp
  | [], n+1 => by simp
  | a :: l, n+1 => by
    simp only [take_succ_cons]
    unfold insK
    split
    · simp only [take_succ_cons]
      congr 1
      cases n with
      | zero => simp
      | succ m => simp [take_take]
    · simp only [take_succ_cons]
      rw [take_insK largest e l n]

theorem foldl_insK_take (largest : Bool) (n : Nat) : ∀ (keyed init : List (Int × Val)),
    (keyed.foldl (fun acc e => insK largest e acc) init).take n =
      keyed.foldl (fun acc e => (insK largest e acc).take n) (init.take n)
  | [], init => by simp
  | e :: rest, init => by
    simp only [foldl_cons]
    rw [foldl_insK_take largest n rest (insK largest e init), take_insK largest e init n]

theorem selK_eq_take (largest : Bool) (n : Nat) (keyed : List (Int × Val)) :
    selK largest n keyed = (keyed.foldl (fun acc e => insK largest e acc) []).take n := by
  unfold selK
  rw [foldl_insK_take largest n keyed []]
  simp

/-! ### insertion in arrival order is the stable sort (`List.mergeSort`)

Decorate every entry with its position in the input (`ZE`) and break ties of `specLe` by position (`zle`, core's
`zipIdxLE`).  On a decorated list that order is antisymmetric, so the list has exactly one sorted permutation: both
`mergeSort` (`mergeSort_zipIdx`) and insertion in arrival order (`insZ`, which erases to `insK`: `insZ_erase`) produce
it, hence they agree (`foldl_insK_eq_mergeSort`). -/

theorem specLe_trans (largest : Bool) (a b c : Int × Val) :
    specLe largest a b = true → specLe largest b c = true → specLe largest a c = true := by
  unfold specLe kb; cases largest <;> simp <;> omega

theorem specLe_total (largest : Bool) (a b : Int × Val) : (specLe largest a b || specLe largest b a) = true := by
  unfold specLe kb; cases largest <;> simp <;> omega

abbrev ZE := (Int × Val) × Nat

def zle (largest : Bool) (a b : ZE) : Bool := zipIdxLE (specLe largest) a b

theorem zle_trans (largest : Bool) (a b c : ZE) : zle largest a b = true → zle largest b c = true → zle largest a c = true :=
  zipIdxLE_trans (specLe_trans largest) a b c

theorem zle_total (largest : Bool) (a b : ZE) : (zle largest a b || zle largest b a) = true :=
  zipIdxLE_total (specLe_total largest) a b

def insZ (largest : Bool) (e : ZE) : List ZE → List ZE
  | [] => [e]
  | a :: l => if zle largest e a then e :: a :: l else a :: insZ largest e l

theorem insZ_perm (largest : Bool) (e : ZE) : ∀ l, insZ largest e l ~ e :: l
  | [] => Perm.refl _
  | a :: l => by
    unfold insZ; split
    · exact Perm.refl _
    · exact ((insZ_perm largest e l).cons a).trans (Perm.swap e a l)

theorem insZ_sorted (largest : Bool) (e : ZE) : ∀ l, l.Pairwise (fun a b => zle largest a b = true) →
    (insZ largest e l).Pairwise (fun a b => zle largest a b = true)
  | [], _ => by simp [insZ]
  | a :: l, h => by
    rw [pairwise_cons] at h
    unfold insZ; split
    · rename_i hk
      rw [pairwise_cons, pairwise_cons]
      refine ⟨?_, h.1, h.2⟩
      intro b hb
      rcases mem_cons.mp hb with rfl | hb
      · exact hk
      · exact zle_trans largest _ _ _ hk (h.1 b hb)
    · rename_i hk
      rw [pairwise_cons]
      refine ⟨?_, insZ_sorted largest e l h.2⟩
      intro b hb
      have hb' : b ∈ e :: l := (insZ_perm largest e l).mem_iff.mp hb
      rcases mem_cons.mp hb' with rfl | hb'
      · have := zle_total largest a b
        simp only [Bool.or_eq_true] at this
        rcases this with h1 | h1
        · exact h1
        · exact absurd h1 hk
      · exact h.1 b hb'

theorem insZ_erase (largest : Bool) (x : Int × Val) (i : Nat) : ∀ (l : List ZE), (∀ a ∈ l, a.2 < i) →
    (insZ largest (x, i) l).map (·.1) = insK largest x (l.map (·.1))
  | [], _ => rfl
  | a :: l, h => by
    have ha : decide (i ≤ a.2) = false := decide_eq_false (Nat.not_le.mpr (h a mem_cons_self))
    -- `a` came earlier, so a tie goes to `a`: the decorated order puts `(x, i)` first only on a strictly better key
    have hz : zle largest (x, i) a = kb largest x.1 a.1.1 := by
      unfold zle zipIdxLE specLe
      cases h1 : kb largest x.1 a.1.1
      · simp [ha]
      · simp [kb_asymm largest _ _ h1]
    unfold insZ insK
    simp only [hz, map_cons]
    split
    · rfl
    · simp only [map_cons]
      rw [insZ_erase largest x i l (fun b hb => h b (mem_cons_of_mem a hb))]

theorem foldl_insZ_erase (largest : Bool) : ∀ (keyed : List (Int × Val)) (k : Nat) (acc : List ZE),
    (∀ a ∈ acc, a.2 < k) →
    ((keyed.zipIdx k).foldl (fun acc e => insZ largest e acc) acc).map (·.1) =
      keyed.foldl (fun acc e => insK largest e acc) (acc.map (·.1))
  | [], _, _, _ => by simp
  | x :: rest, k, acc, h => by
    simp only [zipIdx_cons, foldl_cons]
    rw [foldl_insZ_erase largest rest (k + 1) (insZ largest (x, k) acc), insZ_erase largest x k acc h]
    intro a ha
    have ha' : a ∈ (x, k) :: acc := (insZ_perm largest (x, k) acc).mem_iff.mp ha
    rcases mem_cons.mp ha' with rfl | ha'
    · simp
    · exact Nat.lt_succ_of_lt (h a ha')

theorem foldl_insZ_perm (largest : Bool) : ∀ (D acc : List ZE), D.foldl (fun acc e => insZ largest e acc) acc ~ acc ++ D
  | [], acc => by simp
  | e :: rest, acc => by
    simp only [foldl_cons]
    refine (foldl_insZ_perm largest rest (insZ largest e acc)).trans ?_
    refine ((insZ_perm largest e acc).append_right rest).trans ?_
    simpa using (perm_middle (a := e) (l₁ := acc) (l₂ := rest)).symm

theorem foldl_insZ_sorted (largest : Bool) : ∀ (D acc : List ZE), acc.Pairwise (fun a b => zle largest a b = true) →
    (D.foldl (fun acc e => insZ largest e acc) acc).Pairwise (fun a b => zle largest a b = true)
  | [], _, h => h
  | e :: rest, acc, h => foldl_insZ_sorted largest rest _ (insZ_sorted largest e acc h)

theorem zle_antisymm_zipIdx (largest : Bool) (keyed : List (Int × Val)) (a b : ZE)
    (ha : a ∈ keyed.zipIdx) (hb : b ∈ keyed.zipIdx) (h1 : zle largest a b = true) (h2 : zle largest b a = true) : a = b := by
  obtain ⟨⟨ak, ai⟩⟩ := a
  rename_i ai'
  obtain ⟨⟨bk, bi⟩⟩ := b
  rename_i bi'
  have hidx : ai' = bi' := by
    unfold zle zipIdxLE at h1 h2
    simp only at h1 h2
    by_cases c1 : specLe largest (ak, ai) (bk, bi) = true <;> by_cases c2 : specLe largest (bk, bi) (ak, ai) = true <;>
      simp [c1, c2] at h1 h2
    omega
  subst hidx
  obtain ⟨_, hx⟩ := mem_zipIdx' ha
  obtain ⟨_, hy⟩ := mem_zipIdx' hb
  rw [hx, hy]

/-- **stable sort = insertion in arrival order** -/
theorem foldl_insK_eq_mergeSort (largest : Bool) (keyed : List (Int × Val)) :
    keyed.foldl (fun acc e => insK largest e acc) [] = keyed.mergeSort (specLe largest) := by
  have hz : (keyed.zipIdx).mergeSort (zle largest) = (keyed.zipIdx).foldl (fun acc e => insZ largest e acc) [] := by
    refine Perm.eq_of_pairwise (le := fun a b => zle largest a b = true) ?_ ?_ ?_ ?_
    · intro a b ha hb h1 h2
      have ha' : a ∈ keyed.zipIdx := (mergeSort_perm _ _).mem_iff.mp ha
      have hb' : b ∈ keyed.zipIdx := by
        have := (foldl_insZ_perm largest keyed.zipIdx []).mem_iff.mp hb
        simpa using this
      exact zle_antisymm_zipIdx largest keyed a b ha' hb' h1 h2
    · exact pairwise_mergeSort (zle_trans largest) (zle_total largest) _
    · exact foldl_insZ_sorted largest _ [] Pairwise.nil
    · exact (mergeSort_perm _ _).trans (by simpa using (foldl_insZ_perm largest keyed.zipIdx []).symm)
  have h1 : (keyed.zipIdx.mergeSort (zle largest)).map (·.1) = keyed.mergeSort (specLe largest) :=
    mergeSort_zipIdx
  rw [← h1, hz]
  have := foldl_insZ_erase largest keyed 0 [] (by simp)
  simpa using this.symm

/-- **layer 1**: keeping the best `n` while folding is `sorted(…)[:n]` -/
theorem selK_eq_spec (largest : Bool) (n : Nat) (keyed : List (Int × Val)) :
    selK largest n keyed = spec largest n keyed := by
  rw [selK_eq_take, foldl_insK_eq_mergeSort]; rfl

/-! ## 2. the stamps implement "equal keys keep their arrival order" — every key, every stamp direction -/

def eraseE (e : VE) : Val × Val := (e.key, e.item)

/-- both computations fail with the same exception, or both succeed with related results -/
def ExRel {α β : Type} (R : α → β → Prop) : Except Exc α → Except Exc β → Prop
  | .ok a, .ok b => R a b
  | .error e1, .error e2 => e1 = e2
  | _, _ => False

/-- the stamped heap `h` erases to `acc`, and `nx` is a later stamp than every stamp in `h` -/
def RelH (pos : Bool) (nx : Int) (h : List VE) (acc : List (Val × Val)) : Prop :=
  h.map eraseE = acc ∧ ∀ a ∈ h, later pos nx a.idx = true

theorem later_next (pos : Bool) (nx i : Int) (h : later pos nx i = true) : later pos (nextStamp pos nx) i = true := by
  unfold later nextStamp at *; cases pos <;> simp at * <;> omega

theorem later_next_self (pos : Bool) (nx : Int) : later pos (nextStamp pos nx) nx = true := by
  unfold later nextStamp; cases pos <;> simp <;> omega

theorem later_stamp (pos : Bool) (i j : Nat) (h : j < i) : later pos (stamp pos i) (stamp pos j) = true := by
  unfold later stamp; cases pos <;> simp <;> omega

theorem stamp_succ (pos : Bool) (i : Nat) : stamp pos (i + 1) = nextStamp pos (stamp pos i) := by
  unfold stamp nextStamp; cases pos <;> simp <;> omega

theorem ExRel.bind {α β α' β' : Type} {R : α → β → Prop} {R' : α' → β' → Prop}
    {m1 : Except Exc α} {m2 : Except Exc β} {f1 : α → Except Exc α'} {f2 : β → Except Exc β'}
    (h : ExRel R m1 m2) (hf : ∀ a b, R a b → ExRel R' (f1 a) (f2 b)) : ExRel R' (m1 >>= f1) (m2 >>= f2) := by
  cases m1 with
  | error e1 =>
    cases m2 with
    | error e2 => exact h
    | ok b => exact h.elim
  | ok a =>
    cases m2 with
    | error e2 => exact h.elim
    | ok b => exact hf a b h

theorem ExRel.mono {α β : Type} {R R' : α → β → Prop} {m1 : Except Exc α} {m2 : Except Exc β}
    (h : ExRel R m1 m2) (hi : ∀ a b, R a b → R' a b) : ExRel R' m1 m2 := by
  cases m1 <;> cases m2 <;> simp_all [ExRel]

theorem ExRel.map_left {α β α' : Type} {R : α → β → Prop} {R' : α' → β → Prop} {m1 : Except Exc α}
    {m2 : Except Exc β} {f : α → α'} (h : ExRel R m1 m2) (hf : ∀ a b, R a b → R' (f a) b) :
    ExRel R' (m1 >>= fun a => pure (f a)) m2 := by
  cases m1 <;> cases m2 <;> first | exact h | exact hf _ _ h

theorem ExRel.refl {α : Type} (m : Except Exc α) : ExRel Eq m m := by
  cases m <;> exact rfl

theorem ExRel.eq {α : Type} {m1 m2 : Except Exc α} (h : ExRel Eq m1 m2) : m1 = m2 := by
  cases m1 <;> cases m2 <;> first | exact congrArg _ h | exact h.elim

/-- inserting an entry whose stamp is later than all others: same comparisons, same outcome, as the key-only insertion;
    the result keeps every stamp earlier than the next stamp -/
theorem insV_sim (c : Cfg) (k x : Val) (nx : Int) : ∀ (h : List VE) (acc : List (Val × Val)),
    RelH c.pos nx h acc →
    ExRel (fun h' acc' => RelH c.pos (nextStamp c.pos nx) h' acc' ∧ h'.length = h.length + 1)
      (insV c ⟨k, nx, x⟩ h) (insKV c.largest (k, x) acc)
  | [], acc, hr => by
    obtain ⟨rfl, _⟩ := hr
    exact ⟨⟨rfl, fun a ha => by cases mem_singleton.mp ha; exact later_next_self c.pos nx⟩, rfl⟩
  | a :: l, acc, hr => by
    obtain ⟨rfl, hf⟩ := hr
    have hla : later c.pos nx a.idx = true := hf a mem_cons_self
    have ih := insV_sim c k x nx l (l.map eraseE) ⟨rfl, fun b hb => hf b (mem_cons_of_mem a hb)⟩
    -- the new stamp is the later one, so on equal keys the new entry is the worse one: the comparison is key-only
    simp only [insV, insKV, map_cons, worseV, hla, eraseE]
    refine ExRel.bind (ExRel.refl _) ?_
    rintro b _ rfl
    cases b with
    | false =>
      refine ⟨⟨rfl, fun b hb => ?_⟩, rfl⟩
      rcases mem_cons.mp hb with rfl | hb
      · exact later_next_self c.pos nx
      · exact later_next c.pos nx _ (hf b hb)
    | true =>
      refine ExRel.bind ih fun r1 r2 ⟨⟨he, hfr⟩, hlen⟩ => ⟨⟨by rw [← he]; rfl, fun b hb => ?_⟩, by simp [hlen]⟩
      rcases mem_cons.mp hb with rfl | hb
      · exact later_next c.pos nx _ hla
      · exact hfr b hb

theorem heapify_sim (c : Cfg) : ∀ (first : List (Val × Val)) (k : Nat) (h : List VE) (acc : List (Val × Val)),
    RelH c.pos (stamp c.pos k) h acc →
    ExRel (fun h' acc' => RelH c.pos (stamp c.pos (k + first.length)) h' acc' ∧ h'.length = h.length + first.length)
      ((first.zipIdx k).foldlM (fun h (p : (Val × Val) × Nat) => insV c ⟨p.1.1, stamp c.pos p.2, p.1.2⟩ h) h)
      (first.foldlM (fun acc e => insKV c.largest e acc) acc)
  | [], k, h, acc, hr => ⟨hr, rfl⟩
  | (kk, x) :: rest, k, h, acc, hr => by
    simp only [zipIdx_cons, foldlM_cons, length_cons]
    refine ExRel.bind (insV_sim c kk x (stamp c.pos k) h acc hr) ?_
    intro h1 acc1 ⟨hr1, hl1⟩
    rw [← stamp_succ] at hr1
    refine (heapify_sim c rest (k + 1) h1 acc1 hr1).mono ?_
    intro h2 acc2 ⟨hr2, hl2⟩
    refine ⟨by rw [show k + (rest.length + 1) = k + 1 + rest.length by omega]; exact hr2, by omega⟩

theorem accept_sim (c : Cfg) (h : List VE) (nx : Int) (acc : List (Val × Val)) (hr : RelH c.pos nx h acc) (k x : Val) :
    ExRel (fun st acc' => RelH c.pos st.2 st.1 acc' ∧ st.1.length = h.length)
      (acceptV c (h, nx) k x) (acceptKV c.largest acc (k, x)) := by
  obtain ⟨rfl, hf⟩ := hr
  unfold acceptV acceptKV
  rw [getLast?_map]
  cases hl : h.getLast? with
  | none => exact ⟨⟨rfl, hf⟩, rfl⟩
  | some worst =>
    refine ExRel.bind (ExRel.refl _) ?_
    rintro b _ rfl
    cases b with
    | false => exact ⟨⟨rfl, hf⟩, rfl⟩
    | true =>
      have hpos : 0 < h.length := length_pos_iff.mpr (by intro h0; simp [h0] at hl)
      simp only [if_true]
      refine (insV_sim c k x nx h.dropLast _ ⟨map_dropLast, fun a ha => hf a (dropLast_subset h ha)⟩).map_left ?_
      intro r1 r2 ⟨hr', hl'⟩
      exact ⟨hr', by rw [hl', length_dropLast]; omega⟩

theorem scan_sim (c : Cfg) : ∀ (rest : List (Val × Val)) (h : List VE) (nx : Int) (acc : List (Val × Val)),
    RelH c.pos nx h acc →
    ExRel (fun st acc' => RelH c.pos st.2 st.1 acc' ∧ st.1.length = h.length)
      (rest.foldlM (fun st p => acceptV c st p.1 p.2) (h, nx)) (rest.foldlM (acceptKV c.largest) acc)
  | [], h, nx, acc, hr => ⟨hr, rfl⟩
  | (k, x) :: rest, h, nx, acc, hr => by
    simp only [foldlM_cons]
    refine ExRel.bind (accept_sim c h nx acc hr k x) ?_
    intro st acc1 ⟨hr1, hl1⟩
    refine (scan_sim c rest st.1 st.2 acc1 hr1).mono ?_
    intro st2 acc2 ⟨hr2, hl2⟩
    exact ⟨hr2, by omega⟩

/-- **layer 2**: for every stamp direction and every key (orderable or not), the stamped bounded heap computes what the
    stamp-free selection computes, raising the same `TypeError` at the same comparison.  In particular asyncstdlib's
    `_largest` and CPython's `heapq.nlargest` / `heapq.nsmallest` agree on every input. -/
theorem selectV_eq_selectKV (c : Cfg) (n : Nat) (keyed : List (Val × Val)) :
    selectV c n keyed = selectKV c.largest n keyed := by
  unfold selectV selectKV heapifyV
  split
  · rfl
  · refine ExRel.eq (ExRel.bind (heapify_sim c (keyed.take n) 0 [] [] ⟨rfl, by simp⟩) ?_)
    intro h0 acc ⟨hr, _⟩
    -- the heap erases to `acc`: so will the final heap, whose items are then the same
    have hitems : ∀ (st : List VE × Int) (acc' : List (Val × Val)), st.1.map eraseE = acc' →
        ExRel Eq (pure (st.1.map (·.item)) : Except Exc (List Val)) (pure (acc'.map (·.2))) := by
      rintro st _ rfl
      show st.1.map (·.item) = (st.1.map eraseE).map (·.2)
      rw [map_map]; rfl
    by_cases hle : n ≤ keyed.length
    · rw [Nat.zero_add, length_take, Nat.min_eq_left hle] at hr
      exact ExRel.bind (scan_sim c (keyed.drop n) h0 _ acc hr) fun st acc' h => hitems st acc' h.1.1
    · rw [drop_eq_nil_of_le (by omega)]
      exact hitems (h0, _) acc hr.1

/-! ### the only exception the selection itself can raise is the `TypeError` of a key comparison -/

theorem kbV_error (largest : Bool) (x y : Val) (e : Exc) (h : kbV largest x y = .error e) : e = .typeError := by
  unfold kbV Val.lt at h
  cases largest <;> simp only [Bool.false_eq_true, if_false, if_true] at h <;>
    (split at h <;> simp at h <;> exact h.symm)

theorem worseV_error (c : Cfg) (a b : VE) (e : Exc) (h : worseV c a b = .error e) : e = .typeError := by
  unfold worseV at h
  split at h
  · simp at h
  · exact kbV_error _ _ _ _ h

theorem bind_eq_error {α β : Type} {m : Except Exc α} {f : α → Except Exc β} {e : Exc} (h : m >>= f = .error e) :
    m = .error e ∨ ∃ a, m = .ok a ∧ f a = .error e := by
  cases m with
  | error e' => cases h; exact .inl rfl
  | ok a => exact .inr ⟨a, rfl, h⟩

theorem bind_eq_ok {α β : Type} {m : Except Exc α} {f : α → Except Exc β} {b : β} (h : m >>= f = .ok b) :
    ∃ a, m = .ok a ∧ f a = .ok b := by
  cases m with
  | error e => cases h
  | ok a => exact ⟨a, rfl, h⟩

theorem insV_error (c : Cfg) (x : VE) : ∀ (l : List VE) (e : Exc), insV c x l = .error e → e = .typeError
  | [], e, h => by cases h
  | a :: l, e, h => by
    unfold insV at h
    rcases bind_eq_error h with hw | ⟨b, -, hb⟩
    · exact worseV_error c x a _ hw
    · cases b with
      | false => cases hb
      | true =>
        rcases bind_eq_error hb with hr | ⟨r, -, hr⟩
        · exact insV_error c x l _ hr
        · cases hr

theorem foldlM_error {σ ι : Type} (f : σ → ι → Except Exc σ) (P : Exc → Prop)
    (hf : ∀ s i e, f s i = .error e → P e) : ∀ (l : List ι) (s : σ) (e : Exc), l.foldlM f s = .error e → P e
  | [], s, e, h => by cases h
  | i :: rest, s, e, h => by
    rw [foldlM_cons] at h
    rcases bind_eq_error h with hs | ⟨s', -, hs⟩
    · exact hf s i _ hs
    · exact foldlM_error f P hf rest s' e hs

theorem heapifyV_error (c : Cfg) (first : List (Val × Val)) (e : Exc) (h : heapifyV c first = .error e) : e = .typeError :=
  foldlM_error _ (· = .typeError) (fun s _ e he => insV_error c _ s e he) _ _ e h

theorem acceptV_error (c : Cfg) (st : List VE × Int) (k x : Val) (e : Exc) (h : acceptV c st k x = .error e) : e = .typeError := by
  unfold acceptV at h
  split at h
  · cases h
  · rcases bind_eq_error h with hk | ⟨b, -, hb⟩
    · exact kbV_error _ _ _ _ hk
    · cases b with
      | false => cases hb
      | true =>
        rcases bind_eq_error hb with hi | ⟨r, -, hr⟩
        · exact insV_error c _ _ _ hi
        · cases hr

theorem heapifyV_ne_oof (c : Cfg) (first : List (Val × Val)) : heapifyV c first ≠ .error .outOfFuel :=
  fun h => by have := heapifyV_error c first _ h; cases this

theorem acceptV_ne_oof (c : Cfg) (st : List VE × Int) (k x : Val) : acceptV c st k x ≠ .error .outOfFuel :=
  fun h => by have := acceptV_error c st k x _ h; cases this

theorem insV_length (c : Cfg) (x : VE) : ∀ (l r : List VE), insV c x l = .ok r → r.length = l.length + 1
  | [], r, h => by cases h; rfl
  | a :: l, r, h => by
    unfold insV at h
    obtain ⟨b, -, hb⟩ := bind_eq_ok h
    cases b with
    | false => cases hb; rfl
    | true =>
      obtain ⟨r', hr, hp⟩ := bind_eq_ok hb
      cases hp
      exact congrArg (· + 1) (insV_length c x l r' hr)

theorem heapifyV_length (c : Cfg) : ∀ (first : List (Val × Val)) (i : Nat) (h0 r : List VE),
    (first.zipIdx i).foldlM (fun h (p : (Val × Val) × Nat) => insV c ⟨p.1.1, stamp c.pos p.2, p.1.2⟩ h) h0 = .ok r →
    r.length = h0.length + first.length
  | [], _, h0, r, h => by cases h; rfl
  | p :: rest, i, h0, r, h => by
    rw [zipIdx_cons, foldlM_cons] at h
    obtain ⟨h1, hi, hr⟩ := bind_eq_ok h
    rw [heapifyV_length c rest (i + 1) h1 r hr, insV_length c _ _ _ hi, length_cons]; omega

/-! ## 3. orderable keys: the key-only selection is the integer one, and never raises -/

/-- one round of the integer-level scan: replace the worst entry if the new key is strictly better -/
def acceptK (largest : Bool) (acc : List (Int × Val)) (e : Int × Val) : List (Int × Val) :=
  match acc.getLast? with
  | none => acc
  | some w => if kb largest e.1 w.1 then insK largest e acc.dropLast else acc

theorem acceptK_some (largest : Bool) {acc : List (Int × Val)} {w : Int × Val} (e : Int × Val) (h : acc.getLast? = some w) :
    acceptK largest acc e = if kb largest e.1 w.1 = true then insK largest e acc.dropLast else acc := by
  unfold acceptK; rw [h]

theorem SortedK.dropLast {largest : Bool} {l : List (Int × Val)} (h : SortedK largest l) : SortedK largest l.dropLast :=
  Pairwise.sublist (dropLast_sublist l) h

/-- on a full, ordered heap "insert and keep the best `n`" is "replace the worst if strictly better" -/
theorem take_insK_full (largest : Bool) (e : Int × Val) : ∀ (acc : List (Int × Val)), SortedK largest acc → acc ≠ [] →
    (insK largest e acc).take acc.length = acceptK largest acc e
  | [], _, h => absurd rfl h
  | [a], _, _ => by
    unfold acceptK insK
    cases hk : kb largest e.1 a.1 <;> simp [hk, insK]
  | a :: b :: l, hs, _ => by
    have ih := take_insK_full largest e (b :: l) (pairwise_cons.mp hs).2 (cons_ne_nil _ _)
    obtain ⟨w, hw⟩ : ∃ w, (b :: l).getLast? = some w := ⟨_, getLast?_eq_some_getLast (cons_ne_nil b l)⟩
    rw [acceptK_some largest e hw] at ih
    rw [acceptK_some largest e ((getLast?_cons_cons).trans hw), dropLast_cons_cons]
    unfold insK
    cases hk : kb largest e.1 a.1
    · -- `e` passes `a`: the rest is the induction hypothesis, `a` put back in front
      simp only [Bool.false_eq_true, if_false, length_cons, take_succ_cons]
      rw [show l.length + 1 = (b :: l).length from rfl, ih]
      split <;> rfl
    · -- `e` goes to the front; it is then also strictly better than the worst entry
      have hkw : kb largest e.1 w.1 = true :=
        kb_of_kb_of_not largest hk ((pairwise_cons.mp hs).1 w (mem_of_getLast? hw))
      simp only [hkw, if_true, length_cons, take_succ_cons, dropLast_eq_take, length_cons, Nat.add_sub_cancel]

theorem acceptK_length (largest : Bool) (acc : List (Int × Val)) (e : Int × Val) : (acceptK largest acc e).length = acc.length := by
  unfold acceptK
  cases h : acc.getLast? with
  | none => rfl
  | some w =>
    simp only
    split
    · rw [insK_length, length_dropLast]
      have : acc ≠ [] := by intro h0; simp [h0] at h
      have := length_pos_iff.mpr this
      omega
    · rfl

theorem acceptK_sorted (largest : Bool) (acc : List (Int × Val)) (e : Int × Val) (hs : SortedK largest acc) :
    SortedK largest (acceptK largest acc e) := by
  unfold acceptK
  cases h : acc.getLast? with
  | none => exact hs
  | some w =>
    simp only
    split
    · exact insK_sorted largest e _ hs.dropLast
    · exact hs

theorem foldl_take_fits (largest : Bool) (n : Nat) : ∀ (l init : List (Int × Val)), init.length + l.length ≤ n →
    l.foldl (fun acc e => (insK largest e acc).take n) init = l.foldl (fun acc e => insK largest e acc) init
  | [], _, _ => rfl
  | e :: rest, init, h => by
    simp only [foldl_cons, length_cons] at h ⊢
    have hl : (insK largest e init).length ≤ n := by rw [insK_length]; omega
    rw [take_of_length_le hl]
    exact foldl_take_fits largest n rest _ (by rw [insK_length]; omega)

theorem foldl_insK_length (largest : Bool) : ∀ (l init : List (Int × Val)),
    (l.foldl (fun acc e => insK largest e acc) init).length = init.length + l.length
  | [], _ => by simp
  | e :: rest, init => by
    simp only [foldl_cons, length_cons]
    rw [foldl_insK_length largest rest, insK_length]; omega

theorem foldl_insK_sorted (largest : Bool) : ∀ (l init : List (Int × Val)), SortedK largest init →
    SortedK largest (l.foldl (fun acc e => insK largest e acc) init)
  | [], _, h => h
  | e :: rest, init, h => foldl_insK_sorted largest rest _ (insK_sorted largest e init h)

theorem foldl_take_full (largest : Bool) (n : Nat) (hn : 0 < n) : ∀ (l acc : List (Int × Val)), acc.length = n →
    SortedK largest acc →
    l.foldl (fun acc e => (insK largest e acc).take n) acc = l.foldl (acceptK largest) acc
  | [], _, _, _ => rfl
  | e :: rest, acc, hl, hs => by
    simp only [foldl_cons]
    have hne : acc ≠ [] := by intro h0; subst h0; simp at hl; omega
    have h1 : (insK largest e acc).take n = acceptK largest acc e := by
      rw [← hl]; exact take_insK_full largest e acc hs hne
    rw [h1]
    exact foldl_take_full largest n hn rest _ (by rw [acceptK_length, hl]) (acceptK_sorted largest acc e hs)

/-- the integer-level selection in two phases, as the algorithm runs it -/
theorem selK_phases (largest : Bool) (n : Nat) (keyed : List (Int × Val)) :
    selK largest n keyed =
      (keyed.drop n).foldl (acceptK largest) ((keyed.take n).foldl (fun acc e => insK largest e acc) []) := by
  unfold selK
  conv => lhs; rw [← take_append_drop n keyed, foldl_append]
  rw [foldl_take_fits largest n (keyed.take n) [] (by simp [length_take]; omega)]
  by_cases hle : n ≤ keyed.length
  · by_cases hn : n = 0
    · subst hn
      simp only [take_zero, foldl_nil, drop_zero]
      -- nothing is ever kept
      have : ∀ (l : List (Int × Val)), l.foldl (fun acc e => (insK largest e acc).take 0) [] = l.foldl (acceptK largest) [] := by
        intro l; induction l with
        | nil => rfl
        | cons e rest ih => simpa [acceptK] using ih
      exact this keyed
    · exact foldl_take_full largest n (by omega) _ _
        (by rw [foldl_insK_length]; simp [length_take, Nat.min_eq_left hle])
        (foldl_insK_sorted largest _ [] Pairwise.nil)
  · rw [drop_eq_nil_of_le (by omega)]; rfl

/-! ### `Val` keys that are orderable behave as their integer keys -/

def ikp (p : Val × Val) : Int × Val := (p.1.ikey, p.2)

def AllOrd (l : List (Val × Val)) : Prop := ∀ a ∈ l, a.1.orderable = true

theorem pyEq_ord {a b : Val} (ha : a.orderable = true) (hb : b.orderable = true) :
    Val.pyEq a b = decide (a.ikey = b.ikey) := by
  cases a <;> first | exact Bool.noConfusion ha | skip
  all_goals
    cases b <;> first | exact Bool.noConfusion hb | skip
    all_goals simp only [Val.pyEq, Val.key?, Val.ikey, Option.getD_some]; exact Bool.beq_eq_decide_eq _ _

theorem kbV_ord (largest : Bool) {x y : Val} (hx : x.orderable = true) (hy : y.orderable = true) :
    kbV largest x y = .ok (kb largest x.ikey y.ikey) := by
  unfold kbV kb; cases largest <;> simp [Val.lt_orderable, hx, hy]

theorem insKV_ord (largest : Bool) (e : Val × Val) (he : e.1.orderable = true) : ∀ (l : List (Val × Val)), AllOrd l →
    ∃ r, insKV largest e l = .ok r ∧ r.map ikp = insK largest (ikp e) (l.map ikp) ∧ AllOrd r
  | [], _ => ⟨[e], rfl, rfl, forall_mem_cons.mpr ⟨he, fun _ h => nomatch h⟩⟩
  | a :: l, hl => by
    obtain ⟨ha, hl'⟩ := forall_mem_cons.mp hl
    obtain ⟨r, hr, hm, ho⟩ := insKV_ord largest e he l hl'
    have hcond : (if Val.pyEq e.1 a.1 then (Except.ok true : Except Exc Bool) else kbV largest a.1 e.1) =
        .ok (!(kb largest e.1.ikey a.1.ikey)) := by
      rw [pyEq_ord he ha, kbV_ord largest ha he]
      by_cases heq : e.1.ikey = a.1.ikey
      · simp [heq, kb_irrefl]
      · have : kb largest a.1.ikey e.1.ikey = !(kb largest e.1.ikey a.1.ikey) := by
          unfold kb; cases largest <;> (rw [Bool.eq_iff_iff]; simp; omega)
        simp [heq, this]
    cases hk : kb largest e.1.ikey a.1.ikey <;> rw [hk] at hcond <;> unfold insKV insK <;>
      simp only [hcond, hk, map_cons, ikp]
    · exact ⟨a :: r, by rw [hr]; rfl, congrArg (ikp a :: ·) hm, forall_mem_cons.mpr ⟨ha, ho⟩⟩
    · exact ⟨e :: a :: l, rfl, rfl, forall_mem_cons.mpr ⟨he, hl⟩⟩

theorem foldlM_insKV_ord (largest : Bool) : ∀ (first acc : List (Val × Val)), AllOrd first → AllOrd acc →
    ∃ r, first.foldlM (fun acc e => insKV largest e acc) acc = .ok r ∧
      r.map ikp = (first.map ikp).foldl (fun acc e => insK largest e acc) (acc.map ikp) ∧ AllOrd r
  | [], acc, _, ha => ⟨acc, rfl, rfl, ha⟩
  | e :: rest, acc, hf, ha => by
    obtain ⟨r1, h1, m1, o1⟩ := insKV_ord largest e (hf e mem_cons_self) acc ha
    obtain ⟨r, h2, m2, o2⟩ := foldlM_insKV_ord largest rest r1 (fun b hb => hf b (mem_cons_of_mem e hb)) o1
    refine ⟨r, by simp [foldlM_cons, h1, bind, Except.bind, h2], ?_, o2⟩
    rw [m2, m1]; rfl

theorem acceptKV_ord (largest : Bool) (acc : List (Val × Val)) (e : Val × Val) (ha : AllOrd acc) (he : e.1.orderable = true) :
    ∃ r, acceptKV largest acc e = .ok r ∧ r.map ikp = acceptK largest (acc.map ikp) (ikp e) ∧ AllOrd r := by
  unfold acceptKV acceptK
  rw [getLast?_map]
  cases hl : acc.getLast? with
  | none => exact ⟨acc, rfl, rfl, ha⟩
  | some w =>
    have hw : w.1.orderable = true := ha w (mem_of_getLast? hl)
    simp only [Option.map_some, kbV_ord largest he hw, bind, Except.bind, ikp]
    by_cases hk : kb largest e.1.ikey w.1.ikey = true
    · simp only [hk, if_true]
      obtain ⟨r, hr, hm, ho⟩ := insKV_ord largest e he acc.dropLast (fun b hb => ha b (dropLast_subset acc hb))
      refine ⟨r, hr, ?_, ho⟩
      rw [hm, map_dropLast]; rfl
    · have hk' : kb largest e.1.ikey w.1.ikey = false := by simpa using hk
      simp only [hk', Bool.false_eq_true, if_false]
      exact ⟨acc, rfl, rfl, ha⟩

theorem foldlM_acceptKV_ord (largest : Bool) : ∀ (rest acc : List (Val × Val)), AllOrd rest → AllOrd acc →
    ∃ r, rest.foldlM (acceptKV largest) acc = .ok r ∧ r.map ikp = (rest.map ikp).foldl (acceptK largest) (acc.map ikp)
  | [], acc, _, _ => ⟨acc, rfl, rfl⟩
  | e :: rest, acc, hf, ha => by
    obtain ⟨r1, h1, m1, o1⟩ := acceptKV_ord largest acc e ha (hf e mem_cons_self)
    obtain ⟨r, h2, m2⟩ := foldlM_acceptKV_ord largest rest r1 (fun b hb => hf b (mem_cons_of_mem e hb)) o1
    refine ⟨r, by simp [foldlM_cons, h1, bind, Except.bind, h2], ?_⟩
    rw [m2, m1]; rfl

/-- **layer 3**: with orderable keys nothing raises and the result is the integer-level selection -/
theorem selectKV_orderable (largest : Bool) (n : Nat) (keyed : List (Val × Val)) (h : AllOrd keyed) :
    selectKV largest n keyed = .ok ((selK largest n (keyed.map ikp)).map (·.2)) := by
  have ht : AllOrd (keyed.take n) := fun a ha => h a (mem_of_mem_take ha)
  have hd : AllOrd (keyed.drop n) := fun a ha => h a (mem_of_mem_drop ha)
  rw [selK_phases, ← map_take, ← map_drop]
  unfold selectKV
  split
  · rename_i he
    have : keyed.take n = [] := by simpa using he
    rw [this]
    simp only [map_nil, foldl_nil]
    -- nothing in the heap: nothing is ever admitted
    have : ∀ (l : List (Int × Val)), l.foldl (acceptK largest) [] = [] := by
      intro l; induction l with
      | nil => rfl
      | cons e rest ih => simpa [acceptK] using ih
    rw [this]; rfl
  · obtain ⟨r0, h0, m0, o0⟩ := foldlM_insKV_ord largest (keyed.take n) [] ht (by intro a ha; simp at ha)
    obtain ⟨r, h1, m1⟩ := foldlM_acceptKV_ord largest (keyed.drop n) r0 hd o0
    simp only [h0, bind, Except.bind, h1, pure, Except.pure]
    congr 1
    have : r.map (·.2) = (r.map ikp).map (·.2) := by simp [map_map, ikp, Function.comp_def]
    rw [this, m1, m0]; rfl

/-- **the bounded heap selects `sorted(…)[:n]`**: for every direction, every stamp convention, every `n` and every input
    with orderable keys, `selectV` returns the first `n` items of the stable sort by key (descending for `nlargest`),
    and raises nothing. -/
theorem selectV_orderable (c : Cfg) (n : Nat) (keyed : List (Val × Val)) (h : AllOrd keyed) :
    selectV c n keyed = .ok ((spec c.largest n (keyed.map ikp)).map (·.2)) := by
  rw [selectV_eq_selectKV, selectKV_orderable c.largest n keyed h, selK_eq_spec]

end AsyncVerif.Sel
