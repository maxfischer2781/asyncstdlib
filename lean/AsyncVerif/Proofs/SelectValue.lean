import AsyncVerif.Proofs.Select
import AsyncVerif.Proofs.AggValues
/-!
# The bounded-heap models of `nlargest` / `nsmallest` in a fault-free world

`Std.nBestAlgo` run against a source that delivers `items` and a pure key function returns exactly what the pure
selection `Sel.selectV` returns on the `(key, item)` pairs — for every key (a `TypeError` of the pure selection is the
`TypeError` of the run), every `n`, every stamp convention (`nBestAlgo_run`).  With orderable keys that is
`sorted(…)[:n]` (`Sel.selectV_orderable`, `nBestAlgo_value`).
In every world, faulty or not, two configurations of the same direction are the same program
(`nBestAlgo_stamp_irrelevant`), hence asyncstdlib's model is CPython's inside the scope (`Impl.nBest_eq`);
the loops only consume from their source (`Std.oc_nBestAlgo`).
-/
namespace AsyncVerif

open List ListSpec

/-- a source that has reported its end -/
structure Spent (w : World) (s : Nat) : Prop where
  script : (w.srcs s).script = []
  dead : (w.srcs s).status.live = false

/-- what polling a finished source again shows: class-based iterators run user code (`pull`, `end`), generators and the
    wrappers of synchronous iterables do not -/
def repollLog (w : World) (s : Nat) : List Ev := if (w.srcs s).kind.repollVisible then endLog s else []

theorem pull_spent {w : World} {s : Nat} (h : Spent w s) :
    ∃ w', pull s w = (.ok none, w') ∧ Spent w' s ∧ w'.fns = w.fns ∧ w'.vis = w.vis ++ repollLog w s ∧
      (w'.srcs s).script = [] := by
  unfold pull repollLog
  simp only [h.dead, Bool.false_eq_true, if_false]
  by_cases hk : (w.srcs s).kind.repollVisible = true
  · simp only [hk, if_true]
    refine ⟨_, rfl, ⟨by simp [World.pushVis, h.script], by simp [World.pushVis, h.dead]⟩, rfl,
      by simp [World.pushVis, endLog], by simp [World.pushVis, h.script]⟩
  · simp only [hk, Bool.false_eq_true, if_false]
    exact ⟨w, rfl, h, rfl, by simp, h.script⟩

/-- `(key(x), x)` for every item -/
def keyedOf (kf : Val → Val) (items : List Val) : List (Val × Val) := items.map (fun x => (kf x, x))

/-- phase 1 in a fault-free world: the first `k` items (or all of them, and then the end of the source is seen) -/
theorem nbFirst_value (fn : Option Nat) (s : Nat) (kf : Val → Val) :
    ∀ (k : Nat) (items : List Val) (acc : List (Val × Val)) (w : World),
    Feeds w s items → KeyFn w fn kf →
    ∃ w', Std.nbFirst fn s k acc w = (.ok (acc ++ keyedOf kf (items.take k)), w') ∧ KeyFn w' fn kf ∧
      w'.vis = w.vis ++ keyedPullLog s fn kf (items.take k) ++ (if items.length < k then endLog s else []) ∧
      (w'.srcs s).kind = (w.srcs s).kind ∧
      (if items.length < k then Spent w' s else Feeds w' s (items.drop k)) := by
  intro k
  induction k with
  | zero =>
    intro items acc w hf hk
    exact ⟨w, by simp [Std.nbFirst, pure_apply, keyedOf], hk, by simp [keyedPullLog], rfl, by simpa using hf⟩
  | succ k ih =>
    intro items acc w hf hk
    cases items with
    | nil =>
      obtain ⟨w', hp, hs, hv, hd, hkind, hfn, -⟩ := pull_nil hf
      exact ⟨w', by simp [Std.nbFirst, bind_apply, hp, pure_apply, keyedOf], hk.of_fns hfn,
        by simp [hv, keyedPullLog], hkind, by simpa using Spent.mk hs hd⟩
    | cons x rest =>
      obtain ⟨w1, w2, hp, hc, hf2, hk2, hv, hkind⟩ := pull_key hf hk
      obtain ⟨w3, h3, hk3, hv3, hkind3, hrest⟩ := ih rest (acc ++ [(kf x, x)]) w2 hf2 hk2
      rw [List.append_assoc acc] at h3
      rw [hv, List.append_assoc w.vis] at hv3
      simp only [length_cons, Nat.add_lt_add_iff_right, take_succ_cons, drop_succ_cons]
      exact ⟨w3, by simp only [Std.nbFirst, bind_apply, hp, hc]; exact h3, hk3, hv3, hkind3.trans hkind, hrest⟩

/-- phase 2 in a fault-free world: the scan is the pure fold over the remaining `(key, item)` pairs -/
theorem nbScan_value (c : Sel.Cfg) (fn : Option Nat) (s : Nat) (kf : Val → Val) :
    ∀ (fuel : Nat) (rest : List Val) (st : List Sel.VE × Int) (w : World),
    Feeds w s rest → KeyFn w fn kf → rest.length < fuel →
    (Std.nbScan c fn s st fuel w).1 = (keyedOf kf rest).foldlM (fun st p => Sel.acceptV c st p.1 p.2) st ∧
    (∀ st', (keyedOf kf rest).foldlM (fun st p => Sel.acceptV c st p.1 p.2) st = .ok st' →
      ((Std.nbScan c fn s st fuel w).2.srcs s).script = [] ∧
      (Std.nbScan c fn s st fuel w).2.vis = w.vis ++ keyedPullLog s fn kf rest ++ endLog s) := by
  intro fuel
  induction fuel with
  | zero => intro _ _ _ _ _ h; exact absurd h (Nat.not_lt_zero _)
  | succ fuel ih =>
    intro rest st w hf hk hlt
    cases rest with
    | nil =>
      obtain ⟨w', hp, hs, hv, -⟩ := pull_nil hf
      simp only [Std.nbScan, bind_apply, hp]
      exact ⟨rfl, fun _ _ => ⟨hs, hv⟩⟩
    | cons x rest =>
      obtain ⟨w1, w2, hp, hc, hf2, hk2, hv, -⟩ := pull_key hf hk
      have ih := fun st1 => ih rest st1 w2 hf2 hk2 (Nat.lt_of_succ_lt_succ hlt)
      rw [hv, List.append_assoc w.vis] at ih
      simp only [Std.nbScan, bind_apply, hp, hc, liftExc_apply, keyedOf, map_cons, foldlM_cons]
      cases Sel.acceptV c st (kf x) x with
      | error e => exact ⟨rfl, fun _ h => nomatch h⟩
      | ok st1 => exact ih st1

theorem nbScan_spent (c : Sel.Cfg) (fn : Option Nat) (s : Nat) (st : List Sel.VE × Int) (fuel : Nat) (w : World)
    (h : Spent w s) : ∃ w', Std.nbScan c fn s st (fuel + 1) w = (.ok st, w') ∧ (w'.srcs s).script = [] ∧
      w'.vis = w.vis ++ repollLog w s := by
  obtain ⟨w', hp, -, -, hv, hs⟩ := pull_spent h
  exact ⟨w', by simp [Std.nbScan, bind_apply, hp, pure_apply], hs, hv⟩

theorem keyedOf_take (kf : Val → Val) (items : List Val) (n : Nat) : keyedOf kf (items.take n) = (keyedOf kf items).take n := by
  simp [keyedOf, map_take]

theorem keyedOf_drop (kf : Val → Val) (items : List Val) (n : Nat) : keyedOf kf (items.drop n) = (keyedOf kf items).drop n := by
  simp [keyedOf, map_drop]

/-- **the run is the pure selection** (fault-free source, pure key function, any keys, any `n`, any stamp convention):
    the result — value or `TypeError` — is that of `Sel.selectV` on the `(key, item)` pairs; when it is a value and
    `n > 0`, the whole input was consumed, the key applied once per item as it arrived, and a source shorter than `n`
    is polled once more after it ended (as `heapq` itself does). -/
theorem nBestAlgo_run (c : Sel.Cfg) (n : Nat) (fn : Option Nat) (s : Nat) (kf : Val → Val) (items : List Val)
    (fuel : Nat) (w : World) (hf : Feeds w s items) (hk : KeyFn w fn kf) (hlt : items.length < fuel) :
    (Std.nBestAlgo c n fn s fuel w).1 =
      (match Sel.selectV c n (keyedOf kf items) with | .ok r => .ok (.lst r) | .error e => .error e) ∧
    (∀ r, Sel.selectV c n (keyedOf kf items) = .ok r → n ≠ 0 →
      ((Std.nBestAlgo c n fn s fuel w).2.srcs s).script = [] ∧
      (Std.nBestAlgo c n fn s fuel w).2.vis = w.vis ++ keyedPullLog s fn kf items ++ endLog s ++
        (if 0 < items.length ∧ items.length < n then repollLog w s else [])) := by
  obtain ⟨w1, h1, hk1, hv1, hkind1, hrest⟩ := nbFirst_value fn s kf n items [] w hf hk
  simp only [nil_append] at h1
  unfold Std.nBestAlgo Sel.selectV
  simp only [bind_apply, h1, ← keyedOf_take, ← keyedOf_drop]
  by_cases hemp : (keyedOf kf (items.take n)).isEmpty = true
  · -- nothing collected: n = 0 or the input is empty
    simp only [hemp, if_true, pure_apply]
    refine ⟨by simp, fun r _ hn => ?_⟩
    have htake : items.take n = [] := by simpa [keyedOf] using hemp
    have hitems : items = [] := by
      cases items with
      | nil => rfl
      | cons x rest => cases n with
        | zero => exact absurd rfl hn
        | succ n => simp at htake
    subst hitems
    have hlt0 : ([] : List Val).length < n := by simp; omega
    simp only [hlt0, if_true] at hrest
    refine ⟨hrest.script, ?_⟩
    have hpos : 0 < n := Nat.pos_of_ne_zero hn
    simp [hv1, keyedPullLog, hpos]
  · simp only [hemp, Bool.false_eq_true, if_false]
    cases hh : Sel.heapifyV c (keyedOf kf (items.take n)) with
    | error e => simp [bind, Except.bind, liftExc_apply]
    | ok h0 =>
      simp only [liftExc_apply, bind, Except.bind]
      by_cases hshort : items.length < n
      · -- the source ended during phase 1: one more poll, no admission
        simp only [hshort, if_true] at hrest hv1
        obtain ⟨f', rfl⟩ := Nat.exists_eq_add_one_of_ne_zero (Nat.ne_of_gt (Nat.zero_lt_of_lt hlt))
        obtain ⟨w2, h2, hs2, hv2⟩ := nbScan_spent c fn s (h0, Sel.stamp c.pos n) f' w1 hrest
        have hdrop : items.drop n = [] := drop_eq_nil_of_le (by omega)
        simp only [hdrop, keyedOf, map_nil, foldlM_nil, pure, Except.pure]
        simp only [h2]
        refine ⟨trivial, fun r _ hn => ⟨hs2, ?_⟩⟩
        have hpos : 0 < items.length := by
          cases items with
          | nil => simp [keyedOf] at hemp
          | cons x rest => simp
        have htk : items.take n = items := take_of_length_le (by omega)
        simp only [hv2, hv1, htk, hpos, hshort, and_self, if_true]
        unfold repollLog
        rw [hkind1]
      · simp only [hshort, if_false] at hrest hv1
        have hdl : (items.drop n).length < fuel := by simp; omega
        obtain ⟨hres, hsc⟩ := nbScan_value c fn s kf fuel (items.drop n) (h0, Sel.stamp c.pos n) w1 hrest hk1 hdl
        generalize Std.nbScan c fn s (h0, Sel.stamp c.pos n) fuel w1 = run at hres hsc
        obtain ⟨res, w2⟩ := run
        cases hres
        cases hfold : (keyedOf kf (items.drop n)).foldlM (fun st p => Sel.acceptV c st p.1 p.2) (h0, Sel.stamp c.pos n) with
        | error e => exact ⟨rfl, fun r hr => nomatch hr⟩
        | ok st' =>
          obtain ⟨hs2, hv2⟩ := hsc st' hfold
          dsimp only at hs2 hv2
          simp only [pure_apply]
          refine ⟨rfl, fun r _ hn => ⟨hs2, ?_⟩⟩
          have hnot : ¬ (0 < items.length ∧ items.length < n) := fun h => hshort h.2
          simp only [hv2, hv1, hnot, if_false, append_nil]
          have : keyedPullLog s fn kf (items.take n) ++ keyedPullLog s fn kf (items.drop n) = keyedPullLog s fn kf items := by
            unfold keyedPullLog; rw [← flatMap_append, take_append_drop]
          simp [List.append_assoc, ← this]

/-! ## The stamp convention is irrelevant — in every world

asyncstdlib stamps downwards in both directions and wraps the keys of `nsmallest` in `ReverseLT`; CPython's `nsmallest`
stamps upwards on a max-heap.  The two runs are the same function of the world: same pulls, same key calls, same
comparisons, same result or same exception at the same moment. -/

/-- two stamped heaps (possibly under different stamp conventions) that erase to the same stamp-free list -/
def RelHH (c1 c2 : Sel.Cfg) (st1 st2 : List Sel.VE × Int) : Prop :=
  ∃ acc, Sel.RelH c1.pos st1.2 st1.1 acc ∧ Sel.RelH c2.pos st2.2 st2.1 acc

theorem ExRel.join {α β γ : Type} {R1 : α → γ → Prop} {R2 : β → γ → Prop} {m1 : Except Exc α} {m2 : Except Exc β}
    {k : Except Exc γ} (h1 : Sel.ExRel R1 m1 k) (h2 : Sel.ExRel R2 m2 k) :
    Sel.ExRel (fun a b => ∃ c, R1 a c ∧ R2 b c) m1 m2 := by
  cases m1 <;> cases k <;> cases m2 <;>
    first | exact h1.elim | exact h2.elim | exact Eq.trans h1 (Eq.symm h2) | exact ⟨_, h1, h2⟩

theorem acceptV_rel (c1 c2 : Sel.Cfg) (hl : c1.largest = c2.largest) (st1 st2 : List Sel.VE × Int)
    (hr : RelHH c1 c2 st1 st2) (k x : Val) :
    Sel.ExRel (RelHH c1 c2) (Sel.acceptV c1 st1 k x) (Sel.acceptV c2 st2 k x) := by
  obtain ⟨acc, h1, h2⟩ := hr
  have s1 := Sel.accept_sim c1 st1.1 st1.2 acc h1 k x
  have s2 := Sel.accept_sim c2 st2.1 st2.2 acc h2 k x
  rw [← hl] at s2
  refine (ExRel.join s1 s2).mono ?_
  intro a b ⟨c, ha, hb⟩
  exact ⟨c, ha.1, hb.1⟩

theorem later_stamp_mono (pos : Bool) (m n : Nat) (i : Int) (hmn : m ≤ n)
    (h : Sel.later pos (Sel.stamp pos m) i = true) : Sel.later pos (Sel.stamp pos n) i = true := by
  unfold Sel.later Sel.stamp at *; cases pos <;> simp at * <;> omega

theorem nbFirst_length (fn : Option Nat) (s : Nat) : ∀ (k : Nat) (acc : List (Val × Val)) (w : World) (r : List (Val × Val))
    (w' : World), Std.nbFirst fn s k acc w = (.ok r, w') → r.length ≤ acc.length + k := by
  intro k
  induction k with
  | zero => intro acc w r w' h; cases h; exact Nat.le_refl _
  | succ k ih =>
    intro acc w r w' h
    obtain ⟨o, w1, -, h⟩ := bind_ok h
    cases o with
    | none => cases h; exact Nat.le_add_right _ _
    | some x =>
      obtain ⟨key, w2, -, h⟩ := bind_ok h
      have := ih _ _ _ _ h
      rw [length_append] at this
      exact Nat.le_trans this (Nat.le_of_eq (Nat.add_right_comm _ 1 k))

theorem nbScan_rel (c1 c2 : Sel.Cfg) (hl : c1.largest = c2.largest) (fn : Option Nat) (s : Nat) :
    ∀ (fuel : Nat) (st1 st2 : List Sel.VE × Int) (w : World), RelHH c1 c2 st1 st2 →
    (Std.nbScan c1 fn s st1 fuel w).2 = (Std.nbScan c2 fn s st2 fuel w).2 ∧
    Sel.ExRel (RelHH c1 c2) (Std.nbScan c1 fn s st1 fuel w).1 (Std.nbScan c2 fn s st2 fuel w).1 := by
  intro fuel
  induction fuel with
  | zero => intro st1 st2 w _; exact ⟨rfl, rfl⟩
  | succ fuel ih =>
    intro st1 st2 w hr
    simp only [Std.nbScan, bind_apply]
    rcases hp : pull s w with ⟨r, w1⟩
    cases r with
    | error e => exact ⟨rfl, rfl⟩
    | ok o =>
      cases o with
      | none => exact ⟨rfl, hr⟩
      | some x =>
        simp only [bind_apply]
        rcases hk : Std.keyOf fn x w1 with ⟨rk, w2⟩
        cases rk with
        | error e => exact ⟨rfl, rfl⟩
        | ok key =>
          simp only [liftExc_apply]
          have := acceptV_rel c1 c2 hl st1 st2 hr key x
          generalize Sel.acceptV c1 st1 key x = r1 at this
          generalize Sel.acceptV c2 st2 key x = r2 at this
          cases r1 <;> cases r2 <;> first | exact this.elim | exact ⟨rfl, this⟩ | exact ih _ _ w2 this

/-- **the stamp convention is irrelevant**: two configurations with the same direction are the same computation -/
theorem nBestAlgo_stamp_irrelevant (c1 c2 : Sel.Cfg) (hl : c1.largest = c2.largest) (n : Nat) (fn : Option Nat)
    (s fuel : Nat) : Std.nBestAlgo c1 n fn s fuel = Std.nBestAlgo c2 n fn s fuel := by
  funext w
  simp only [Std.nBestAlgo, bind_apply]
  rcases hf : Std.nbFirst fn s n [] w with ⟨r, w1⟩
  cases r with
  | error e => rfl
  | ok first =>
    have hflen : first.length ≤ n := by simpa using nbFirst_length fn s n [] w first w1 hf
    simp only
    split
    · rfl
    · simp only [liftExc_apply, bind_apply]
      have h1 := Sel.heapify_sim c1 first 0 [] [] ⟨rfl, by simp⟩
      have h2 := Sel.heapify_sim c2 first 0 [] [] ⟨rfl, by simp⟩
      rw [← hl] at h2
      have hj := ExRel.join h1 h2
      unfold Sel.heapifyV
      generalize first.zipIdx.foldlM (fun h (p : (Val × Val) × Nat) => Sel.insV c1 ⟨p.1.1, Sel.stamp c1.pos p.2, p.1.2⟩ h) [] = r1 at hj
      generalize first.zipIdx.foldlM (fun h (p : (Val × Val) × Nat) => Sel.insV c2 ⟨p.1.1, Sel.stamp c2.pos p.2, p.1.2⟩ h) [] = r2 at hj
      cases r1 <;> cases r2 <;> first | exact hj.elim | (cases (hj : _ = _); rfl) | skip
      rename_i hh1 hh2
      obtain ⟨acc, ⟨⟨he1, hfr1⟩, _⟩, ⟨⟨he2, hfr2⟩, _⟩⟩ := hj
      have hrel : RelHH c1 c2 (hh1, Sel.stamp c1.pos n) (hh2, Sel.stamp c2.pos n) :=
        ⟨acc, ⟨he1, fun a ha => later_stamp_mono _ _ n _ (by omega) (hfr1 a ha)⟩,
              ⟨he2, fun a ha => later_stamp_mono _ _ n _ (by omega) (hfr2 a ha)⟩⟩
      obtain ⟨hw, hres⟩ := nbScan_rel c1 c2 hl fn s fuel _ _ w1 hrel
      dsimp only
      generalize Std.nbScan c1 fn s (hh1, Sel.stamp c1.pos n) fuel w1 = q1 at hw hres
      generalize Std.nbScan c2 fn s (hh2, Sel.stamp c2.pos n) fuel w1 = q2 at hw hres
      obtain ⟨a1, v1⟩ := q1
      obtain ⟨a2, v2⟩ := q2
      cases hw
      cases a1 <;> cases a2 <;> first | exact hres.elim | (cases (hres : _ = _); rfl) | skip
      rename_i s1 s2
      obtain ⟨acc', ⟨e1, _⟩, ⟨e2, _⟩⟩ := hres
      -- both final heaps erase to `acc'`, so they hold the same items
      have : s1.1.map (·.item) = s2.1.map (·.item) := by
        have e := e1.trans e2.symm
        have := congrArg (List.map (·.2)) e
        simpa [map_map, Sel.eraseE, Function.comp_def] using this
      simp only [pure_apply, this]

/-- asyncstdlib's `nlargest` / `nsmallest` is the CPython algorithm inside the scope of its source — an identity of
    programs (the stamp conventions differ for `nsmallest`; `nBestAlgo_stamp_irrelevant`) -/
theorem Impl.nBest_eq (largest : Bool) (n : Nat) (fn : Option Nat) (s fuel : Nat) :
    Impl.nBest largest n fn s fuel = scopedIter s (Std.nBest largest n fn s fuel) := by
  unfold Impl.nBest Std.nBest
  rw [nBestAlgo_stamp_irrelevant ⟨largest, false⟩ ⟨largest, !largest⟩ rfl]

/-- `sorted(items, key, reverse=largest)[:n]` on the decorated pairs is `ListSpec.nBest` -/
theorem spec_eq_listSpec (largest : Bool) (n : Nat) (kf : Val → Val) (items : List Val) :
    (Sel.spec largest n ((keyedOf kf items).map Sel.ikp)).map (·.2) =
      ListSpec.nBest largest n (fun x => (kf x).ikey) items := by
  unfold Sel.spec ListSpec.nBest ListSpec.sorted keyedOf
  rw [map_map]
  have hm : ((items.map ((Sel.ikp ∘ fun x => (kf x, x)))).mergeSort (Sel.specLe largest)) =
      (items.mergeSort (ListSpec.sortLe largest fun x => (kf x).ikey)).map (Sel.ikp ∘ fun x => (kf x, x)) := by
    symm
    apply map_mergeSort
    intro a _ b _
    unfold ListSpec.sortLe Sel.specLe Sel.kb Sel.ikp
    cases largest <;> simp <;> (rw [Bool.eq_iff_iff]; simp)
  rw [hm, ← map_take, map_map]
  conv => rhs; rw [← map_id (take n _)]
  congr 1

theorem keyedOf_allOrd (kf : Val → Val) (items : List Val) (hall : ∀ x ∈ items, (kf x).orderable = true) :
    Sel.AllOrd (keyedOf kf items) := by
  intro a ha
  obtain ⟨x, hx, rfl⟩ := mem_map.mp ha
  exact hall x hx

/-- **value of the bounded-heap algorithm** (any direction, any stamp convention, every `n`): with orderable keys the run
    returns `sorted(items, key=key, reverse=largest)[:n]` -/
theorem nBestAlgo_value (c : Sel.Cfg) (n : Nat) (fn : Option Nat) (s : Nat) (kf : Val → Val) (items : List Val)
    (fuel : Nat) (w : World) (hf : Feeds w s items) (hk : KeyFn w fn kf)
    (hall : ∀ x ∈ items, (kf x).orderable = true) (hlt : items.length < fuel) :
    (Std.nBestAlgo c n fn s fuel w).1 = .ok (.lst (ListSpec.nBest c.largest n (fun x => (kf x).ikey) items)) ∧
    (n ≠ 0 → ((Std.nBestAlgo c n fn s fuel w).2.srcs s).script = [] ∧
      (Std.nBestAlgo c n fn s fuel w).2.vis = w.vis ++ keyedPullLog s fn kf items ++ endLog s ++
        (if 0 < items.length ∧ items.length < n then repollLog w s else [])) := by
  have hsel := Sel.selectV_orderable c n (keyedOf kf items) (keyedOf_allOrd kf items hall)
  obtain ⟨h1, h2⟩ := nBestAlgo_run c n fn s kf items fuel w hf hk hlt
  rw [hsel] at h1
  refine ⟨?_, fun hn => h2 _ hsel hn⟩
  rw [h1, spec_eq_listSpec]

/-- `n = 0`: nothing is pulled, no callable runs, the world is left as it was -/
theorem nBestAlgo_zero (c : Sel.Cfg) (fn : Option Nat) (s fuel : Nat) (w : World) :
    Std.nBestAlgo c 0 fn s fuel w = (.ok (.lst []), w) := by
  simp [Std.nBestAlgo, Std.nbFirst, bind_apply, pure_apply]

namespace Std

theorem oc_nbFirst (fn : Option Nat) (s : Nat) : ∀ k acc, OnlyConsumes s (nbFirst fn s k acc) := by
  intro k
  induction k with
  | zero => exact fun _ => oc_pure s _
  | succ k ih => exact fun acc => oc_round (oc_pure s _) fun x => oc_bind (oc_keyOf s fn x) fun _ => ih _

theorem oc_nbScan (c : Sel.Cfg) (fn : Option Nat) (s fuel : Nat) : ∀ st, OnlyConsumes s (nbScan c fn s st fuel) := by
  induction fuel with
  | zero => exact fun _ => oc_raise s _
  | succ fuel ih =>
    exact fun st => oc_round (oc_pure s _) fun x => oc_bind (oc_keyOf s fn x) fun _ => oc_bind (oc_liftExc s _) ih

theorem oc_nBestAlgo (c : Sel.Cfg) (n : Nat) (fn : Option Nat) (s fuel : Nat) :
    OnlyConsumes s (nBestAlgo c n fn s fuel) :=
  oc_bind (oc_nbFirst fn s n []) fun _ => oc_ite (oc_pure s _) <|
    oc_bind (oc_liftExc s _) fun _ => oc_bind (oc_nbScan c fn s fuel _) fun _ => oc_pure s _

theorem oc_nBest (largest : Bool) (n : Nat) (fn : Option Nat) (s fuel : Nat) :
    OnlyConsumes s (nBest largest n fn s fuel) := oc_nBestAlgo _ n fn s fuel

end Std

end AsyncVerif
