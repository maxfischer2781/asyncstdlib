import AsyncVerif.Proofs.TwinMore
import AsyncVerif.Proofs.Release
/-!
# chain: twin and release

`chain` scopes each input separately and goes on to the next one, so after the first input the
asyncstdlib run and the CPython run are in *different* worlds (the finished input is closed in one,
merely exhausted in the other).  `VR w w'` relates worlds that agree on everything a later pull can
observe: logs, consumer, callables and, per source, script, liveness and kind.
-/
namespace AsyncVerif

structure VR (w w' : World) : Prop where
  vis : w.vis = w'.vis
  cons : w.cons = w'.cons
  fns : w.fns = w'.fns
  calls : w.calls = w'.calls
  srcs : ∀ s, (w.srcs s).script = (w'.srcs s).script ∧ (w.srcs s).status.live = (w'.srcs s).status.live
    ∧ (w.srcs s).kind = (w'.srcs s).kind

theorem VR.refl (w : World) : VR w w := ⟨rfl, rfl, rfl, rfl, fun _ => ⟨rfl, rfl, rfl⟩⟩

def VRel {α : Type} (m : M α) : Prop :=
  ∀ w w', VR w w' → (m w).1 = (m w').1 ∧ VR (m w).2 (m w').2

theorem pullStep_vr (s : Nat) {x y : Src} (hsc : x.script = y.script) (hlv : x.status.live = y.status.live)
    (hk : x.kind = y.kind) :
    (pullStep s x).1 = (pullStep s y).1 ∧ (pullStep s x).2.2 = (pullStep s y).2.2 ∧
    (pullStep s x).2.1.script = (pullStep s y).2.1.script ∧
    (pullStep s x).2.1.status.live = (pullStep s y).2.1.status.live ∧
    (pullStep s x).2.1.kind = (pullStep s y).2.1.kind := by
  unfold pullStep
  rw [← hlv, ← hk]
  by_cases hl : x.status.live
  · rw [if_pos hl, if_pos hl, ← hsc]
    cases x.script with
    | nil => exact ⟨rfl, rfl, rfl, rfl, rfl⟩
    | cons r rest => cases r <;> exact ⟨rfl, rfl, rfl, rfl, rfl⟩
  · rw [if_neg hl, if_neg hl]
    exact ⟨rfl, rfl, hsc, hlv, hk⟩

theorem vrel_pull (s : Nat) : VRel (pull s) := by
  intro w w' h
  obtain ⟨hsc, hlv, hkd⟩ := h.srcs s
  obtain ⟨hr, hn, hx⟩ := pullStep_vr s hsc hlv hkd
  rw [pull_eq, pull_eq]
  exact ⟨hr, (by rw [h.vis, hn] : w.vis ++ _ = w'.vis ++ _), h.cons, h.fns, h.calls,
    World.setSrc_rel (R := fun a b => a.script = b.script ∧ a.status.live = b.status.live ∧ a.kind = b.kind) s hx h.srcs⟩

theorem vrel_yieldV (v : Val) : VRel (yieldV v) := by
  intro w w' h
  rw [yieldV_eq, yieldV_eq, ← h.cons]
  exact ⟨rfl, congrArg (· ++ _) h.vis, rfl, h.fns, h.calls, h.srcs⟩

theorem vrel_bind {α β : Type} {m : M α} {f : α → M β} (hm : VRel m) (hf : ∀ a, VRel (f a)) : VRel (m >>= f) := by
  intro w w' h
  obtain ⟨hr, hw⟩ := hm w w' h
  rw [bind_apply, bind_apply]
  rcases hmw : m w with ⟨r, w1⟩
  rcases hmw' : m w' with ⟨r', w1'⟩
  rw [hmw, hmw'] at hr hw
  simp only at hr hw
  subst hr
  cases r with
  | ok a => exact hf a w1 w1' hw
  | error x => exact ⟨rfl, hw⟩

theorem vrel_pure {α : Type} (a : α) : VRel (pure a : M α) := fun _ _ h => ⟨rfl, h⟩
theorem vrel_raise {α : Type} (x : Exc) : VRel (raise x : M α) := fun _ _ h => ⟨rfl, h⟩

theorem vrel_sequential : Sequential @VRel := ⟨vrel_pure, fun x _ => vrel_raise x, vrel_bind⟩

theorem vrel_passLoop (s fuel : Nat) : VRel (passLoop s fuel) :=
  vrel_sequential.passLoop (vrel_pull s) vrel_yieldV fuel

theorem pull_none_nonlive (s : Nat) (w w1 : World) (hp : pull s w = (.ok none, w1)) :
    (w1.srcs s).status.live = false := by
  rw [pull_eq] at hp
  obtain ⟨hr, rfl⟩ := Prod.mk.inj hp
  rw [show (w.step s _ _).srcs s = _ from w.setSrc_srcs_self s _]
  revert hr
  unfold pullStep
  split
  · split <;> first | exact fun _ => rfl | (intro h; cases h)
  · rename_i hl; exact fun _ => Bool.eq_false_iff.mpr hl

theorem passLoop_succ (s fuel : Nat) :
    passLoop s (fuel + 1) = pull s >>= fun
      | none => pure ()
      | some x => yieldV x >>= fun _ => passLoop s fuel := by
  unfold passLoop
  rw [forEach]
  refine congrArg (pull s >>= ·) (funext fun r => ?_)
  cases r with
  | none => rfl
  | some x => simp only [M.bind_assoc, M.pure_bind, if_true]

theorem passLoop_ok_nonlive (s : Nat) : ∀ (fuel : Nat) (w : World),
    (passLoop s fuel w).1 = .ok () → ((passLoop s fuel w).2.srcs s).status.live = false
  | 0, _, h => nomatch h
  | fuel+1, w, h => by
    rw [passLoop_succ, bind_apply] at h ⊢
    rcases hp : pull s w with ⟨r, w1⟩
    rw [hp] at h
    rcases r with e | (_ | x)
    · cases h
    · exact pull_none_nonlive s w w1 hp
    · dsimp only [bind_apply] at h ⊢
      revert h
      rcases yieldV x w1 with ⟨r2, w2⟩
      rcases r2 with e | u
      · exact nofun
      · exact passLoop_ok_nonlive s fuel w2

/-- closing an input that is no longer live changes nothing a later pull can observe -/
theorem closeSrc_vr (s : Nat) (w w' : World) (h : VR w w') (hn : (w.srcs s).status.live = false) :
    VR (closeSrc s w).2 w' := by
  obtain ⟨r, e⟩ := closeSrc_eq s w
  rw [e]
  refine ⟨h.vis, h.cons, h.fns, h.calls, fun t => ?_⟩
  show ((w.setSrc s _).srcs t).script = _ ∧ ((w.setSrc s _).srcs t).status.live = _ ∧ ((w.setSrc s _).srcs t).kind = _
  by_cases ht : t = s
  · subst ht
    rw [World.setSrc_srcs_self, closeStep_script, closeStep_live, closeStep_kind, hn, Bool.and_false]
    exact hn ▸ h.srcs t
  · rw [World.setSrc_srcs_ne _ _ ht]; exact h.srcs t

/-- `chain._chain_iterator` against `chain_next`, from related worlds -/
theorem chainIter_vr (fuel : Nat) : ∀ (srcs : List Nat) (w w' : World), VR w w' →
    (Impl.chainIter srcs fuel w).1 = (Std.chain srcs fuel w').1 ∧
    (Impl.chainIter srcs fuel w).2.vis = (Std.chain srcs fuel w').2.vis ∧
    (Impl.chainIter srcs fuel w).2.cons = (Std.chain srcs fuel w').2.cons := by
  intro srcs
  induction srcs with
  | nil => intro w w' h; exact ⟨rfl, h.vis, h.cons⟩
  | cons s rest ih =>
    intro w w' h
    have e1 : Impl.chainIter (s :: rest) fuel = (scopedIter s (passLoop s fuel) >>= fun _ => Impl.chainIter rest fuel) := rfl
    have e2 : Std.chain (s :: rest) fuel = (passLoop s fuel >>= fun _ => Std.chain rest fuel) := rfl
    have ⟨hr, hvr⟩ := vrel_passLoop s fuel w w' h
    have hnl := passLoop_ok_nonlive s fuel w
    rw [e1, e2, bind_apply, bind_apply, scopedIter, tryFinally_eq, (closeSrc_quiet s _).1]
    revert hr hvr hnl
    rcases passLoop s fuel w with ⟨ra, wa⟩
    rcases passLoop s fuel w' with ⟨rb, wb⟩
    rintro ⟨⟩ hvr hnl
    cases ra with
    | ok u => exact ih _ wb (closeSrc_vr s wa wb hvr (hnl rfl))
    | error e =>
      by_cases hf : isFuelOut ((Except.error e : Except Exc Unit), wa).fst = true
      · rw [if_pos hf]; exact ⟨rfl, hvr.vis, hvr.cons⟩
      · rw [if_neg hf]
        exact ⟨rfl, (closeSrc_quiet s wa).2.1.trans hvr.vis, (closeSrc_quiet s wa).2.2.trans hvr.cons⟩

theorem closeIfOwned_quiet (s : Nat) : Quiet (Impl.closeIfOwned s) := fun w => by
  unfold Impl.closeIfOwned
  split
  · exact closeSrc_quiet s w
  · exact ⟨rfl, rfl, rfl⟩

theorem closeOwned_quiet : ∀ l, Quiet (Impl.closeOwned l)
  | [] => fun _ => ⟨rfl, rfl, rfl⟩
  | s :: rest => (closeIfOwned_quiet s).seq (closeOwned_quiet rest)

/-- the `chain` handle is its iterator, except that the consumer's `aclose()` also closes the owned inputs -/
theorem chain_apply (srcs : List Nat) (fuel : Nat) (w : World) :
    ((Impl.chainIter srcs fuel w).1 ≠ .error .genExit ∧ Impl.chain srcs fuel w = Impl.chainIter srcs fuel w) ∨
    ((Impl.chainIter srcs fuel w).1 = .error .genExit ∧
      Impl.chain srcs fuel w = (.error .genExit, (Impl.closeOwned srcs (Impl.chainIter srcs fuel w).2).2)) := by
  unfold Impl.chain
  rcases Impl.chainIter srcs fuel w with ⟨r, w1⟩
  cases r with
  | ok u => exact Or.inl ⟨nofun, rfl⟩
  | error e =>
    cases e <;> try exact Or.inl ⟨nofun, rfl⟩
    have hq := (closeOwned_quiet srcs w1).1
    dsimp only
    revert hq
    rcases Impl.closeOwned srcs w1 with ⟨r2, w2⟩
    rintro ⟨⟩
    exact Or.inr ⟨rfl, rfl⟩

theorem chain_handle_twin (srcs : List Nat) (fuel : Nat) : Twin (Impl.chain srcs fuel) (Impl.chainIter srcs fuel) := by
  intro w
  rcases chain_apply srcs fuel w with ⟨_, e⟩ | ⟨hg, e⟩ <;> rw [e]
  · exact ⟨rfl, rfl⟩
  · exact ⟨hg.symm, (closeOwned_quiet srcs _).2.1⟩

theorem chain_twin (srcs : List Nat) (fuel : Nat) : Twin (Impl.chain srcs fuel) (Std.chain srcs fuel) := by
  intro w
  have h1 := chain_handle_twin srcs fuel w
  have h2 := chainIter_vr fuel srcs w w (VR.refl w)
  exact ⟨h1.1.trans h2.1, h1.2.trans h2.2.1⟩

/-- a program never un-releases a source -/
def RelMono {α : Type} (m : M α) : Prop :=
  Keeps (fun w w' => ∀ t, Released (w.srcs t) → Released (w'.srcs t)) m

theorem relMono_order : SrcsOrder (fun w w' => ∀ t, Released (w.srcs t) → Released (w'.srcs t)) :=
  ⟨fun e _ h => e ▸ h, fun h1 h2 t h => h2 t (h1 t h)⟩

theorem relMono_closeSrc (s : Nat) : RelMono (closeSrc s) := fun w t h => closeSrc_preserves s t w h

/-- a released source that is still live can only be a class-based one that was closed before -/
theorem pullStep_released (s : Nat) {x : Src} (h : Released x) : Released (pullStep s x).2.1 := by
  by_cases hl : x.status.live
  · rcases x with ⟨k, sc, st, c⟩
    cases k
    case agen => cases st <;> simp_all [Released, Status.live]
    case aobj =>
      have hc : 0 < c := h.elim id fun he => by subst he; cases hl
      unfold pullStep
      rw [if_pos hl]
      split <;> exact Or.inl hc
    all_goals (unfold Released; rw [pullStep_kind]; trivial)
  · unfold pullStep
    rw [if_neg hl]
    exact h

theorem relMono_pull (s : Nat) : RelMono (pull s) := by
  intro w t h
  rw [pull_eq]
  show Released ((w.setSrc s _).srcs t)
  by_cases hts : t = s
  · subst hts; rw [World.setSrc_srcs_self]; exact pullStep_released t h
  · rw [World.setSrc_srcs_ne _ _ hts]; exact h

theorem relMono_passLoop (s fuel : Nat) : RelMono (passLoop s fuel) :=
  relMono_order.sequential.passLoop (relMono_pull s) relMono_order.yieldV fuel

theorem relMono_chainIter (fuel : Nat) : ∀ srcs, RelMono (Impl.chainIter srcs fuel) := by
  intro srcs
  induction srcs with
  | nil => exact relMono_order.pure _
  | cons s rest ih =>
    exact relMono_order.bind
      (relMono_order.tryFinally (relMono_passLoop s fuel) (relMono_closeSrc s) (closeSrc_quiet s)) (fun _ => ih)

theorem chainIter_released (fuel : Nat) : ∀ (srcs : List Nat) (w : World),
    (Impl.chainIter srcs fuel w).1 = .ok () → ∀ s ∈ srcs, Released ((Impl.chainIter srcs fuel w).2.srcs s) := by
  intro srcs
  induction srcs with
  | nil => intro w _ s hs; simp at hs
  | cons a rest ih =>
    intro w hok s hs
    have e1 : Impl.chainIter (a :: rest) fuel = (scopedIter a (passLoop a fuel) >>= fun _ => Impl.chainIter rest fuel) := rfl
    rw [e1] at hok ⊢
    rw [bind_apply] at hok ⊢
    rcases hA : scopedIter a (passLoop a fuel) w with ⟨r, w1⟩
    rw [hA] at hok
    cases r with
    | error e => simp at hok
    | ok u =>
      simp only at hok ⊢
      have hrel : Released (w1.srcs a) := by
        have := scopedIter_released a (passLoop a fuel) w (by rw [hA]; simp)
        rw [hA] at this; exact this
      rcases List.mem_cons.mp hs with h | h
      · subst h; exact relMono_chainIter fuel rest w1 s hrel
      · exact ih w1 hok s h

theorem closeIfOwned_kind (s t : Nat) (w : World) :
    ((Impl.closeIfOwned s w).2.srcs t).kind = (w.srcs t).kind := by
  unfold Impl.closeIfOwned
  split
  · obtain ⟨r, e⟩ := closeSrc_eq s w
    rw [e]
    show ((w.setSrc s _).srcs t).kind = _
    by_cases hts : t = s
    · subst hts; rw [World.setSrc_srcs_self, closeStep_kind]
    · rw [World.setSrc_srcs_ne _ _ hts]
  · rfl

theorem relMono_closeIfOwned (s : Nat) : RelMono (Impl.closeIfOwned s) := by
  intro w t h
  unfold Impl.closeIfOwned
  split
  · exact closeSrc_preserves s t w h
  · exact h

theorem relMono_closeOwned : ∀ l, RelMono (Impl.closeOwned l)
  | [] => relMono_order.pure _
  | s :: rest => relMono_order.bind (relMono_closeIfOwned s) fun _ => relMono_closeOwned rest

theorem closeIfOwned_ok (s : Nat) (w : World) : (Impl.closeIfOwned s w).1 = .ok () := (closeIfOwned_quiet s w).1

theorem closeOwned_cons_apply (a : Nat) (rest : List Nat) (w : World) :
    Impl.closeOwned (a :: rest) w = Impl.closeOwned rest (Impl.closeIfOwned a w).2 := by
  have hok := closeIfOwned_ok a w
  rw [Impl.closeOwned, bind_apply]
  revert hok
  rcases Impl.closeIfOwned a w with ⟨r, w1⟩
  rintro ⟨⟩
  rfl

/-- an argument `chain` does not own is not subject to the property -/
theorem closeIfOwned_releases (s : Nat) (w : World) : Released ((Impl.closeIfOwned s w).2.srcs s) := by
  unfold Impl.closeIfOwned
  split
  · exact closeSrc_releases s w
  · rename_i hk
    unfold Released
    split
    · exact absurd (Or.inr ‹_›) hk
    · exact absurd (Or.inl ‹_›) hk
    · trivial

/-- `chain.aclose()`: every owned iterator (async generator or class-based with `aclose`) is released;
    other kinds are not subject to the property -/
theorem closeOwned_releases : ∀ (l : List Nat) (w : World), ∀ s ∈ l, Released ((Impl.closeOwned l w).2.srcs s)
  | a :: rest, w, s, hs => by
    rw [closeOwned_cons_apply]
    rcases List.mem_cons.mp hs with rfl | h
    · exact relMono_closeOwned rest _ s (closeIfOwned_releases s w)
    · exact closeOwned_releases rest _ s h

end AsyncVerif
