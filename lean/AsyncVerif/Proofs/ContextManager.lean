import AsyncVerif.Machines.ContextManager
/-!
# contextmanager — for `Properties/C13.lean`

What can come out of a generator frame and of `aclose()` under the runtime's rules (`settle_sai`,
`settle_not_stop`, `aclose_raised`); asyncstdlib's `except` chain read without exception classes
(`handlers_surface`, `handlers_genexit`) and compared with CPython's (`handlers_eq`); the `async
with` statement around an entered generator (`finalOf`, `run_yield`); the second-`yield` hypothesis
from and for the proofs (`secondYieldClean_of`, `raiseThenClose_clean`).
-/
namespace AsyncVerif.ContextManager

theorem settle_yield (v : Val) (k : Resume → Gen) : settle (.yield v k) = .yielded v k := rfl
theorem settle_ret : settle .ret = .raised (.lib .stopAsync) := rfl
theorem settle_raise (e : Exc) :
    settle (.raise e) = if e.isStop then .raised (.promoted e) else .raised e := rfl

theorem Kind.isSub_refl (a : Kind) : a.isSub a = true := by
  cases a <;> rfl

/-- an exception raised in the generator frame leaves it as `Decl.surface` says -/
theorem settle_raise_surface (e : Exc) : settle (.raise e) = .raised (Decl.surface e) := by
  rw [settle_raise, Decl.surface]; split <;> rfl

theorem isStop_false {e : Exc} (h : e.isStop = false) :
    e.kind.isSub .stopIteration = false ∧ e.kind.isSub .stopAsyncIteration = false :=
  Bool.or_eq_false_iff.mp h

theorem surface_not_stop (e : Exc) : (Decl.surface e).isStop = false := by
  unfold Decl.surface; split
  · rfl
  · exact Bool.eq_false_iff.mpr ‹_›

theorem settle_yielded {g : Gen} {v : Val} {k : Resume → Gen} (h : settle g = .yielded v k) :
    g = .yield v k := by
  cases g with
  | ret => cases h
  | raise e => rw [settle_raise_surface] at h; cases h
  | «yield» a c => cases h; rfl

theorem settle_raised {g : Gen} {e : Exc} (h : settle g = .raised e) :
    e = .lib .stopAsync ∧ g = .ret ∨ e.isStop = false := by
  cases g with
  | ret => cases h; exact .inl ⟨rfl, rfl⟩
  | «yield» v k => cases h
  | raise e0 => rw [settle_raise_surface] at h; cases h; exact .inr (surface_not_stop e0)

/-- what comes out of a generator frame is never a user `StopAsyncIteration`: the only
    `StopAsyncIteration` an awaiter of `__anext__`/`athrow` can see is the runtime's own
    end-of-generator signal -/
theorem settle_sai {g : Gen} {e : Exc} (h : settle g = .raised e)
    (hk : e.kind.isSub .stopAsyncIteration = true) : e = .lib .stopAsync ∧ g = .ret :=
  (settle_raised h).resolve_right fun hs => Bool.false_ne_true ((isStop_false hs).2.symm.trans hk)

/-- what comes out of a generator frame is never a `StopIteration` -/
theorem settle_not_stop {g : Gen} {e : Exc} (h : settle g = .raised e) (hne : e ≠ .lib .stopAsync) :
    e.isStop = false :=
  (settle_raised h).resolve_left fun hl => hne hl.1

/-- what `aclose()` raises is neither a `GeneratorExit` nor a `StopAsyncIteration` nor a
    `StopIteration` -/
theorem aclose_raised {k : Resume → Gen} {e : Exc} (h : aclose k = some e) :
    e.kind.isSub .generatorExit = false ∧ e.kind.isSub .stopAsyncIteration = false := by
  unfold aclose at h
  split at h
  · cases h; exact ⟨rfl, rfl⟩
  · split at h
    · cases h
    · cases h; exact Bool.or_eq_false_iff.mp (Bool.eq_false_iff.mpr ‹_›)

/-- exceptions raised by the block are user objects -/
theorem Block.exc_user {b : Block} {ev : Exc} (h : b.exc = some ev) :
    (∃ i k, ev = .user i k) ∨ (∃ i k c, ev = .userFrom i k c) := by
  cases b with
  | normal => cases h
  | raises i k => cases h; exact .inl ⟨i, k, rfl⟩
  | raisesFrom i k c => cases h; exact .inr ⟨i, k, c, rfl⟩

theorem Block.exc_ne_lib {b : Block} {ev : Exc} (h : b.exc = some ev) (l : LibExc) : ev ≠ .lib l := by
  rcases Block.exc_user h with ⟨i, k, rfl⟩ | ⟨i, k, c, rfl⟩ <;> exact Exc.noConfusion

theorem Block.exc_ne_promoted {b : Block} {ev : Exc} (h : b.exc = some ev) (c : Exc) :
    ev ≠ .promoted c := by
  rcases Block.exc_user h with ⟨i, k, rfl⟩ | ⟨i, k, c', rfl⟩ <;> exact Exc.noConfusion

/-- asyncstdlib's `except` chain on what a generator lets out when `ev` is thrown in, read
    without the classes: the block's own exception (or what nobody can tell from the runtime's
    promotion of it) → `False`; anything else propagates -/
theorem handlers_surface (e ev : Exc) (hu : ∀ c, ev ≠ .promoted c) :
    Impl.handlers (Decl.surface e) ev =
      if e = ev then .ret false else if Decl.looksPromoted e ev then .ret false
      else .raises (Decl.surface e) := by
  cases hs : e.isStop
  · -- `e` itself surfaces; it is no `StopAsyncIteration`, so the first clause does not apply
    rw [show Decl.surface e = e from if_neg (by rw [hs]; exact Bool.false_ne_true), Impl.handlers,
      if_neg (by rw [(isStop_false hs).2]; exact Bool.false_ne_true), Decl.looksPromoted, hs]
    by_cases hee : e = ev
    · subst hee; simp [Kind.isSub_refl]
    · cases hr : e.kind.isSub .runtimeError
      · simp [hee]
      · cases hes : ev.isStop <;> simp [hee]
  · -- the runtime's `RuntimeError` around `e` surfaces: only the `except RuntimeError` clause applies
    rw [show Decl.surface e = .promoted e from if_pos hs, Decl.looksPromoted, hs]
    show (if Exc.promoted e = ev then ExitRes.ret false
      else if ev.isStop = true then (if some e = some ev then .ret false else .raises (.promoted e))
      else .raises (.promoted e)) = _
    rw [if_neg fun h => hu e h.symm]
    by_cases hee : e = ev
    · subst hee; simp [hs]
    · cases hes : ev.isStop <;> simp [hee]

/-- nothing `aclose()` can raise is caught for a block that ended with `GeneratorExit` -/
theorem handlers_genexit {exc ev : Exc} (hg : ev.kind = .generatorExit)
    (h1 : exc.kind.isSub .generatorExit = false) (h2 : exc.kind.isSub .stopAsyncIteration = false) :
    Impl.handlers exc ev = .raises exc := by
  have hne : exc ≠ ev := fun hab => by rw [hab, hg] at h1; cases h1
  have hst : ev.isStop = false := by rw [Exc.isStop, hg]; rfl
  simp [Impl.handlers, h2, hne, hst, hg, h1]

/-- asyncstdlib's and CPython's `except` chains decide alike on everything an async generator
    can raise into them -/
theorem handlers_eq (exc ev : Exc)
    (h : exc.kind.isSub .stopAsyncIteration = true → exc ≠ ev) :
    Impl.handlers exc ev = Std.handlers exc ev := by
  unfold Impl.handlers Std.handlers
  cases h1 : exc.kind.isSub .stopAsyncIteration
  · cases h2 : exc.kind.isSub .runtimeError
    · by_cases h3 : exc = ev
      · subst h3; simp [Kind.isSub_refl]
      · cases h6 : exc.kind.isSub ev.kind <;> simp [h3]
    · by_cases h3 : exc = ev
      · simp [h3]
      · cases h4 : ev.isStop <;> simp [h3]
  · simp [h h1]

theorem aenter_eq (g : Gen) : Impl.aenter g = Std.aenter g := rfl

theorem aenter_ret : Impl.aenter .ret = .raises (.lib .didNotYield) := rfl

theorem aenter_raise (e : Exc) : Impl.aenter (.raise e) = .raises (Decl.surface e) := by
  unfold Impl.aenter
  rw [settle_raise_surface]
  exact if_neg (Bool.eq_false_iff.mp (isStop_false (surface_not_stop e)).2)

/-- a generator that does not yield first: same observation under both libraries -/
theorem run_not_entered (g : Gen) (b : Block) (e : Exc) (h : Impl.aenter g = .raises e) :
    Impl.run g b = { entered := none, final := .raises e, ops := [.anext] } ∧
    Std.run g b = { entered := none, final := .raises e, ops := [.anext] } := by
  have h' : Std.aenter g = .raises e := h
  simp only [Impl.run, Std.run, withStmt, h, h', and_self]

/-- what the `async with` statement makes of the answer of `__aexit__` -/
def finalOf (r : ExitRes) (exc : Option Exc) : Final :=
  match r, exc with
  | .raises e, _ => .raises e
  | .ret _, none => .normal
  | .ret true, some _ => .suppressed
  | .ret false, some ev => .raises ev

theorem withStmt_entered {aenter : Gen → EnterRes}
    {aexit : (Resume → Gen) → Option Exc → ExitRes × List GenOp} {g : Gen} {v : Val} {k : Resume → Gen}
    (h : aenter g = .entered v k) (b : Block) :
    withStmt aenter aexit g b =
      { entered := some v, final := finalOf (aexit k b.exc).1 b.exc, ops := .anext :: (aexit k b.exc).2 } := by
  unfold withStmt; rw [h]; rfl

theorem Impl.run_yield (v : Val) (k : Resume → Gen) (b : Block) :
    Impl.run (.yield v k) b =
      { entered := some v, final := finalOf (Impl.aexit k b.exc).1 b.exc,
        ops := .anext :: (Impl.aexit k b.exc).2 } :=
  withStmt_entered rfl b

theorem Std.run_yield (v : Val) (k : Resume → Gen) (b : Block) :
    Std.run (.yield v k) b =
      { entered := some v, final := finalOf (Std.aexit k b.exc).1 b.exc,
        ops := .anext :: (Std.aexit k b.exc).2 } :=
  withStmt_entered rfl b

/-- asyncstdlib's `__aexit__` decides as the class-free reading `Decl.aexit` -/
theorem Impl.aexit_decl (k : Resume → Gen) (b : Block) :
    (Impl.aexit k b.exc).1 = Decl.aexit k b.exc := by
  cases hb : b.exc with
  | none =>
    simp only [Impl.aexit, Decl.aexit, anext]
    cases k .next with
    | ret => rfl
    | «yield» v2 k2 => rfl
    | raise e =>
      simp only [settle_raise_surface]
      exact if_neg (Bool.eq_false_iff.mp (isStop_false (surface_not_stop e)).2)
  | some ev =>
    by_cases hg : ev.kind = .generatorExit
    · simp only [Impl.aexit, Decl.aexit, hg, if_true]
      cases hc : aclose k with
      | none => rfl
      | some exc => exact handlers_genexit hg (aclose_raised hc).1 (aclose_raised hc).2
    · simp only [Impl.aexit, Decl.aexit, hg, if_false, athrow]
      cases k (.throw ev) with
      | ret => rfl
      | «yield» v2 k2 => rfl
      | raise e =>
        simp only [settle_raise_surface]
        exact handlers_surface e ev (Block.exc_ne_promoted hb)

theorem run_yield_final (v : Val) (k : Resume → Gen) (b : Block) :
    (Impl.run (.yield v k) b).final = finalOf (Decl.aexit k b.exc) b.exc := by
  rw [Impl.run_yield, Impl.aexit_decl]

/-- the hypothesis on a second `yield`, from what the generator does when woken -/
theorem secondYieldClean_of {v : Val} {k : Resume → Gen} (b : Block)
    (h : ∀ r v2 k2, k r = .yield v2 k2 → aclose k2 = none) : secondYieldClean (.yield v k) b = true := by
  unfold secondYieldClean secondYield
  cases b.exc with
  | none => simp only; cases hk : k .next <;> first | rfl | simp only [h _ _ _ hk]; rfl
  | some ev => simp only; cases hk : k (.throw ev) <;> first | rfl | simp only [h _ _ _ hk]; rfl

theorem secondYield_next {v : Val} {k : Resume → Gen} {b : Block} {v2 : Val} {k2 : Resume → Gen}
    (hb : b.exc = none) (hs : settle (k .next) = .yielded v2 k2) :
    secondYield (.yield v k) b = some k2 := by
  unfold secondYield; rw [hb]; simp only; rw [settle_yielded hs]

theorem secondYield_throw {v : Val} {k : Resume → Gen} {b : Block} {ev : Exc} {v2 : Val}
    {k2 : Resume → Gen} (hb : b.exc = some ev) (hs : settle (k (.throw ev)) = .yielded v2 k2) :
    secondYield (.yield v k) b = some k2 := by
  unfold secondYield; rw [hb]; simp only; rw [settle_yielded hs]

/-- ... and what it gives: CPython's extra `aclose()` at a second `yield` changes nothing -/
theorem raiseThenClose_clean {g : Gen} {b : Block} {k2 : Resume → Gen}
    (hcl : secondYieldClean g b = true) (h2 : secondYield g b = some k2) (r : LibExc) :
    Std.raiseThenClose k2 r = .raises (.lib r) := by
  unfold secondYieldClean at hcl
  rw [h2] at hcl
  simp only at hcl
  unfold Std.raiseThenClose
  cases hk : aclose k2 with
  | none => rfl
  | some e => rw [hk] at hcl; cases hcl

end AsyncVerif.ContextManager
