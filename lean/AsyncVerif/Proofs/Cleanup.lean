import AsyncVerif.Machines.Cleanup
/-! The clean-up machine (`Machines/Cleanup.lean`), for `Properties/C04Cleanup.lean`.

`close_all` and the nested scopes both have the closed form `(closeableIdx behs, lastFailure behs)`
— invocation log and propagated exception as plain list functions of the behaviours
(`closeAllRobust_closed`, `closeNested_closed`); the old loop is `close_all` on the prefix that ends
with the first raising iterator (`closeAllFlat_take`).  The loops run over `zipIdx`:
`closeableIdx behs` is `closeableIds behs.zipIdx`, and which exception is the last does not depend on the indices
(`lastExc_eq`), so the lemmas about it are those of `lastFailure`. -/
namespace AsyncVerif.Cleanup

/-- indices (as carried by the list) of the entries that have an `aclose`, in list order -/
def closeableIds (l : Indexed) : List Nat := (l.filter (·.1.closeable)).map (·.2)

/-- the exception of the last raising entry -/
def lastExc (l : Indexed) : Option ExcId := (l.filterMap (·.1.exc)).getLast?

/-- positions of the iterators that have an `aclose`, increasing -/
def closeableIdx (behs : List CloseBeh) : List Nat := closeableIds behs.zipIdx

/-- the exception raised by the last (in list order) iterator whose `aclose` raises -/
def lastFailure (behs : List CloseBeh) : Option ExcId := (behs.filterMap CloseBeh.exc).getLast?

theorem closeableIds_nil : closeableIds [] = [] := rfl

theorem closeableIds_cons (bi : CloseBeh × Nat) (l : Indexed) :
    closeableIds (bi :: l) = (if bi.1.closeable then [bi.2] else []) ++ closeableIds l := by
  unfold closeableIds
  by_cases h : bi.1.closeable <;> simp [h]

theorem closeableIds_append (l₁ l₂ : Indexed) :
    closeableIds (l₁ ++ l₂) = closeableIds l₁ ++ closeableIds l₂ := by
  simp [closeableIds]

theorem lastExc_nil : lastExc [] = none := rfl

theorem lastExc_eq (l : Indexed) : lastExc l = lastFailure (l.map (·.1)) := by
  unfold lastExc lastFailure
  rw [List.filterMap_map]; rfl

theorem replaceBy_eq_or (a b : Option ExcId) : replaceBy a b = a.or b := by cases a <;> rfl

theorem lastFailure_append (l₁ l₂ : List CloseBeh) :
    lastFailure (l₁ ++ l₂) = replaceBy (lastFailure l₂) (lastFailure l₁) := by
  simp only [lastFailure, List.filterMap_append, List.getLast?_append, replaceBy_eq_or]

theorem lastFailure_singleton (b : CloseBeh) : lastFailure [b] = b.exc := by
  unfold lastFailure
  cases h : b.exc <;> simp only [List.filterMap_cons, List.filterMap_nil, h] <;> rfl

theorem lastFailure_cons (b : CloseBeh) (bs : List CloseBeh) :
    lastFailure (b :: bs) = replaceBy (lastFailure bs) b.exc := by
  rw [← lastFailure_singleton, ← lastFailure_append]; rfl

theorem lastFailure_snoc (bs : List CloseBeh) (b : CloseBeh) :
    lastFailure (bs ++ [b]) = replaceBy b.exc (lastFailure bs) := by
  rw [lastFailure_append, lastFailure_singleton]

theorem replaceBy_assoc (a b c : Option ExcId) :
    replaceBy a (replaceBy b c) = replaceBy (replaceBy a b) c := by
  cases a <;> rfl

theorem replaceBy_none_left (a : Option ExcId) : replaceBy none a = a := rfl
theorem replaceBy_none_right (a : Option ExcId) : replaceBy a none = a := by cases a <;> rfl

theorem stepRobust_log (st : State) (bi : CloseBeh × Nat) :
    (stepRobust st bi).log = st.log ++ closeableIds [bi] := by
  obtain ⟨b, i⟩ := bi
  cases b
  · exact (List.append_nil _).symm
  all_goals rfl

theorem stepRobust_failure (st : State) (bi : CloseBeh × Nat) :
    (stepRobust st bi).failure = replaceBy bi.1.exc st.failure := by
  obtain ⟨b, i⟩ := bi
  cases b <;> rfl

theorem foldl_log (l : Indexed) (st : State) :
    (l.foldl stepRobust st).log = st.log ++ closeableIds l := by
  induction l generalizing st with
  | nil => simp [closeableIds]
  | cons bi rest ih =>
    rw [List.foldl_cons, ih, stepRobust_log, List.append_assoc, ← closeableIds_append]
    rfl

theorem foldl_failure (l : Indexed) (st : State) :
    (l.foldl stepRobust st).failure = replaceBy (lastFailure (l.map (·.1))) st.failure := by
  induction l generalizing st with
  | nil => rfl
  | cons bi rest ih =>
    rw [List.foldl_cons, ih, stepRobust_failure, List.map_cons, lastFailure_cons, replaceBy_assoc]

theorem scopes_closed (stack : Indexed) (body : Option ExcId) :
    scopes stack body
      = (closeableIds stack.reverse, replaceBy (lastFailure (stack.reverse.map (·.1))) body) := by
  induction stack with
  | nil => rfl
  | cons bi inner ih =>
    obtain ⟨b, i⟩ := bi
    rw [List.reverse_cons, closeableIds_append, List.map_append, List.map_cons, List.map_nil, lastFailure_snoc]
    cases b <;> simp only [scopes, ih]
    · exact Prod.ext (List.append_nil _).symm rfl
    all_goals rfl

theorem countsOf_nil (n : Nat) : countsOf n [] = List.replicate n 0 := by
  simp only [countsOf, List.count_nil, List.map_const', List.length_range]

theorem invoke_closes (st : State) (n i : Nat) (h : st.closes = countsOf n st.log) :
    (st.invoke i).closes = countsOf n (st.invoke i).log := by
  apply List.ext_getElem?
  intro j
  simp only [State.invoke, h, List.getElem?_modify, countsOf, List.getElem?_map,
    List.count_append, List.count_singleton]
  by_cases hj : j < n
  · simp only [List.getElem?_range hj, Option.map_some, Option.map_eq_map]
    by_cases hij : i = j <;> simp [hij]
  · have : (List.range n)[j]? = none := by simp; omega
    simp [this]

theorem stepRobust_closes (st : State) (n : Nat) (bi : CloseBeh × Nat)
    (h : st.closes = countsOf n st.log) :
    (stepRobust st bi).closes = countsOf n (stepRobust st bi).log := by
  obtain ⟨b, i⟩ := bi
  cases b <;> simp only [stepRobust] <;> first | exact h | exact invoke_closes st n i h

theorem foldl_closes (l : Indexed) (st : State) (n : Nat) (h : st.closes = countsOf n st.log) :
    (l.foldl stepRobust st).closes = countsOf n (l.foldl stepRobust st).log := by
  induction l generalizing st with
  | nil => exact h
  | cons bi rest ih => exact ih _ (stepRobust_closes st n bi h)

theorem mem_positions {α : Type} (q : α → Bool) (l : List α) (i : Nat) :
    i ∈ (l.zipIdx.filter (fun x => q x.1)).map (·.2) ↔ ∃ a, l[i]? = some a ∧ q a = true := by
  simp only [List.mem_map, List.mem_filter]
  constructor
  · rintro ⟨⟨a, j⟩, ⟨hm, ho⟩, rfl⟩
    exact ⟨a, List.mk_mem_zipIdx_iff_getElem?.mp hm, ho⟩
  · rintro ⟨a, ha, ho⟩
    exact ⟨(a, i), ⟨List.mk_mem_zipIdx_iff_getElem?.mpr ha, ho⟩, rfl⟩

theorem pairwise_positions {α : Type} (p : α × Nat → Bool) (l : List α) (k : Nat) :
    (((l.zipIdx k).filter p).map (·.2)).Pairwise (· < ·) := by
  have hsub : (((l.zipIdx k).filter p).map (·.2)).Sublist ((l.zipIdx k).map (·.2)) :=
    List.filter_sublist.map _
  rw [List.zipIdx_map_snd] at hsub
  exact List.Pairwise.sublist hsub List.pairwise_lt_range'

theorem closeableIds_zipIdx_pairwise (behs : List CloseBeh) (k : Nat) :
    (closeableIds (behs.zipIdx k)).Pairwise (· < ·) :=
  pairwise_positions _ behs k

theorem closeableIdx_nodup (behs : List CloseBeh) : (closeableIdx behs).Nodup :=
  (closeableIds_zipIdx_pairwise behs 0).imp Nat.ne_of_lt

theorem mem_closeableIdx (behs : List CloseBeh) (i : Nat) :
    i ∈ closeableIdx behs ↔ ∃ b, behs[i]? = some b ∧ b.closeable = true :=
  mem_positions CloseBeh.closeable behs i

theorem loopFlat_append (pre rest : Indexed) (st : State) (hpre : ∀ p ∈ pre, p.1.exc = none) :
    loopFlat (pre ++ rest) st = loopFlat rest (pre.foldl stepRobust st) := by
  induction pre generalizing st with
  | nil => rfl
  | cons a pre ih =>
    obtain ⟨b, i⟩ := a
    have hb : b.exc = none := hpre (b, i) List.mem_cons_self
    have ih := fun st => ih st (fun p hp => hpre p (List.mem_cons_of_mem _ hp))
    cases b with
    | noAclose => exact ih _
    | ok => exact ih _
    | raises e => cases hb
    | interrupted e => cases hb

theorem loopFlat_cons_fail (bi : CloseBeh × Nat) (rest : Indexed) (e : ExcId) (st : State)
    (hb : bi.1.exc = some e) : loopFlat (bi :: rest) st = stepRobust st bi := by
  obtain ⟨b, i⟩ := bi
  cases b with
  | noAclose => cases hb
  | ok => cases hb
  | raises e' => rfl
  | interrupted e' => rfl

theorem loopFlat_noexc (pre : Indexed) (st : State) (hpre : ∀ p ∈ pre, p.1.exc = none) :
    loopFlat pre st = pre.foldl stepRobust st := by
  have := loopFlat_append pre [] st hpre
  rwa [List.append_nil] at this

theorem loopFlat_first_failure (pre post : Indexed) (bi : CloseBeh × Nat) (e : ExcId) (st : State)
    (hpre : ∀ p ∈ pre, p.1.exc = none) (hb : bi.1.exc = some e) :
    loopFlat (pre ++ bi :: post) st = stepRobust (pre.foldl stepRobust st) bi := by
  rw [loopFlat_append pre _ st hpre, loopFlat_cons_fail bi post e _ hb]

theorem loopFlat_eq_take (l : Indexed) (st : State) :
    loopFlat l st = (l.take (l.findIdx (fun bi => bi.1.exc.isSome) + 1)).foldl stepRobust st := by
  induction l generalizing st with
  | nil => rfl
  | cons a rest ih =>
    obtain ⟨b, i⟩ := a
    rw [List.findIdx_cons]
    cases b with
    | noAclose => exact ih _
    | ok => exact ih _
    | raises e => rfl
    | interrupted e => rfl

theorem findIdx_zipIdx (p : CloseBeh → Bool) (behs : List CloseBeh) (k : Nat) :
    (behs.zipIdx k).findIdx (fun bi => p bi.1) = behs.findIdx p := by
  induction behs generalizing k with
  | nil => rfl
  | cons b rest ih => simp [List.zipIdx_cons, List.findIdx_cons, ih]

theorem exists_first_failure (behs : List CloseBeh) :
    (∀ b ∈ behs, b.exc = none) ∨
    ∃ pre b post e, behs = pre ++ b :: post ∧ (∀ p ∈ pre, p.exc = none) ∧ b.exc = some e := by
  induction behs with
  | nil => exact Or.inl nofun
  | cons a rest ih =>
    cases ha : a.exc with
    | some e => exact Or.inr ⟨[], a, rest, e, rfl, nofun, ha⟩
    | none =>
      rcases ih with h | ⟨pre, b, post, e, rfl, h2, h3⟩
      · exact Or.inl (List.forall_mem_cons.2 ⟨ha, h⟩)
      · exact Or.inr ⟨a :: pre, b, post, e, rfl, List.forall_mem_cons.2 ⟨ha, h2⟩, h3⟩

theorem closeAllRobust_closed (behs : List CloseBeh) :
    closeAllRobust behs = (closeableIdx behs, lastFailure behs) := by
  simp only [closeAllRobust, runRobust, foldl_log, foldl_failure, State.init, List.nil_append,
    replaceBy_none_right, List.zipIdx_map_fst, closeableIdx]

theorem closeNested_closed (behs : List CloseBeh) (body : Option ExcId) :
    scopes (nestedOf behs) body = (closeableIdx behs, replaceBy (lastFailure behs) body) := by
  simp only [nestedOf, scopes_closed, List.reverse_reverse, List.zipIdx_map_fst, closeableIdx]

theorem runRobust_closes (behs : List CloseBeh) :
    (runRobust behs).closes = countsOf behs.length (runRobust behs).log := by
  unfold runRobust
  apply foldl_closes
  simp [State.init, countsOf_nil]

theorem runFlat_closes (behs : List CloseBeh) :
    (runFlat behs).closes = countsOf behs.length (runFlat behs).log := by
  unfold runFlat
  rw [loopFlat_eq_take]
  apply foldl_closes
  simp [State.init, countsOf_nil]

theorem count_closeableIdx (behs : List CloseBeh) (i : Nat) (h : i < behs.length) :
    (closeableIdx behs).count i = if behs[i] = .noAclose then 0 else 1 := by
  rw [(closeableIdx_nodup behs).count]
  simp only [mem_closeableIdx, List.getElem?_eq_getElem h, Option.some.injEq, exists_eq_left']
  cases behs[i] <;> rfl

theorem count_closeableIdx_oob (behs : List CloseBeh) (i : Nat) (h : behs.length ≤ i) :
    (closeableIdx behs).count i = 0 := by
  rw [List.count_eq_zero, mem_closeableIdx, List.getElem?_eq_none h]
  exact fun ⟨b, hb, _⟩ => nomatch hb

theorem countsOf_closeableIdx (behs : List CloseBeh) :
    countsOf behs.length (closeableIdx behs)
      = behs.map (fun b => if b = .noAclose then 0 else 1) := by
  apply List.ext_getElem
  · simp [countsOf]
  · intro i h1 h2
    have hi : i < behs.length := by simpa using h2
    simp only [countsOf, List.getElem_map, List.getElem_range]
    exact count_closeableIdx behs i hi

theorem closeableIds_zipIdx_eq_nil (l : List CloseBeh) (k : Nat) :
    closeableIds (l.zipIdx k) = [] ↔ ∀ p ∈ l, p = .noAclose := by
  induction l generalizing k with
  | nil => simp [closeableIds]
  | cons b rest ih =>
    rw [List.zipIdx_cons, closeableIds_cons, List.append_eq_nil_iff, ih]
    cases b <;> simp [CloseBeh.closeable]

theorem closeableIdx_append_cons (pre post : List CloseBeh) (b : CloseBeh) (h : b ≠ .noAclose) :
    closeableIdx (pre ++ b :: post)
      = closeableIdx pre ++ [pre.length] ++ closeableIds (post.zipIdx (pre.length + 1)) := by
  unfold closeableIdx
  rw [List.zipIdx_append, closeableIds_append, List.zipIdx_cons, closeableIds_cons]
  have : b.closeable = true := by cases b <;> simp_all [CloseBeh.closeable]
  simp [this, List.append_assoc]

theorem zipIdx_take (l : List CloseBeh) (k m : Nat) :
    (l.zipIdx k).take m = (l.take m).zipIdx k := by
  induction l generalizing k m with
  | nil => simp
  | cons b rest ih =>
    cases m with
    | zero => simp
    | succ m => simp [List.zipIdx_cons, ih]

theorem closeAllFlat_take (behs : List CloseBeh) :
    closeAllFlat behs
      = closeAllRobust (behs.take (behs.findIdx (fun b => b.exc.isSome) + 1)) := by
  unfold closeAllFlat runFlat closeAllRobust runRobust
  rw [loopFlat_eq_take, findIdx_zipIdx (fun b => b.exc.isSome), zipIdx_take,
    foldl_log, foldl_failure, foldl_log, foldl_failure]
  rfl

theorem closeAllFlat_noexc (behs : List CloseBeh) (h : ∀ b ∈ behs, b.exc = none) :
    closeAllFlat behs = closeAllRobust behs := by
  unfold closeAllFlat runFlat closeAllRobust runRobust
  rw [loopFlat_noexc _ _ fun p hp => h p.1 (List.fst_mem_of_mem_zipIdx hp)]

theorem closeAllFlat_first_failure (pre post : List CloseBeh) (b : CloseBeh) (e : ExcId)
    (hpre : ∀ p ∈ pre, p.exc = none) (hb : b.exc = some e) :
    closeAllFlat (pre ++ b :: post) = (closeableIdx pre ++ [pre.length], some e) := by
  have hc : b.closeable = true := by cases b <;> first | rfl | cases hb
  unfold closeAllFlat runFlat
  rw [List.zipIdx_append, List.zipIdx_cons,
    loopFlat_first_failure _ _ _ e _ (fun p hp => hpre p.1 (List.fst_mem_of_mem_zipIdx hp)) hb,
    stepRobust_log, stepRobust_failure, foldl_log, hb, closeableIds_cons, if_pos hc, Nat.zero_add]
  rfl

/-- no iterator after a raising one has an `aclose` -/
def NoCloseAfterFail (behs : List CloseBeh) : Prop :=
  ∀ pre b post, behs = pre ++ b :: post → b.exc ≠ none → ∀ p ∈ post, p = .noAclose

theorem ncaf_cons_ok (a : CloseBeh) (rest : List CloseBeh) (ha : a.exc = none) :
    NoCloseAfterFail (a :: rest) ↔ NoCloseAfterFail rest := by
  constructor
  · intro h pre b post hd hb
    exact h (a :: pre) b post (by simp [hd]) hb
  · intro h pre b post hd hb
    cases pre with
    | nil =>
      simp only [List.nil_append, List.cons.injEq] at hd
      exact absurd (hd.1 ▸ ha) hb
    | cons a' pre' =>
      simp only [List.cons_append, List.cons.injEq] at hd
      exact h pre' b post hd.2 hb

theorem ncaf_cons_fail (a : CloseBeh) (rest : List CloseBeh) (ha : a.exc ≠ none) :
    NoCloseAfterFail (a :: rest) ↔ ∀ p ∈ rest, p = .noAclose := by
  constructor
  · intro h
    exact h [] a rest rfl ha
  · intro h pre b post hd hb
    cases pre with
    | nil =>
      simp only [List.nil_append, List.cons.injEq] at hd
      rw [← hd.2]; exact h
    | cons a' pre' =>
      simp only [List.cons_append, List.cons.injEq] at hd
      have hbm : b ∈ rest := by rw [hd.2]; simp
      have := h b hbm
      subst this
      exact absurd rfl hb

theorem flat_log_iff (behs : List CloseBeh) (k : Nat) (st : State) :
    (loopFlat (behs.zipIdx k) st).log = ((behs.zipIdx k).foldl stepRobust st).log
      ↔ NoCloseAfterFail behs := by
  induction behs generalizing k st with
  | nil => simp [loopFlat, NoCloseAfterFail]
  | cons a rest ih =>
    rw [List.zipIdx_cons]
    cases a with
    | noAclose => rw [ncaf_cons_ok _ _ rfl]; exact ih _ _
    | ok => rw [ncaf_cons_ok _ _ rfl]; exact ih _ _
    -- after a raising entry the old loop has stopped and `close_all` goes on: nothing more may be closeable
    | raises e =>
      rw [ncaf_cons_fail (.raises e) rest (Option.some_ne_none e), ← closeableIds_zipIdx_eq_nil rest (k + 1), List.foldl_cons, foldl_log]
      exact List.self_eq_append_right
    | interrupted e =>
      rw [ncaf_cons_fail (.interrupted e) rest (Option.some_ne_none e), ← closeableIds_zipIdx_eq_nil rest (k + 1), List.foldl_cons, foldl_log]
      exact List.self_eq_append_right

end AsyncVerif.Cleanup
