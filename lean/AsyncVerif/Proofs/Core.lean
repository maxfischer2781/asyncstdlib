import AsyncVerif.Impl.Tools
/-!
# The primitives, and what every tool inherits from them

What each primitive does, stated on the component it touches (`pullStep`, `closeStep`, `consStep` and
their frame equations); what `try … finally` does (`tryFinally_eq`); the monad laws.
`Quiet` cleanup and `Twin` programs: scoping is invisible on the `vis` channel.
`Compositional P`: every primitive has property `P` and every combinator preserves it.  The tool models
are built from nothing else, so each loop and each tool of Impl/Tools (and the loops of Std/Tools they
reuse) has every such property, by the recursion of its definition with `h.` in front of every step;
`Faithful` (C06) and `KindFree` (C03) are the instances.  The exception is the `chain` handle
`Impl.chain`, which inspects the outcome of its iterator by hand (it catches `genExit`): it is treated in
Proofs/Chain.lean and Proofs/ChainCancel.lean.
`Sequential` is the part of `Compositional` (`pure`, `raise`, `bind`) that the frame and monotonicity
conditions on the sources (`Keeps R` for a `SrcsOrder R`) share with it.
-/
namespace AsyncVerif

/-- two programs are *twins*: in every world (every input, every fault position, every consumer
    behaviour) they end the same way and leave the same visible event log -/
def Twin {α : Type} (a b : M α) : Prop :=
  ∀ w, (a w).1 = (b w).1 ∧ (a w).2.vis = (b w).2.vis

/-- cleanup code that cannot fail and touches neither the visible log nor the consumer -/
def Quiet (fin : M Unit) : Prop :=
  ∀ w, (fin w).1 = .ok () ∧ (fin w).2.vis = w.vis ∧ (fin w).2.cons = w.cons

/-! ## What each primitive does, on the component it touches

`pull` and `closeSrc` change one source (and a log), `yieldV` the consumer (and the log); the rest of the
world is carried over.  The step functions say what happens to that component, so that a fact about a
primitive is a fact about a `Src` or a `Cons`, not about a `World`. -/

def World.step (w : World) (s : Nat) (src : Src) (new : List Ev) : World :=
  { w with srcs := fun i => if i = s then src else w.srcs i, vis := w.vis ++ new }

theorem World.setSrc_same (w : World) (s : Nat) : w.setSrc s (w.srcs s) = w := by
  have : (fun i => if i = s then w.srcs s else w.srcs i) = w.srcs := by
    funext i; split
    · subst_vars; rfl
    · rfl
  simp only [World.setSrc, this]

theorem World.step_same (w : World) (s : Nat) (new : List Ev) :
    w.step s (w.srcs s) new = { w with vis := w.vis ++ new } :=
  congrArg (fun u : World => { u with vis := u.vis ++ new }) (w.setSrc_same s)

theorem World.setSrc_srcs_self (w : World) (s : Nat) (x : Src) : (w.setSrc s x).srcs s = x := if_pos rfl

theorem World.setSrc_srcs_ne (w : World) {s t : Nat} (x : Src) (h : t ≠ s) : (w.setSrc s x).srcs t = w.srcs t :=
  if_neg h

theorem World.setSrc_rel {R : Src → Src → Prop} {w w' : World} {x x' : Src} (s : Nat) (hx : R x x')
    (h : ∀ t, R (w.srcs t) (w'.srcs t)) (t : Nat) : R ((w.setSrc s x).srcs t) ((w'.setSrc s x').srcs t) := by
  unfold World.setSrc
  dsimp only
  split
  · exact hx
  · exact h t

/-- what `pull s` does to the source it polls: the reply, the source afterwards, the events logged -/
def pullStep (s : Nat) (src : Src) : Except Exc (Option Val) × Src × List Ev :=
  if src.status.live then
    match src.script with
    | .item v :: rest => (.ok (some v), { src with script := rest, status := .running }, [.pull s, .item s v])
    | .err e :: rest =>
      (.error (.user e),
        { src with script := rest, status := if src.kind.repollVisible then .running else .failed },
        [.pull s, .srcErr s e])
    | [] => (.ok none, { src with status := .exhausted }, [.pull s, .endd s])
  else (.ok none, src, if src.kind.repollVisible then [.pull s, .endd s] else [])

theorem pull_eq (s : Nat) (w : World) :
    pull s w = ((pullStep s (w.srcs s)).1, w.step s (pullStep s (w.srcs s)).2.1 (pullStep s (w.srcs s)).2.2) := by
  unfold pull pullStep
  by_cases hl : (w.srcs s).status.live
  · simp only [hl, if_true]
    cases (w.srcs s).script with
    | nil => simp [World.step, World.pushVis, World.setSrc]
    | cons r rest => cases r <;> simp [World.step, World.pushVis, World.setSrc]
  · simp only [hl]
    by_cases hv : (w.srcs s).kind.repollVisible
    · simp [hv, World.step_same, World.pushVis]
    · simp [hv, World.step_same]

def closeStep (src : Src) : Src :=
  match src.kind with
  | .aobj => { src with status := .closed, closes := src.closes + 1 }
  | .aobjNc => src
  | .agen =>
    match src.status with
    | .running => { src with status := .closed, closes := src.closes + 1 }
    | .fresh => { src with status := .closed }
    | _ => src
  | _ => if src.status.live then { src with status := .closed } else src

theorem closeSrc_eq (s : Nat) (w : World) :
    ∃ r, closeSrc s w = (.ok (), { w.setSrc s (closeStep (w.srcs s)) with rel := r }) := by
  unfold closeSrc closeStep
  dsimp only
  cases hk : (w.srcs s).kind <;> dsimp only
  case aobj => exact ⟨_, rfl⟩
  case agen =>
    cases (w.srcs s).status
    case fresh | running => exact ⟨_, rfl⟩
    all_goals exact ⟨_, by rw [w.setSrc_same]⟩
  case aobjNc => exact ⟨_, by rw [w.setSrc_same]⟩
  all_goals
    split
    · exact ⟨_, rfl⟩
    · exact ⟨_, by rw [w.setSrc_same]⟩

/-- what a `yield` does to the consumer: the outcome, the consumer afterwards, the events logged after the yield -/
def consStep : Cons → Except Exc Unit × Cons × List Ev
  | .run (n+1) f => (.ok (), .run n f, [])
  | .run 0 .exhaust => (.ok (), .run 0 .exhaust, [])
  | .run 0 .close => (.error .genExit, .done, [.closed])
  | .run 0 (.throw e) => (.error (.user e), .done, [.thrown e])
  | .done => (.error .ignoredExit, .done, [])

theorem yieldV_eq (v : Val) (w : World) :
    yieldV v w = ((consStep w.cons).1,
      { w with cons := (consStep w.cons).2.1, vis := w.vis ++ .yld v :: (consStep w.cons).2.2 }) := by
  unfold yieldV
  cases w with | mk srcs fns calls cons vis rel =>
  cases cons with
  | done => rfl
  | run n fin => cases n <;> cases fin <;> simp [consStep, World.pushVis]

theorem yieldV_srcs (v : Val) (w : World) : (yieldV v w).2.srcs = w.srcs := by
  rw [yieldV_eq]

theorem pullStep_kind (s : Nat) (x : Src) : (pullStep s x).2.1.kind = x.kind := by
  unfold pullStep
  split
  · split <;> rfl
  · rfl

theorem closeStep_kind (x : Src) : (closeStep x).kind = x.kind := by
  rcases x with ⟨k, sc, st, c⟩
  cases k <;> cases st <;> rfl

theorem closeStep_script (x : Src) : (closeStep x).script = x.script := by
  rcases x with ⟨k, sc, st, c⟩
  cases k <;> cases st <;> rfl

/-- only a class-based iterator without `aclose` can be live after it was closed -/
theorem closeStep_live (x : Src) : (closeStep x).status.live = (x.kind == .aobjNc && x.status.live) := by
  rcases x with ⟨k, sc, st, c⟩
  cases k <;> cases st <;> rfl

theorem closeSrc_quiet (s : Nat) : Quiet (closeSrc s) := fun w => by
  obtain ⟨r, h⟩ := closeSrc_eq s w
  rw [h]; exact ⟨rfl, rfl, rfl⟩

theorem bind_apply {α β : Type} (m : M α) (f : α → M β) (w : World) :
    (m >>= f) w = match m w with
      | (.ok a, w') => f a w'
      | (.error e, w') => (.error e, w') := rfl

theorem pure_apply {α : Type} (a : α) (w : World) : (pure a : M α) w = (.ok a, w) := rfl

theorem M.bind_assoc {α β γ : Type} (m : M α) (f : α → M β) (g : β → M γ) :
    (m >>= f) >>= g = m >>= fun a => f a >>= g := by
  funext w
  simp only [bind_apply]
  rcases m w with ⟨r, w1⟩
  cases r <;> rfl

theorem M.pure_bind {α β : Type} (a : α) (f : α → M β) : pure a >>= f = f a := rfl

theorem Quiet.seq {a b : M Unit} (ha : Quiet a) (hb : Quiet b) : Quiet (a >>= fun _ => b) := fun w => by
  have ⟨hr, hv, hc⟩ := ha w
  rw [bind_apply]
  revert hr hv hc
  rcases a w with ⟨r, w1⟩
  rintro ⟨⟩ hv hc
  exact ⟨(hb w1).1, (hb w1).2.1.trans hv, (hb w1).2.2.trans hc⟩

theorem closeAll_quiet : ∀ l, Quiet (closeAll l)
  | [] => fun _ => ⟨rfl, rfl, rfl⟩
  | s :: rest => (closeSrc_quiet s).seq (closeAll_quiet rest)

def isFuelOut {α : Type} : Except Exc α → Bool
  | .error .outOfFuel => true
  | _ => false

theorem isFuelOut_iff {α : Type} (r : Except Exc α) : isFuelOut r = true ↔ r = .error .outOfFuel := by
  unfold isFuelOut
  split <;> simp_all

/-- running out of fuel skips the cleanup; otherwise the cleanup runs in the world the body left, and
    an error of the cleanup replaces the body's outcome -/
theorem tryFinally_eq {α : Type} (body : M α) (fin : M Unit) (w : World) :
    tryFinally body fin w = if isFuelOut (body w).1 then body w
      else (match (fin (body w).2).1 with | .ok _ => (body w).1 | .error e => .error e, (fin (body w).2).2) := by
  unfold tryFinally
  generalize body w = p
  obtain ⟨r, w1⟩ := p
  have run : ∀ (q : Except Exc Unit × World) (r' : Except Exc α),
      (match q with | (.ok _, w'') => (r', w'') | (.error e, w'') => (.error e, w''))
        = (match q.1 with | .ok _ => r' | .error e => .error e, q.2) := by
    rintro ⟨_ | _, _⟩ _ <;> rfl
  cases r with
  | ok a => exact run (fin w1) _
  | error e => cases e <;> first | rfl | exact run (fin w1) _

theorem tryFinally_quiet {α : Type} (body : M α) (fin : M Unit) (hq : Quiet fin) (w : World) :
    (tryFinally body fin w).1 = (body w).1 ∧ (tryFinally body fin w).2.vis = (body w).2.vis
    ∧ (tryFinally body fin w).2.cons = (body w).2.cons := by
  rw [tryFinally_eq, (hq _).1]
  split
  · exact ⟨rfl, rfl, rfl⟩
  · exact ⟨rfl, (hq _).2.1, (hq _).2.2⟩

theorem tryFinally_twin {α : Type} (body : M α) (fin : M Unit) (hq : Quiet fin) :
    Twin (tryFinally body fin) body := fun w =>
  ⟨(tryFinally_quiet body fin hq w).1, (tryFinally_quiet body fin hq w).2.1⟩

theorem scopedIter_twin {α : Type} (s : Nat) (body : M α) : Twin (scopedIter s body) body :=
  tryFinally_twin body _ (closeSrc_quiet s)

theorem Twin.refl {α : Type} (a : M α) : Twin a a := fun _ => ⟨rfl, rfl⟩
theorem Twin.trans {α : Type} {a b c : M α} (h1 : Twin a b) (h2 : Twin b c) : Twin a c := fun w =>
  ⟨(h1 w).1.trans (h2 w).1, (h1 w).2.trans (h2 w).2⟩

theorem Twin.ite {α : Type} (c : Prop) [Decidable c] {a a' b b' : M α} (ha : Twin a a') (hb : Twin b b') :
    Twin (if c then a else b) (if c then a' else b') := by
  split <;> assumption

theorem ite_both {α : Type} {P : α → Prop} (c : Prop) [Decidable c] {a b : α} (ha : P a) (hb : P b) :
    P (if c then a else b) := by
  split <;> assumption

/-- a property of programs that sequencing preserves (library code raises only exceptions of its own) -/
structure Sequential (P : ∀ {α : Type}, M α → Prop) : Prop where
  pure : ∀ {α : Type} (a : α), P (pure a : M α)
  raise : ∀ {α : Type} (x : Exc), (∀ e, x ≠ .user e) → P (raise x : M α)
  bind : ∀ {α β : Type} {m : M α} {f : α → M β}, P m → (∀ a, P (f a)) → P (m >>= f)

/-- Library code raises a user exception only by letting one through (`raise`, `liftExc`: its own
    exceptions are never user exceptions); the cleanup of a `try … finally` is `Quiet` in every tool. -/
structure Compositional (P : ∀ {α : Type}, M α → Prop) : Prop extends Sequential @P where
  liftExc : ∀ {α : Type} (r : Except Exc α), (∀ e, r ≠ .error (.user e)) → P (liftExc r)
  pull : ∀ s, P (pull s)
  call : ∀ f args, P (call f args)
  yieldV : ∀ v, P (yieldV v)
  closeSrc : ∀ s, P (closeSrc s)
  tryFinally : ∀ {α : Type} {body : M α} {fin : M Unit}, P body → P fin → Quiet fin → P (tryFinally body fin)
  tryCatchStop : ∀ {α : Type} {body handler : M α}, P body → P handler → P (tryCatchStop body handler)

theorem Val.asArgs_ne_user (x : Val) (e : Nat) : x.asArgs ≠ .error (.user e) := by
  cases x <;> simp [Val.asArgs]

theorem Val.add_ne_user (a b : Val) (e : Nat) : a.add b ≠ .error (.user e) := by
  unfold Val.add; split <;> simp

/-- `async for x in it: yield x`, the pass-through loop of `chain`, `dropwhile` and `merge` -/
def passLoop (s fuel : Nat) : M Unit := forEach s (fun x => do yieldV x; pure true) fuel

namespace Sequential
variable {P : ∀ {α : Type}, M α → Prop} (h : Sequential @P)
include h

theorem outOfFuel {α : Type} : P (AsyncVerif.raise .outOfFuel : M α) := h.raise _ nofun

theorem forEach {s : Nat} (hp : P (pull s)) (body : Val → M Bool) (hb : ∀ x, P (body x)) :
    ∀ fuel, P (forEach s body fuel)
  | 0 => h.outOfFuel
  | fuel+1 => h.bind hp fun
    | none => h.pure _
    | some x => h.bind (hb x) fun
      | true => forEach hp body hb fuel
      | false => h.pure _

theorem passLoop {s : Nat} (hp : P (pull s)) (hy : ∀ v, P (yieldV v)) (fuel : Nat) : P (passLoop s fuel) :=
  h.forEach hp _ (fun _ => h.bind (hy _) fun _ => h.pure _) fuel

theorem replay (hy : ∀ v, P (yieldV v)) (buffer : List Val) : ∀ (fuel : Nat) (l : List Val), P (Std.replay buffer l fuel)
  | 0, _ => h.outOfFuel
  | fuel+1, [] => ite_both _ (h.pure _) (replay hy buffer fuel buffer)
  | fuel+1, x :: rest => h.bind (hy x) fun _ => replay hy buffer fuel rest

end Sequential

/-! ### Conditions on what a program does to the sources -/

/-- `m` takes every world to one that `R` relates to it -/
def Keeps (R : World → World → Prop) {α : Type} (m : M α) : Prop := ∀ w, R w (m w).2

/-- a transitive relation between worlds that holds whenever the sources are the same: a frame condition
    ("sources other than … are untouched") or a monotonicity condition ("what was released stays released") -/
structure SrcsOrder (R : World → World → Prop) : Prop where
  of_srcs : ∀ {w w' : World}, w'.srcs = w.srcs → R w w'
  trans : ∀ {a b c : World}, R a b → R b c → R a c

namespace SrcsOrder
variable {R : World → World → Prop} (hR : SrcsOrder R)
include hR

theorem pure {α : Type} (a : α) : Keeps R (pure a : M α) := fun _ => hR.of_srcs rfl

theorem raise {α : Type} (x : Exc) : Keeps R (raise x : M α) := fun _ => hR.of_srcs rfl

theorem liftExc {α : Type} (r : Except Exc α) : Keeps R (liftExc r) := fun w => by
  unfold AsyncVerif.liftExc; cases r <;> exact hR.of_srcs rfl

theorem yieldV (v : Val) : Keeps R (yieldV v) := fun w => hR.of_srcs (yieldV_srcs v w)

theorem bind {α β : Type} {m : M α} {f : α → M β} (hm : Keeps R m) (hf : ∀ a, Keeps R (f a)) :
    Keeps R (m >>= f) := fun w => by
  have h1 := hm w
  rw [bind_apply]
  revert h1
  rcases m w with ⟨r, w1⟩
  intro h1
  cases r with
  | ok a => exact hR.trans h1 (hf a w1)
  | error e => exact h1

theorem tryFinally {α : Type} {body : M α} {fin : M Unit} (hb : Keeps R body) (hf : Keeps R fin) (hq : Quiet fin) :
    Keeps R (tryFinally body fin) := fun w => by
  rw [tryFinally_eq, (hq _).1]
  split
  · exact hb w
  · exact hR.trans (hb w) (hf _)

theorem sequential : Sequential (fun {_} m => Keeps R m) := ⟨hR.pure, fun x _ => hR.raise x, hR.bind⟩

end SrcsOrder

namespace Compositional
variable {P : ∀ {α : Type}, M α → Prop} (h : Compositional @P)
include h

theorem closeAll : ∀ l, P (closeAll l)
  | [] => h.pure _
  | s :: rest => h.bind (h.closeSrc s) fun _ => closeAll rest

theorem scopedIter {α : Type} (s : Nat) {body : M α} (hb : P body) : P (scopedIter s body) :=
  h.tryFinally hb (h.closeSrc s) (closeSrc_quiet s)

theorem finallyCloseAll {α : Type} (l : List Nat) {body : M α} (hb : P body) :
    P (AsyncVerif.tryFinally body (AsyncVerif.closeAll l)) :=
  h.tryFinally hb (h.closeAll l) (closeAll_quiet l)

theorem forEach (s : Nat) (body : Val → M Bool) (hb : ∀ x, P (body x)) (fuel : Nat) : P (forEach s body fuel) :=
  h.toSequential.forEach (h.pull s) body hb fuel

theorem passLoop (s fuel : Nat) : P (passLoop s fuel) := h.toSequential.passLoop (h.pull s) h.yieldV fuel

theorem test (fn : Option Nat) (x : Val) : P (test fn x) :=
  match fn with
  | none => h.pure _
  | some f => h.bind (h.call f [x]) fun _ => h.pure _

theorem anext (s : Nat) : P (anext s) :=
  h.bind (h.pull s) fun
    | none => h.raise _ nofun
    | some _ => h.pure _

theorem filterLoop (fn : Option Nat) (neg : Bool) (s fuel : Nat) : P (Std.filterLoop fn neg s fuel) :=
  h.forEach s _ (fun x => h.bind (h.test fn x) fun _ =>
    ite_both _ (h.bind (h.yieldV x) fun _ => h.pure _) (h.pure _)) fuel

theorem enumerateLoop (s : Nat) : ∀ (fuel : Nat) (c : Int), P (Std.enumerateLoop s c fuel)
  | 0, _ => h.outOfFuel
  | fuel+1, c => h.bind (h.pull s) fun
    | none => h.pure _
    | some _ => h.bind (h.yieldV _) fun _ => enumerateLoop s fuel (c + 1)

theorem takewhileLoop (f s fuel : Nat) : P (Std.takewhileLoop f s fuel) :=
  h.forEach s _ (fun x => h.bind (h.call f [x]) fun _ =>
    ite_both _ (h.bind (h.yieldV x) fun _ => h.pure _) (h.pure _)) fuel

theorem dropwhileLoop (f s : Nat) : ∀ (fuel : Nat) (b : Bool), P (Std.dropwhileLoop f s b fuel)
  | 0, _ => h.outOfFuel
  | fuel+1, _ => h.bind (h.pull s) fun
    | none => h.pure _
    | some x => ite_both _ (h.bind (h.yieldV x) fun _ => dropwhileLoop f s fuel true)
        (h.bind (h.call f [x]) fun _ =>
          ite_both _ (dropwhileLoop f s fuel false) (h.bind (h.yieldV x) fun _ => dropwhileLoop f s fuel true))

theorem starmapLoop (f s fuel : Nat) : P (Std.starmapLoop f s fuel) :=
  h.forEach s _ (fun x => h.bind (h.liftExc _ (Val.asArgs_ne_user x)) fun _ =>
    h.bind (h.call f _) fun _ => h.bind (h.yieldV _) fun _ => h.pure _) fuel

theorem accStep (fn : Option Nat) (t x : Val) : P (Std.accStep fn t x) :=
  match fn with
  | none => h.liftExc _ (Val.add_ne_user t x)
  | some f => h.call f _

theorem accLoop (fn : Option Nat) (s : Nat) : ∀ (fuel : Nat) (t : Val), P (Std.accLoop fn s t fuel)
  | 0, _ => h.outOfFuel
  | fuel+1, t => h.bind (h.pull s) fun
    | none => h.pure _
    | some x => h.bind (h.accStep fn t x) fun t' => h.bind (h.yieldV t') fun _ => accLoop fn s fuel t'

theorem stdAccumulate (fn : Option Nat) (ini : Option Val) (s fuel : Nat) : P (Std.accumulate fn ini s fuel) :=
  have k := fun first => h.bind (h.yieldV first) fun _ => h.accLoop fn s fuel first
  match ini with
  | some v => h.bind (h.pure v) k
  | none => h.bind (h.tryCatchStop (h.anext s) (h.raise _ nofun)) k

theorem collect (s : Nat) : ∀ (n : Nat) (acc : List Val), P (Std.collect s n acc)
  | 0, _ => h.pure _
  | n+1, acc => h.bind (h.pull s) fun
    | none => h.pure _
    | some x => collect s n (acc ++ [x])

theorem batchedLoop (n : Nat) (strict : Bool) (s : Nat) : ∀ fuel, P (Std.batchedLoop n strict s fuel)
  | 0 => h.outOfFuel
  | fuel+1 => h.bind (h.collect s n []) fun
    | (batch, _) => ite_both _ (h.bind (h.yieldV (.tup batch)) fun _ => batchedLoop n strict s fuel)
        (ite_both _ (h.pure _) (ite_both _ (h.raise _ nofun) (h.yieldV _)))

theorem stdBatched (n : Nat) (strict : Bool) (s fuel : Nat) : P (Std.batched n strict s fuel) :=
  ite_both _ (h.raise _ nofun) (h.batchedLoop n strict s fuel)

theorem pairwiseLoop (s : Nat) : ∀ (fuel : Nat) (old : Val), P (Std.pairwiseLoop s old fuel)
  | 0, _ => h.outOfFuel
  | fuel+1, old => h.bind (h.pull s) fun
    | none => h.pure _
    | some x => h.bind (h.yieldV (.tup [old, x])) fun _ => pairwiseLoop s fuel x

theorem stdPairwise (s fuel : Nat) : P (Std.pairwise s fuel) :=
  h.bind (h.pull s) fun
    | none => h.pure _
    | some old => h.pairwiseLoop s fuel old

theorem zipRow : ∀ (l : List Nat) (acc : List Val), P (Std.zipRow l acc)
  | [], _ => h.pure _
  | s :: rest, acc => h.bind (h.pull s) fun
    | none => h.pure _
    | some x => zipRow rest (acc ++ [x])

theorem zipLoop (srcs : List Nat) (k : List Val → M Unit) (hk : ∀ row, P (k row)) : ∀ fuel, P (Std.zipLoop srcs k fuel)
  | 0 => h.outOfFuel
  | fuel+1 => h.bind (h.zipRow srcs []) fun
    | none => h.pure _
    | some row => h.bind (hk row) fun _ => zipLoop srcs k hk fuel

theorem zipRowStrict : ∀ (l : List Nat) (i : Nat) (acc : List Val), P (Std.zipRowStrict l i acc)
  | [], _, _ => h.pure _
  | s :: rest, i, acc => h.bind (h.pull s) fun
    | none => h.pure _
    | some x => zipRowStrict rest (i + 1) (acc ++ [x])

theorem checkRestEmpty : ∀ l, P (Std.checkRestEmpty l)
  | [] => h.pure _
  | s :: rest => h.bind (h.pull s) fun
    | none => checkRestEmpty rest
    | some _ => h.raise _ nofun

theorem zipStrictLoop (srcs : List Nat) : ∀ fuel, P (Std.zipStrictLoop srcs fuel)
  | 0 => h.outOfFuel
  | fuel+1 => h.bind (h.zipRowStrict srcs 0 []) fun
    | .ok row => h.bind (h.yieldV (.tup row)) fun _ => zipStrictLoop srcs fuel
    | .error 0 => h.checkRestEmpty srcs.tail
    | .error (_+1) => h.raise _ nofun

theorem longestRow (fillv : Val) : ∀ (l : List (Nat × Bool)) (acc : List Val) (done : List (Nat × Bool)) (na : Nat),
    P (Std.longestRow fillv l acc done na)
  | [], _, _, _ => h.pure _
  | (s, false) :: rest, acc, done, na => longestRow fillv rest (acc ++ [fillv]) (done ++ [(s, false)]) na
  | (s, true) :: rest, acc, done, na => h.bind (h.pull s) fun
    | some x => longestRow fillv rest (acc ++ [x]) (done ++ [(s, true)]) na
    | none => ite_both _ (h.pure _) (longestRow fillv rest (acc ++ [fillv]) (done ++ [(s, false)]) (na - 1))

theorem zipLongestLoop (fillv : Val) : ∀ (fuel : Nat) (st : List (Nat × Bool)) (na : Nat),
    P (Std.zipLongestLoop fillv st na fuel)
  | 0, _, _ => h.outOfFuel
  | fuel+1, st, na => h.bind (h.longestRow fillv st [] [] na) fun
    | none => h.pure _
    | some (row, st', na') => h.bind (h.yieldV (.tup row)) fun _ => zipLongestLoop fillv fuel st' na'

theorem iterSentinel (f : Nat) (sv : Val) : ∀ fuel, P (Std.iterSentinel f sv fuel)
  | 0 => h.outOfFuel
  | fuel+1 => h.bind (h.call f []) fun v =>
    ite_both _ (h.pure _) (h.bind (h.yieldV v) fun _ => iterSentinel f sv fuel)

theorem allLoop (s : Nat) : ∀ fuel, P (Std.allLoop s fuel)
  | 0 => h.outOfFuel
  | fuel+1 => h.bind (h.pull s) fun
    | none => h.pure _
    | some _ => ite_both _ (allLoop s fuel) (h.pure _)

theorem anyLoop (s : Nat) : ∀ fuel, P (Std.anyLoop s fuel)
  | 0 => h.outOfFuel
  | fuel+1 => h.bind (h.pull s) fun
    | none => h.pure _
    | some _ => ite_both _ (h.pure _) (anyLoop s fuel)

theorem skipTo (s : Nat) : ∀ (k cnt : Nat), P (Std.skipTo s k cnt)
  | 0, _ => h.pure _
  | k+1, cnt => h.bind (h.pull s) fun
    | none => h.pure _
    | some _ => skipTo s k (cnt + 1)

theorem cycleFirst (s : Nat) : ∀ (fuel : Nat) (buf : List Val), P (Std.cycleFirst s buf fuel)
  | 0, _ => h.outOfFuel
  | fuel+1, buf => h.bind (h.pull s) fun
    | none => h.pure _
    | some x => h.bind (h.yieldV x) fun _ => cycleFirst s fuel (buf ++ [x])

theorem replay (buffer : List Val) (fuel : Nat) (l : List Val) : P (Std.replay buffer l fuel) :=
  h.toSequential.replay h.yieldV buffer fuel l

theorem dropPhase (f s : Nat) : ∀ fuel, P (Impl.dropPhase f s fuel)
  | 0 => h.outOfFuel
  | fuel+1 => h.bind (h.pull s) fun
    | none => h.pure _
    | some x => h.bind (h.call f [x]) fun _ =>
      ite_both _ (dropPhase f s fuel) (h.bind (h.yieldV x) fun _ => h.pure _)

theorem idxLoop (s step : Nat) (lim : Option Nat) : ∀ (fuel idx : Nat), P (Impl.idxLoop s step lim idx fuel)
  | 0, _ => h.outOfFuel
  | fuel+1, idx => h.bind (h.pull s) fun
    | none => h.pure _
    | some x => by
      refine ite_both _ (h.bind (h.yieldV x) ?k) (?k ())
      exact fun _ => ite_both _ (h.pure _) (idxLoop s step lim fuel (idx + 1))

theorem chainIter (fuel : Nat) : ∀ l, P (Impl.chainIter l fuel)
  | [] => h.pure _
  | s :: rest => h.bind (h.scopedIter s (h.passLoop s fuel)) fun _ => chainIter fuel rest

theorem filter (fn : Option Nat) (s fuel : Nat) : P (Impl.filter fn s fuel) :=
  h.scopedIter s (h.filterLoop fn false s fuel)

theorem filterfalse (fn : Option Nat) (s fuel : Nat) : P (Impl.filterfalse fn s fuel) :=
  h.scopedIter s (h.filterLoop fn true s fuel)

theorem enumerate (s : Nat) (start : Int) (fuel : Nat) : P (Impl.enumerate s start fuel) :=
  h.scopedIter s (h.enumerateLoop s fuel start)

theorem takewhile (f s fuel : Nat) : P (Impl.takewhile f s fuel) :=
  h.scopedIter s (h.takewhileLoop f s fuel)

theorem dropwhile (f s fuel : Nat) : P (Impl.dropwhile f s fuel) :=
  h.scopedIter s (h.bind (h.dropPhase f s fuel) fun
    | some rest => h.passLoop s rest
    | none => h.pure _)

theorem starmap (f s fuel : Nat) : P (Impl.starmap f s fuel) :=
  h.scopedIter s (h.starmapLoop f s fuel)

theorem accumulate (fn : Option Nat) (ini : Option Val) (s fuel : Nat) : P (Impl.accumulate fn ini s fuel) :=
  h.scopedIter s (h.stdAccumulate fn ini s fuel)

theorem batched (n : Nat) (strict : Bool) (s fuel : Nat) : P (Impl.batched n strict s fuel) :=
  ite_both _ (h.raise _ nofun) (h.scopedIter s (h.batchedLoop n strict s fuel))

theorem compress (d sel fuel : Nat) : P (Impl.compress d sel fuel) := by
  refine h.scopedIter d (h.scopedIter sel (h.finallyCloseAll _ (h.zipLoop _ _ (fun row => ?_) fuel)))
  split
  · exact ite_both _ (h.yieldV _) (h.pure _)
  · exact h.pure _

theorem cycle (s fuel : Nat) : P (Impl.cycle s fuel) :=
  h.bind (h.scopedIter s (h.cycleFirst s fuel [])) fun buf => h.replay buf fuel []

theorem islice (s start : Nat) (stop : Option Nat) (step fuel : Nat) : P (Impl.islice s start stop step fuel) := by
  refine h.scopedIter s
    (ite_both _ (h.bind (h.bind (h.skipTo s start 0) fun _ => h.pure _) ?k) (h.bind (h.pure true) ?k))
  exact fun _ => ite_both _ (h.pure _) (match stop with
    | none => h.idxLoop s step none fuel 0
    | some _ => ite_both _ (h.pure _) (h.idxLoop s step _ fuel 0))

theorem pairwise (s fuel : Nat) : P (Impl.pairwise s fuel) :=
  h.scopedIter s (h.stdPairwise s fuel)

theorem zip (srcs : List Nat) (fuel : Nat) : P (Impl.zip srcs fuel) :=
  ite_both _ (h.pure _) (h.finallyCloseAll srcs (h.zipLoop srcs _ (fun _ => h.yieldV _) fuel))

theorem zipStrict (srcs : List Nat) (fuel : Nat) : P (Impl.zipStrict srcs fuel) :=
  ite_both _ (h.pure _) (h.finallyCloseAll srcs (h.zipStrictLoop srcs fuel))

theorem map (f : Nat) (srcs : List Nat) (fuel : Nat) : P (Impl.map f srcs fuel) :=
  ite_both _ (h.pure _) (h.finallyCloseAll srcs
    (h.zipLoop srcs _ (fun row => h.bind (h.call f row) fun _ => h.yieldV _) fuel))

theorem zipLongest (fillv : Val) (srcs : List Nat) (fuel : Nat) : P (Impl.zipLongest fillv srcs fuel) :=
  ite_both _ (h.pure _) (h.finallyCloseAll srcs (h.zipLongestLoop fillv fuel _ _))

theorem all (s fuel : Nat) : P (Impl.all s fuel) := h.scopedIter s (h.allLoop s fuel)

theorem any (s fuel : Nat) : P (Impl.any s fuel) := h.scopedIter s (h.anyLoop s fuel)

end Compositional

end AsyncVerif
