import AsyncVerif.Machines.Tee
/-!
Helper lemmas and invariants for C09 (tee). Property theorems live in `Properties/C09.lean`.

Structure: `Inv` is the invariant of the machine between two operations.  While child `i` runs, the
state passes through points where `i` is inside `async with lock` (`Mid s i`) or outside of it
(`Rest s i`); every function of the machine gets a Hoare-style lemma between these predicates.
-/
namespace AsyncVerif.Tee

/-! ## Reading and writing children -/

theorem kid_eq_getElem (s : St) (j : Nat) (h : j < s.kids.length) : s.kid j = s.kids[j] := by
  simp [St.kid, List.getD_eq_getElem?_getD, h]

@[simp] theorem length_setKid (s : St) (i : Nat) (c : Child) :
    (s.setKid i c).kids.length = s.kids.length := by
  simp [St.setKid]

theorem kid_setKid (s : St) (i j : Nat) (c : Child) (hi : i < s.kids.length) :
    (s.setKid i c).kid j = if j = i then c else s.kid j := by
  simp only [St.kid, St.setKid, List.getD_eq_getElem?_getD, List.getElem?_set]
  by_cases h : i = j
  · subst h; simp [hi]
  · have : ¬ j = i := fun e => h e.symm
    simp [h, this]

theorem kid_setKid_self {s : St} {i : Nat} (c : Child) (hi : i < s.kids.length) :
    (s.setKid i c).kid i = c := by
  rw [kid_setKid _ _ _ _ hi, if_pos rfl]

theorem kid_setKid_ne {s : St} {i j : Nat} (c : Child) (hne : j ≠ i) :
    (s.setKid i c).kid j = s.kid j := by
  simp [St.kid, St.setKid, List.getD_eq_getElem?_getD, List.getElem?_set_ne (Ne.symm hne)]

@[simp] theorem length_broadcast (s : St) (v : Val) : (broadcast s v).kids.length = s.kids.length := by
  simp [broadcast]

theorem kid_broadcast (s : St) (v : Val) (j : Nat) (hj : j < s.kids.length) :
    (broadcast s v).kid j = { s.kid j with buf := (s.kid j).buf.map (· ++ [v]) } := by
  simp [St.kid, broadcast, List.getD_eq_getElem?_getD, hj]

theorem forall_mem_kids {s : St} {P : Child → Prop} :
    (∀ c ∈ s.kids, P c) ↔ ∀ j, j < s.kids.length → P (s.kid j) := by
  constructor
  · intro h j hj
    rw [kid_eq_getElem s j hj]
    exact h _ (List.getElem_mem hj)
  · intro h c hc
    obtain ⟨j, hj, rfl⟩ := List.getElem_of_mem hc
    rw [← kid_eq_getElem s j hj]
    exact h j hj

theorem all_none_iff (s : St) :
    s.kids.all (fun c => c.buf.isNone) = true ↔ ∀ j, j < s.kids.length → (s.kid j).buf = none := by
  simp only [List.all_eq_true, Option.isNone_iff_eq_none]
  exact forall_mem_kids

theorem any_fetching_iff (s : St) :
    s.kids.any (fun c => isFetching c.pc) = true ↔
      ∃ j, j < s.kids.length ∧ isFetching (s.kid j).pc = true := by
  simp only [List.any_eq_true]
  constructor
  · rintro ⟨c, hc, h⟩
    obtain ⟨j, hj, rfl⟩ := List.getElem_of_mem hc
    exact ⟨j, hj, by rw [kid_eq_getElem s j hj]; exact h⟩
  · rintro ⟨j, hj, h⟩
    exact ⟨s.kids[j], List.getElem_mem hj, by rw [← kid_eq_getElem s j hj]; exact h⟩

@[simp] theorem setKid_fetched (s : St) (i c) : (s.setKid i c).fetched = s.fetched := rfl
@[simp] theorem setKid_src (s : St) (i c) : (s.setKid i c).src = s.src := rfl
@[simp] theorem setKid_srcCloses (s : St) (i c) : (s.setKid i c).srcCloses = s.srcCloses := rfl
@[simp] theorem setKid_srcEnded (s : St) (i c) : (s.setKid i c).srcEnded = s.srcEnded := rfl
@[simp] theorem setKid_srcKilled (s : St) (i c) : (s.setKid i c).srcKilled = s.srcKilled := rfl
@[simp] theorem setKid_withLock (s : St) (i c) : (s.setKid i c).withLock = s.withLock := rfl
@[simp] theorem setKid_suspPat (s : St) (i c) : (s.setKid i c).suspPat = s.suspPat := rfl
@[simp] theorem setKid_holder (s : St) (i c) : (s.setKid i c).holder = s.holder := rfl
@[simp] theorem setKid_overlap (s : St) (i c) : (s.setKid i c).overlap = s.overlap := rfl
@[simp] theorem setKid_closeable (s : St) (i c) : (s.setKid i c).closeable = s.closeable := rfl
@[simp] theorem setKid_diesOnCancel (s : St) (i c) : (s.setKid i c).diesOnCancel = s.diesOnCancel := rfl
@[simp] theorem setKid_pulls (s : St) (i c) : (s.setKid i c).pulls = s.pulls := rfl

@[simp] theorem broadcast_fetched (s : St) (v) : (broadcast s v).fetched = s.fetched := rfl
@[simp] theorem broadcast_src (s : St) (v) : (broadcast s v).src = s.src := rfl
@[simp] theorem broadcast_srcCloses (s : St) (v) : (broadcast s v).srcCloses = s.srcCloses := rfl
@[simp] theorem broadcast_srcEnded (s : St) (v) : (broadcast s v).srcEnded = s.srcEnded := rfl
@[simp] theorem broadcast_srcKilled (s : St) (v) : (broadcast s v).srcKilled = s.srcKilled := rfl
@[simp] theorem broadcast_withLock (s : St) (v) : (broadcast s v).withLock = s.withLock := rfl
@[simp] theorem broadcast_suspPat (s : St) (v) : (broadcast s v).suspPat = s.suspPat := rfl
@[simp] theorem broadcast_holder (s : St) (v) : (broadcast s v).holder = s.holder := rfl
@[simp] theorem broadcast_overlap (s : St) (v) : (broadcast s v).overlap = s.overlap := rfl
@[simp] theorem broadcast_diesOnCancel (s : St) (v) : (broadcast s v).diesOnCancel = s.diesOnCancel := rfl

theorem release_frame (s : St) (i) : release s i = { s with holder := (release s i).holder } := by
  unfold release; split <;> rfl

@[simp] theorem release_kids (s : St) (i) : (release s i).kids = s.kids :=
  (congrArg St.kids (release_frame s i) :)
@[simp] theorem release_kid (s : St) (i j) : (release s i).kid j = s.kid j :=
  (congrArg (St.kid · j) (release_frame s i) :)
@[simp] theorem release_fetched (s : St) (i) : (release s i).fetched = s.fetched :=
  (congrArg St.fetched (release_frame s i) :)
@[simp] theorem release_src (s : St) (i) : (release s i).src = s.src :=
  (congrArg St.src (release_frame s i) :)
@[simp] theorem release_srcCloses (s : St) (i) : (release s i).srcCloses = s.srcCloses :=
  (congrArg St.srcCloses (release_frame s i) :)
@[simp] theorem release_srcEnded (s : St) (i) : (release s i).srcEnded = s.srcEnded :=
  (congrArg St.srcEnded (release_frame s i) :)
@[simp] theorem release_srcKilled (s : St) (i) : (release s i).srcKilled = s.srcKilled :=
  (congrArg St.srcKilled (release_frame s i) :)
@[simp] theorem release_withLock (s : St) (i) : (release s i).withLock = s.withLock :=
  (congrArg St.withLock (release_frame s i) :)
@[simp] theorem release_suspPat (s : St) (i) : (release s i).suspPat = s.suspPat :=
  (congrArg St.suspPat (release_frame s i) :)
@[simp] theorem release_overlap (s : St) (i) : (release s i).overlap = s.overlap :=
  (congrArg St.overlap (release_frame s i) :)
@[simp] theorem release_closeable (s : St) (i) : (release s i).closeable = s.closeable :=
  (congrArg St.closeable (release_frame s i) :)
@[simp] theorem release_diesOnCancel (s : St) (i) : (release s i).diesOnCancel = s.diesOnCancel :=
  (congrArg St.diesOnCancel (release_frame s i) :)
@[simp] theorem release_pulls (s : St) (i) : (release s i).pulls = s.pulls :=
  (congrArg St.pulls (release_frame s i) :)
theorem release_holder (s : St) (i) :
    (release s i).holder = if s.holder = some i then none else s.holder := by
  unfold release; split <;> simp_all

/-- the child record the `finally` block leaves behind -/
def Child.finished (c : Child) (t : Task) : Child := { c with pc := .done, buf := none, task := t }

theorem finishKid_frame (s : St) (i t) : finishKid s i t =
    { s.setKid i ((s.kid i).finished t) with srcCloses := (finishKid s i t).srcCloses } := by
  unfold finishKid; simp only []; split <;> rfl

theorem finishKid_kids (s : St) (i t) :
    (finishKid s i t).kids = (s.setKid i ((s.kid i).finished t)).kids :=
  (congrArg St.kids (finishKid_frame s i t) :)
@[simp] theorem finishKid_length (s : St) (i t) : (finishKid s i t).kids.length = s.kids.length := by
  rw [finishKid_kids, length_setKid]
theorem finishKid_kid (s : St) (i j t) (hi : i < s.kids.length) :
    (finishKid s i t).kid j = if j = i then (s.kid i).finished t else s.kid j :=
  (congrArg (St.kid · j) (finishKid_frame s i t) :).trans (kid_setKid _ _ _ _ hi)
theorem finishKid_kid_ne (s : St) {i j : Nat} (t : Task) (hne : j ≠ i) :
    (finishKid s i t).kid j = s.kid j :=
  (congrArg (St.kid · j) (finishKid_frame s i t) :).trans (kid_setKid_ne _ hne)
@[simp] theorem finishKid_fetched (s : St) (i t) : (finishKid s i t).fetched = s.fetched :=
  (congrArg St.fetched (finishKid_frame s i t) :)
@[simp] theorem finishKid_src (s : St) (i t) : (finishKid s i t).src = s.src :=
  (congrArg St.src (finishKid_frame s i t) :)
@[simp] theorem finishKid_srcEnded (s : St) (i t) : (finishKid s i t).srcEnded = s.srcEnded :=
  (congrArg St.srcEnded (finishKid_frame s i t) :)
@[simp] theorem finishKid_srcKilled (s : St) (i t) : (finishKid s i t).srcKilled = s.srcKilled :=
  (congrArg St.srcKilled (finishKid_frame s i t) :)
@[simp] theorem finishKid_withLock (s : St) (i t) : (finishKid s i t).withLock = s.withLock :=
  (congrArg St.withLock (finishKid_frame s i t) :)
@[simp] theorem finishKid_suspPat (s : St) (i t) : (finishKid s i t).suspPat = s.suspPat :=
  (congrArg St.suspPat (finishKid_frame s i t) :)
@[simp] theorem finishKid_holder (s : St) (i t) : (finishKid s i t).holder = s.holder :=
  (congrArg St.holder (finishKid_frame s i t) :)
@[simp] theorem finishKid_overlap (s : St) (i t) : (finishKid s i t).overlap = s.overlap :=
  (congrArg St.overlap (finishKid_frame s i t) :)
@[simp] theorem finishKid_closeable (s : St) (i t) : (finishKid s i t).closeable = s.closeable :=
  (congrArg St.closeable (finishKid_frame s i t) :)
@[simp] theorem finishKid_diesOnCancel (s : St) (i t) :
    (finishKid s i t).diesOnCancel = s.diesOnCancel :=
  (congrArg St.diesOnCancel (finishKid_frame s i t) :)
@[simp] theorem finishKid_pulls (s : St) (i t) : (finishKid s i t).pulls = s.pulls :=
  (congrArg St.pulls (finishKid_frame s i t) :)

/-- the source is closed by `finishKid` only if afterwards no buffer is registered -/
theorem finishKid_srcCloses (s : St) (i t) :
    (finishKid s i t).srcCloses = s.srcCloses ∨
    ((finishKid s i t).srcCloses = s.srcCloses + 1 ∧
      ∀ j, j < s.kids.length → j ≠ i → (s.kid j).buf = none) := by
  unfold finishKid; simp only []
  split
  · rename_i h
    right
    refine ⟨rfl, ?_⟩
    simp only [Bool.and_eq_true] at h
    have h1 := (all_none_iff _).1 h.1
    intro j hj hne
    have := h1 j (by simpa using hj)
    rwa [kid_setKid_ne _ hne] at this
  · left; rfl

theorem finishKid_srcCloses_mono (s : St) (i t) : s.srcCloses ≤ (finishKid s i t).srcCloses := by
  unfold finishKid; simp only []; split <;> simp

/-! ## The invariant -/

/-- no pull of the source ever suspends -/
def NoSusp (s : St) : Prop := ∀ k, s.suspPat.getD k 0 = 0

/-- the property's precondition: a lock is supplied, or the source never suspends -/
def Safe (s : St) : Prop := s.withLock = true ∨ NoSusp s

/-- the precondition of the property: a lock is supplied, or the source never suspends -/
def Pre (lock : Bool) (susp : List Nat) : Prop := lock = true ∨ ∀ k ∈ susp, k = 0

theorem noSusp_of_zeros (susp : List Nat) (h : ∀ k ∈ susp, k = 0) (n : Nat) : susp.getD n 0 = 0 := by
  rw [List.getD_eq_getElem?_getD]
  cases hn : susp[n]? with
  | none => rfl
  | some k => exact h k (List.mem_of_getElem? hn)

theorem Pre.safe {s : St} (h : Pre s.withLock s.suspPat) : Safe s :=
  h.imp id (noSusp_of_zeros _)

/-- the part of the invariant that also holds while a child is running -/
structure DInv (s : St) : Prop where
  reg : ∀ j, j < s.kids.length → ∀ b, (s.kid j).buf = some b → (s.kid j).out ++ b = s.fetched
  unreg : ∀ j, j < s.kids.length → (s.kid j).buf = none →
    (∃ t, (s.kid j).out ++ t = s.fetched) ∧ (s.kid j).pc = .done
  closedAll : 0 < s.srcCloses → ∀ j, j < s.kids.length → (s.kid j).buf = none
  endedSrc : s.srcEnded = true → s.src = []
  taskEnded : Safe s → ∀ j, j < s.kids.length → (s.kid j).task = .ended →
    (s.kid j).out = s.fetched ∧ s.srcDead = true ∧ (s.srcKilled = false → s.src = [])
  noOverlap : Safe s → s.overlap = false

/-- the invariant between two operations -/
structure Inv (s : St) : Prop where
  d : DInv s
  holder_lt : ∀ h, s.holder = some h →
    h < s.kids.length ∧ s.withLock = true ∧ isFetching (s.kid h).pc = true
  lockFetch : s.withLock = true → ∀ j, j < s.kids.length →
    isFetching (s.kid j).pc = true → s.holder = some j
  inside : ∀ j, j < s.kids.length →
    (isFetching (s.kid j).pc = true ∨ (s.kid j).pc = .acquiring) → (s.kid j).task = .active
  fetchEmpty : Safe s → ∀ j, j < s.kids.length →
    isFetching (s.kid j).pc = true → (s.kid j).buf = some []
  noFetch : s.withLock = false → NoSusp s → ∀ j, j < s.kids.length →
    isFetching (s.kid j).pc = false

/-- child `i` is running and is outside `async with lock` -/
structure Rest (s : St) (i : Nat) : Prop where
  d : DInv s
  hi : i < s.kids.length
  holder_lt : ∀ h, s.holder = some h →
    h ≠ i ∧ h < s.kids.length ∧ s.withLock = true ∧ isFetching (s.kid h).pc = true
  lockFetch : s.withLock = true → ∀ j, j < s.kids.length → j ≠ i →
    isFetching (s.kid j).pc = true → s.holder = some j
  inside : ∀ j, j < s.kids.length → j ≠ i →
    (isFetching (s.kid j).pc = true ∨ (s.kid j).pc = .acquiring) → (s.kid j).task = .active
  fetchEmpty : Safe s → ∀ j, j < s.kids.length → j ≠ i →
    isFetching (s.kid j).pc = true → (s.kid j).buf = some []
  noFetch : s.withLock = false → NoSusp s → ∀ j, j < s.kids.length → j ≠ i →
    isFetching (s.kid j).pc = false

/-- child `i` is running and is inside `async with lock` -/
structure Mid (s : St) (i : Nat) : Prop where
  d : DInv s
  hi : i < s.kids.length
  live : (s.kid i).pc ≠ .done
  act : (s.kid i).task = .active
  holdL : s.withLock = true → s.holder = some i
  holdN : s.withLock = false → s.holder = none
  others : s.withLock = true → ∀ j, j < s.kids.length → j ≠ i → isFetching (s.kid j).pc = false
  inside : ∀ j, j < s.kids.length → j ≠ i →
    (isFetching (s.kid j).pc = true ∨ (s.kid j).pc = .acquiring) → (s.kid j).task = .active
  emptyBuf : Safe s → (s.kid i).buf = some []
  fetchEmpty : Safe s → ∀ j, j < s.kids.length → j ≠ i →
    isFetching (s.kid j).pc = true → (s.kid j).buf = some []
  noFetch : s.withLock = false → NoSusp s → ∀ j, j < s.kids.length → j ≠ i →
    isFetching (s.kid j).pc = false

/-! ### The invariants, child by child

`DInv`, `Inv`, `Rest` and `Mid` are conjunctions of a few facts about the whole state and, for every
child, the clauses `KidD` (data) and `KidL` (lock discipline; in `Rest s i` and `Mid s i` for the
children other than `i`).  An operation is checked by looking at the one child it replaces. -/

/-- what `DInv` says of one child -/
structure KidD (s : St) (c : Child) : Prop where
  reg : ∀ b, c.buf = some b → c.out ++ b = s.fetched
  unreg : c.buf = none → (∃ t, c.out ++ t = s.fetched) ∧ c.pc = .done
  closedAll : 0 < s.srcCloses → c.buf = none
  taskEnded : Safe s → c.task = .ended →
    c.out = s.fetched ∧ s.srcDead = true ∧ (s.srcKilled = false → s.src = [])

/-- what `Inv` says of child `j` beyond `DInv` -/
structure KidL (s : St) (j : Nat) (c : Child) : Prop where
  lockFetch : s.withLock = true → isFetching c.pc = true → s.holder = some j
  inside : (isFetching c.pc = true ∨ c.pc = .acquiring) → c.task = .active
  fetchEmpty : Safe s → isFetching c.pc = true → c.buf = some []
  noFetch : s.withLock = false → NoSusp s → isFetching c.pc = false

theorem DInv.kid {s : St} (d : DInv s) {j : Nat} (hj : j < s.kids.length) : KidD s (s.kid j) :=
  ⟨d.reg j hj, d.unreg j hj, fun h => d.closedAll h j hj, fun h => d.taskEnded h j hj⟩

theorem DInv.of_kids {s : St} (he : s.srcEnded = true → s.src = []) (ho : Safe s → s.overlap = false)
    (hk : ∀ j, j < s.kids.length → KidD s (s.kid j)) : DInv s :=
  ⟨fun j hj => (hk j hj).reg, fun j hj => (hk j hj).unreg, fun h j hj => (hk j hj).closedAll h, he,
    fun h j hj => (hk j hj).taskEnded h, ho⟩

theorem Inv.kid {s : St} (h : Inv s) {j : Nat} (hj : j < s.kids.length) : KidL s j (s.kid j) :=
  ⟨fun hw => h.lockFetch hw j hj, h.inside j hj, fun hs => h.fetchEmpty hs j hj,
    fun a b => h.noFetch a b j hj⟩

theorem Rest.kid {s : St} {i : Nat} (h : Rest s i) {j : Nat} (hj : j < s.kids.length) (hne : j ≠ i) :
    KidL s j (s.kid j) :=
  ⟨fun hw => h.lockFetch hw j hj hne, h.inside j hj hne, fun hs => h.fetchEmpty hs j hj hne,
    fun a b => h.noFetch a b j hj hne⟩

/-- with a lock, `i` holds it and nobody else is inside the source -/
theorem Mid.kid {s : St} {i : Nat} (h : Mid s i) {j : Nat} (hj : j < s.kids.length) (hne : j ≠ i) :
    KidL s j (s.kid j) :=
  ⟨fun hw hf => (nomatch (h.others hw j hj hne).symm.trans hf), h.inside j hj hne,
    fun hs => h.fetchEmpty hs j hj hne, fun a b => h.noFetch a b j hj hne⟩

theorem Inv.of_kids {s : St} (d : DInv s)
    (hh : ∀ h, s.holder = some h →
      h < s.kids.length ∧ s.withLock = true ∧ isFetching (s.kid h).pc = true)
    (hk : ∀ j, j < s.kids.length → KidL s j (s.kid j)) : Inv s :=
  ⟨d, hh, fun hw j hj => (hk j hj).lockFetch hw, fun j hj => (hk j hj).inside,
    fun hs j hj => (hk j hj).fetchEmpty hs, fun a b j hj => (hk j hj).noFetch a b⟩

theorem Rest.of_kids {s : St} {i : Nat} (d : DInv s) (hi : i < s.kids.length)
    (hh : ∀ h, s.holder = some h →
      h ≠ i ∧ h < s.kids.length ∧ s.withLock = true ∧ isFetching (s.kid h).pc = true)
    (hk : ∀ j, j < s.kids.length → j ≠ i → KidL s j (s.kid j)) : Rest s i :=
  ⟨d, hi, hh, fun hw j hj e => (hk j hj e).lockFetch hw, fun j hj e => (hk j hj e).inside,
    fun hs j hj e => (hk j hj e).fetchEmpty hs, fun a b j hj e => (hk j hj e).noFetch a b⟩

theorem KidD.prefix {s : St} {c : Child} (h : KidD s c) : ∃ t, c.out ++ t = s.fetched := by
  cases hb : c.buf with
  | none => exact (h.unreg hb).1
  | some b => exact ⟨b, h.reg b hb⟩

theorem KidD.same {s : St} {c c' : Child} (h : KidD s c) (hb : c'.buf = c.buf) (ho : c'.out = c.out)
    (hn : c.buf = none → c'.pc = .done) (ht : c'.task = .ended → c.task = .ended) : KidD s c' := by
  refine ⟨?_, ?_, ?_, fun hs e => ho ▸ h.taskEnded hs (ht e)⟩ <;> rw [hb] <;> try rw [ho]
  · exact h.reg
  · exact fun e => ⟨(h.unreg e).1, hn e⟩
  · exact h.closedAll

theorem KidL.quiet {s : St} {j : Nat} {c : Child} (hf : isFetching c.pc = false)
    (ha : c.pc = .acquiring → c.task = .active) : KidL s j c := by
  refine ⟨?_, ?_, ?_, fun _ _ => hf⟩ <;> rw [hf]
  · exact fun _ e => nomatch e
  · exact fun e => e.elim (fun e => nomatch e) ha
  · exact fun _ e => nomatch e

/-- child `i` is replaced by `c`: the clauses about `c` are all there is to check -/
theorem Inv.of_setKid {s : St} {i : Nat} {c : Child} (d : DInv s) (hi : i < s.kids.length)
    (hd : KidD s c) (hl : KidL s i c) (ho : ∀ j, j < s.kids.length → j ≠ i → KidL s j (s.kid j))
    (hh : ∀ h, s.holder = some h →
      h < s.kids.length ∧ s.withLock = true ∧ isFetching ((s.setKid i c).kid h).pc = true) :
    Inv (s.setKid i c) := by
  have hk : ∀ j, j < (s.setKid i c).kids.length →
      KidD s ((s.setKid i c).kid j) ∧ KidL s j ((s.setKid i c).kid j) := by
    intro j hj
    rw [length_setKid] at hj
    by_cases e : j = i
    · subst e; rw [kid_setKid_self c hi]; exact ⟨hd, hl⟩
    · rw [kid_setKid_ne c e]; exact ⟨d.kid hj, ho j hj e⟩
  exact .of_kids (.of_kids d.endedSrc d.noOverlap fun j hj => { (hk j hj).1 with })
    (fun h e => length_setKid s i c ▸ hh h e) fun j hj => { (hk j hj).2 with }

theorem Inv.rest {s : St} (h : Inv s) (i : Nat) (hi : i < s.kids.length)
    (hf : isFetching (s.kid i).pc = false) : Rest s i :=
  .of_kids h.d hi
    (fun x hx => ⟨fun e => (nomatch hf.symm.trans (e ▸ (h.holder_lt x hx).2.2 :)), h.holder_lt x hx⟩)
    fun _ hj _ => h.kid hj

theorem Inv.holder_none_of_nolock {s : St} (h : Inv s) (hw : s.withLock = false) : s.holder = none := by
  cases hh : s.holder with
  | none => rfl
  | some x => have := (h.holder_lt x hh).2.1; simp_all

theorem Inv.mid {s : St} (h : Inv s) (i : Nat) (hi : i < s.kids.length)
    (hf : isFetching (s.kid i).pc = true) : Mid s i := by
  have hw := h.holder_none_of_nolock
  obtain ⟨d, h1, h2, h3, h4, h5⟩ := h
  refine ⟨d, hi, ?_, ?_, ?_, hw, ?_, ?_, ?_, ?_, ?_⟩
  · intro hd; rw [hd] at hf; simp [isFetching] at hf
  · exact h3 i hi (Or.inl hf)
  · intro hl; exact h2 hl i hi hf
  · intro hl j hj hne
    cases hfj : isFetching (s.kid j).pc with
    | false => rfl
    | true =>
      have a := h2 hl i hi hf
      have b := h2 hl j hj hfj
      rw [a] at b; cases b; exact absurd rfl hne
  · intro j hj _ hx; exact h3 j hj hx
  · intro hs; exact h4 hs i hi hf
  · intro hs j hj _ hx; exact h4 hs j hj hx
  · intro a b j hj _; exact h5 a b j hj

/-! ## Hoare-style lemmas -/

theorem srcDead_setKid (s : St) (i c) : (s.setKid i c).srcDead = s.srcDead := rfl

theorem Rest.put {s : St} {i : Nat} (h : Rest s i) {c : Child} (hd : KidD s c) (hl : KidL s i c) :
    Inv (s.setKid i c) :=
  .of_setKid h.d h.hi hd hl (fun _ hj e => h.kid hj e) fun x hx =>
    have ⟨a, b⟩ := h.holder_lt x hx
    ⟨b.1, b.2.1, by rw [kid_setKid_ne c a]; exact b.2.2⟩

/-- child `i` changes only its program counter / task -/
theorem Rest.setKid {s : St} {i : Nat} (h : Rest s i) (c' : Child)
    (hb : c'.buf = (s.kid i).buf) (ho : c'.out = (s.kid i).out)
    (hf : isFetching c'.pc = false)
    (ha : c'.pc = .acquiring → c'.task = .active)
    (hn : (s.kid i).buf = none → c'.pc = .done)
    (ht : c'.task = .ended → (s.kid i).task = .ended) :
    Inv (s.setKid i c') :=
  h.put ((h.d.kid h.hi).same hb ho hn ht) (.quiet hf ha)

/-- `yield buffer.popleft()` with a non-empty buffer -/
theorem Rest.pop {s : St} {i : Nat} (h : Rest s i) (v : Val) (r : List Val)
    (hb : (s.kid i).buf = some (v :: r)) (ht : (s.kid i).task = .active) :
    Inv (s.setKid i { (s.kid i) with pc := .atYield, buf := some r, out := (s.kid i).out ++ [v] }) := by
  have d := h.d.kid h.hi
  refine h.put ⟨?_, nofun, ?_, ?_⟩ (.quiet rfl nofun)
  · rintro _ ⟨⟩
    rw [List.append_assoc]
    exact d.reg _ hb
  · intro hc
    rw [d.closedAll hc] at hb
    cases hb
  · intro _ e
    rw [ht] at e
    cases e

theorem Inv.closeSrc {s : St} (h : Inv s) (hn : ∀ j, j < s.kids.length → (s.kid j).buf = none) :
    Inv { s with srcCloses := s.srcCloses + 1 } :=
  { h with
    d := { h.d with
      closedAll := fun _ => hn
      taskEnded := fun hs j hj e =>
        have r := h.d.taskEnded hs j hj e
        ⟨r.1, by simp [St.srcDead], r.2.2⟩ } }

/-- the `finally` block -/
theorem Rest.finish {s : St} {i : Nat} (h : Rest s i) (t : Task)
    (ht : t = .ended → Safe s →
      (s.kid i).out = s.fetched ∧ s.srcDead = true ∧ (s.srcKilled = false → s.src = [])) :
    Inv (finishKid s i t) := by
  have h1 : Inv (s.setKid i ((s.kid i).finished t)) :=
    h.put ⟨nofun, fun _ => ⟨(h.d.kid h.hi).prefix, rfl⟩, fun _ => rfl, fun hs e => ht e hs⟩
      (.quiet rfl nofun)
  unfold finishKid
  simp only []
  split
  · rename_i hc
    exact h1.closeSrc ((all_none_iff _).1 (Bool.and_eq_true _ _ ▸ hc).1)
  · exact h1

theorem Rest.popYield_inv {s : St} {i : Nat} (h : Rest s i) (ht : (s.kid i).task = .active) :
    Inv (popYield s i).1 := by
  unfold popYield
  split
  · exact h.pop _ _ ‹_› ht
  · exact h.finish .failed nofun

/-- `lock.__aexit__` by the child that holds the lock, if there is one -/
theorem release_eq {s : St} {i : Nat} (hL : s.withLock = true → s.holder = some i)
    (hN : s.withLock = false → s.holder = none) : release s i = { s with holder := none } := by
  unfold release
  split
  · rfl
  · rename_i hne
    cases hw : s.withLock with
    | true => exact absurd (hL hw) hne
    | false => have := hN hw; cases s; simp_all

theorem Mid.released {s : St} {i : Nat} (h : Mid s i) : Rest { s with holder := none } i :=
  .of_kids { h.d with } h.hi nofun fun _ hj e =>
    { h.kid hj e with lockFetch := fun hw hf => (nomatch (h.others hw _ hj e).symm.trans hf) }

/-- the source reports its end while child `i` is inside the lock -/
theorem Mid.srcEnd {s : St} {i : Nat} (h : Mid s i) (hs : s.src = []) :
    Mid { s with srcEnded := true } i :=
  { h with
    d := { h.d with
      endedSrc := fun _ => hs
      taskEnded := fun hsafe j hj ht =>
        ⟨(h.d.taskEnded hsafe j hj ht).1, by simp [St.srcDead], fun _ => hs⟩ } }

theorem Mid.alone {s : St} {i : Nat} (h : Mid s i) (hs : Safe s) {j : Nat} (hj : j < s.kids.length)
    (hne : j ≠ i) : isFetching (s.kid j).pc = false := by
  cases hw : s.withLock with
  | true => exact h.others hw j hj hne
  | false => exact h.noFetch hw (hs.resolve_left (by simp [hw])) j hj hne

/-- the source returns `v`: it goes to every registered buffer -/
theorem KidD.fed {s : St} {c : Child} (h : KidD s c) (v : Val) (r : List Val)
    (hd : s.srcDead = false) :
    KidD { s with src := r, fetched := s.fetched ++ [v] } { c with buf := c.buf.map (· ++ [v]) } := by
  simp only [St.srcDead, Bool.or_eq_false_iff, decide_eq_false_iff_not] at hd
  refine ⟨?_, ?_, fun hc => absurd hc hd.2, fun hs e => ?_⟩
  · cases hb : c.buf with
    | none => nofun
    | some b =>
      rintro _ ⟨⟩
      show c.out ++ (b ++ [v]) = s.fetched ++ [v]
      rw [← List.append_assoc, h.reg b hb]
  · intro e
    have ⟨⟨t, ht⟩, hp⟩ := h.unreg (Option.map_eq_none_iff.1 e)
    exact ⟨⟨t ++ [v], by rw [← List.append_assoc, ht]⟩, hp⟩
  · have := (h.taskEnded hs e).2.1
    simp [St.srcDead, hd] at this

/-- the source returns an item while child `i` is inside the lock: it goes to every registered
    buffer, and the lock is released -/
theorem Mid.fetch_rest {s : St} {i : Nat} (h : Mid s i) (v : Val) (r : List Val)
    (hd : s.srcDead = false) :
    Rest (release (broadcast { s with src := r, fetched := s.fetched ++ [v] } v) i) i := by
  have hr : release (broadcast { s with src := r, fetched := s.fetched ++ [v] } v) i = _ :=
    release_eq h.holdL h.holdN
  have hk : ∀ j, j < s.kids.length → (broadcast s v).kid j = _ := kid_broadcast s v
  have hne : s.srcEnded ≠ true := by
    intro e; simp [St.srcDead, e] at hd
  rw [hr]
  refine .of_kids (.of_kids (fun e => absurd e hne) h.d.noOverlap fun j hj => ?_)
    (by simpa using h.hi) nofun fun j hj e => ?_
  all_goals
    replace hj : j < s.kids.length := by simpa using hj
    refine hk j hj ▸ ?_
  · exact { (h.d.kid hj).fed v r hd with }
  · have k := h.kid hj e
    exact ⟨fun hw hf => (nomatch (h.others hw j hj e).symm.trans hf), k.inside,
      fun hs hf => (nomatch (h.alone hs hj e).symm.trans hf), k.noFetch⟩

/-- what a child that ends by itself has yielded -/
theorem Mid.ended_ok {s : St} {i : Nat} (h : Mid s i) (hd : s.srcDead = true) (hsafe : Safe s) :
    (s.kid i).out = s.fetched ∧ s.srcDead = true ∧ (s.srcKilled = false → s.src = []) := by
  have ho := h.d.reg i h.hi [] (h.emptyBuf hsafe)
  rw [List.append_nil] at ho
  refine ⟨ho, hd, fun hk => ?_⟩
  simp only [St.srcDead, hk, Bool.or_false, Bool.or_eq_true, decide_eq_true_eq] at hd
  rcases hd with he | hc
  · exact h.d.endedSrc he
  · have := h.d.closedAll hc i h.hi
    rw [h.emptyBuf hsafe] at this
    cases this

theorem Mid.completeFetch_inv {s : St} {i : Nat} (h : Mid s i) : Inv (completeFetch s i).1 := by
  unfold completeFetch
  split
  · rename_i hd
    rw [release_eq h.holdL h.holdN]
    exact h.released.finish .ended fun _ hs => h.ended_ok hd hs
  · rename_i hd
    split
    · rename_i hs
      have h' := h.srcEnd hs
      rw [release_eq h'.holdL h'.holdN]
      exact h'.released.finish .ended fun _ hs => h'.ended_ok (by simp [St.srcDead]) hs
    · rename_i v r hs
      apply (h.fetch_rest v r (by simpa using hd)).popYield_inv
      rw [release_kid, kid_broadcast _ _ _ (by simpa using h.hi)]
      exact h.act

/-- under the precondition nobody else is inside the source when child `i` enters it -/
theorem Mid.no_overlap {s : St} {i : Nat} (h : Mid s i) (hf : isFetching (s.kid i).pc = false)
    (hsafe : Safe s) : s.kids.any (fun c => isFetching c.pc) = false := by
  refine Bool.eq_false_iff.2 fun hany => ?_
  obtain ⟨j, hj, hfj⟩ := (any_fetching_iff s).1 hany
  by_cases e : j = i
  · subst e; exact nomatch hf.symm.trans hfj
  · exact nomatch (h.alone hsafe hj e).symm.trans hfj

/-- child `i` suspends inside the source -/
theorem Mid.suspend {s : St} {i : Nat} (h : Mid s i) (k : Nat)
    (hnn : s.withLock = false → ¬ NoSusp s) :
    Inv (s.setKid i { (s.kid i) with pc := .fetching k }) := by
  have d := h.d.kid h.hi
  refine .of_setKid h.d h.hi (d.same rfl rfl (fun e => absurd (d.unreg e).2 h.live) id)
    ⟨fun hw _ => h.holdL hw, fun _ => h.act, fun hs _ => h.emptyBuf hs, fun hw hn => absurd hn (hnn hw)⟩
    (fun _ hj e => h.kid hj e) fun x hx => ?_
  cases hw : s.withLock with
  | false => rw [h.holdN hw] at hx; cases hx
  | true =>
    rw [h.holdL hw] at hx
    cases hx
    exact ⟨h.hi, rfl, by rw [kid_setKid_self _ h.hi]; rfl⟩

theorem Mid.startFetch_inv {s : St} {i : Nat} (h : Mid s i)
    (hf : isFetching (s.kid i).pc = false) : Inv (startFetch s i).1 := by
  have h1 : Mid { s with overlap := s.overlap || s.kids.any (fun c => isFetching c.pc) } i :=
    { h with d := { h.d with
        noOverlap := fun hs => by
          show (s.overlap || s.kids.any fun c => isFetching c.pc) = false
          rw [h.d.noOverlap hs, h.no_overlap hf hs]; rfl } }
  unfold startFetch
  simp only []
  split
  · exact h1.completeFetch_inv
  · have h2 : Mid { s with overlap := s.overlap || s.kids.any (fun c => isFetching c.pc),
                           pulls := s.pulls + 1 } i := { h1 with d := { h1.d with } }
    split
    · exact h2.completeFetch_inv
    · rename_i k hk
      refine h2.suspend k fun _ hn => ?_
      exact absurd ((hn _).symm.trans hk) (by omega)

theorem Inv.buf_ne_none {s : St} (h : Inv s) (i : Nat) (hi : i < s.kids.length)
    (hl : (s.kid i).pc ≠ .done) : (s.kid i).buf ≠ none :=
  fun e => hl (h.d.unreg i hi e).2

theorem release_enter {s : St} {i : Nat} (hh : s.holder = none) :
    release (if s.withLock = true then { s with holder := some i } else s) i = s := by
  unfold release
  cases s
  split <;> simp_all

/-- `lock.__aenter__` returns for child `i`, whose buffer is empty -/
theorem Inv.enter {s : St} (h : Inv s) {i : Nat} (hi : i < s.kids.length) (hh : s.holder = none)
    (ha : (s.kid i).task = .active) (hl : (s.kid i).pc ≠ .done) (hb : (s.kid i).buf = some []) :
    Mid (if s.withLock = true then { s with holder := some i } else s) i := by
  split
  · rename_i hw
    exact ⟨{ h.d with }, hi, hl, ha, fun _ => rfl, fun e => (nomatch hw.symm.trans e),
      fun _ j hj _ => Bool.eq_false_iff.2 fun hf => (nomatch hh.symm.trans (h.lockFetch hw j hj hf)),
      fun j hj _ => h.inside j hj, fun _ => hb, fun hs j hj _ => h.fetchEmpty hs j hj,
      fun a b j hj _ => h.noFetch a b j hj⟩
  · rename_i hw
    exact ⟨h.d, hi, hl, ha, fun e => absurd e hw, fun _ => hh, fun e => absurd e hw,
      fun j hj _ => h.inside j hj, fun _ => hb, fun hs j hj _ => h.fetchEmpty hs j hj,
      fun a b j hj _ => h.noFetch a b j hj⟩

/-- `lock.__aenter__` returns for child `i` -/
theorem Inv.enterCritical_inv {s : St} (h : Inv s) (i : Nat) (hi : i < s.kids.length)
    (hh : s.holder = none) (ha : (s.kid i).task = .active) (hl : (s.kid i).pc ≠ .done)
    (hf : isFetching (s.kid i).pc = false) : Inv (enterCritical s i).1 := by
  unfold enterCritical
  simp only []
  have hkid : (if s.withLock = true then { s with holder := some i } else s).kid i = s.kid i := by
    split <;> rfl
  rw [hkid]
  split
  · rw [release_enter hh]
    exact (h.rest i hi hf).popYield_inv ha
  · rename_i hb
    refine (h.enter hi hh ha hl ?_).startFetch_inv (hkid ▸ hf)
    cases hb' : (s.kid i).buf with
    | none => exact absurd hb' (h.buf_ne_none i hi hl)
    | some b =>
      cases b with
      | nil => rfl
      | cons x y => exact absurd hb' (hb x y)

/-- top of the loop of `tee_peer` -/
theorem Inv.loopTop_inv {s : St} (h : Inv s) (i : Nat) (hi : i < s.kids.length)
    (ha : (s.kid i).task = .active) (hl : (s.kid i).pc ≠ .done)
    (hf : isFetching (s.kid i).pc = false) : Inv (loopTop s i).1 := by
  unfold loopTop
  split
  · exact (h.rest i hi hf).popYield_inv ha
  · split
    · exact (h.rest i hi hf).setKid _ rfl rfl rfl (fun _ => ha)
        (fun e => absurd e (h.buf_ne_none i hi hl)) (fun e => by simp_all)
    · rename_i hc
      have hh : s.holder = none := by
        cases hw : s.withLock with
        | false => exact h.holder_none_of_nolock hw
        | true => simpa [hw] using hc
      exact h.enterCritical_inv i hi hh ha hl hf

theorem Inv.sched_inv {s : St} (h : Inv s) (i : Nat) (hi : i < s.kids.length) :
    Inv (sched s i).1 := by
  unfold sched
  split
  · rename_i ha
    split
    · rename_i hp
      refine (h.rest i hi (by simp [hp, isFetching])).setKid _ rfl rfl (by simp [hp, isFetching])
        (by simp [hp]) (by simp [hp]) (by simp)
    · rename_i hp; exact h.loopTop_inv i hi ha (by simp [hp]) (by simp [hp, isFetching])
    · rename_i hp; exact h.loopTop_inv i hi ha (by simp [hp]) (by simp [hp, isFetching])
    · rename_i hp
      split
      · exact h
      · rename_i hh
        exact h.enterCritical_inv i hi (by simpa using hh) ha (by simp [hp]) (by simp [hp, isFetching])
    · rename_i hp
      exact (h.mid i hi (by simp [hp, isFetching])).completeFetch_inv
    · rename_i k hp
      refine (h.mid i hi (by simp [hp, isFetching])).suspend k ?_
      intro hw hn
      have := h.noFetch hw hn i hi
      simp [hp, isFetching] at this
  · exact h

theorem Inv.closeKid_inv {s : St} (h : Inv s) (i : Nat) (hi : i < s.kids.length) :
    Inv (closeKid s i).1 := by
  unfold closeKid
  split
  · rename_i hp
    exact (h.rest i hi (by simp [hp, isFetching])).setKid _ rfl rfl (by simp [isFetching])
      (by simp) (by simp) (by simp)
  · rename_i hp
    exact (h.rest i hi (by simp [hp, isFetching])).finish _ fun ht hs => h.d.taskEnded hs i hi ht
  · exact h
  · exact h

/-- a cancellation thrown into the pending pull finishes the source -/
theorem Mid.kill {s : St} {i : Nat} (h : Mid s i) : Mid { s with srcKilled := true } i :=
  { h with
    d := { h.d with
      taskEnded := fun hsafe j hj ht =>
        ⟨(h.d.taskEnded hsafe j hj ht).1, by simp [St.srcDead], nofun⟩ } }

theorem Inv.cancel_inv {s : St} (h : Inv s) (i : Nat) (hi : i < s.kids.length) :
    Inv (cancel s i).1 := by
  unfold cancel
  split
  · rename_i ha
    split
    · rename_i hp
      exact (h.rest i hi (by simp [hp, isFetching])).finish _ (by simp)
    · rename_i k hp
      have hm := h.mid i hi (by simp [hp, isFetching])
      simp only []
      have hm' : Mid (if s.diesOnCancel = true then { s with srcKilled := true } else s) i := by
        split
        · exact hm.kill
        · exact hm
      rw [release_eq hm'.holdL hm'.holdN]
      exact hm'.released.finish _ (by simp)
    · rename_i hp1 hp2
      have hf : isFetching (s.kid i).pc = false := by
        cases hpc : (s.kid i).pc with
        | fetching k => exact absurd hpc (hp2 k)
        | _ => rfl
      exact (h.rest i hi hf).setKid _ rfl rfl hf (fun e => absurd e hp1)
        (fun e => (h.d.unreg i hi e).2) (by simp)
  · exact h


@[simp] theorem popYield_length (s : St) (i : Nat) : (popYield s i).1.kids.length = s.kids.length := by
  unfold popYield; split <;> simp

@[simp] theorem closeKid_length (s : St) (i : Nat) : (closeKid s i).1.kids.length = s.kids.length := by
  unfold closeKid; split <;> simp

/-! ### `Tee.aclose`: the loop over the children, then `self._buffers.clear()` and closing the source -/

theorem closeFrom_cons (s : St) (i : Nat) (rest : List Nat) :
    closeFrom s (i :: rest) =
      if (closeKid s i).2 = .busy then ((closeKid s i).1, .busy) else closeFrom (closeKid s i).1 rest := by
  rw [closeFrom]
  split
  · rename_i s' heq; simp [heq]
  · rename_i s' o hne heq
    have : o ≠ .busy := hne
    simp [heq, this]

theorem Inv.closeFrom_inv {s : St} (h : Inv s) (l : List Nat) (hl : ∀ i ∈ l, i < s.kids.length) :
    Inv (closeFrom s l).1 := by
  induction l generalizing s with
  | nil => exact h
  | cons i rest ih =>
    have h1 := h.closeKid_inv i (hl i (by simp))
    rw [closeFrom_cons]
    split
    · exact h1
    · exact ih h1 fun j hj => by rw [closeKid_length]; exact hl j (by simp [hj])

@[simp] theorem closeFrom_length (s : St) (l : List Nat) : (closeFrom s l).1.kids.length = s.kids.length := by
  induction l generalizing s with
  | nil => rfl
  | cons i rest ih => rw [closeFrom_cons]; split <;> simp [ih]

theorem closeKid_pc_done (s : St) (i : Nat) (hi : i < s.kids.length) (hb : (closeKid s i).2 ≠ .busy) :
    ((closeKid s i).1.kid i).pc = .done := by
  cases hp : (s.kid i).pc <;> simp [closeKid, hp] at hb ⊢
  · simp [kid_setKid _ _ _ _ hi]
  · simp [finishKid_kid _ _ _ _ hi, Child.finished]

theorem closeKid_keeps_done (s : St) (i j : Nat) (hi : i < s.kids.length) (hd : (s.kid j).pc = .done) :
    ((closeKid s i).1.kid j).pc = .done := by
  by_cases hji : j = i
  · subst hji; simp [closeKid, hd]
  · cases hp : (s.kid i).pc <;>
      simp [closeKid, hp, kid_setKid_ne _ hji, finishKid_kid_ne _ _ hji, hd]

theorem closeFrom_keeps_done (s : St) (l : List Nat) (hl : ∀ i ∈ l, i < s.kids.length) (j : Nat)
    (hd : (s.kid j).pc = .done) : ((closeFrom s l).1.kid j).pc = .done := by
  induction l generalizing s with
  | nil => exact hd
  | cons i rest ih =>
    have hi : i < s.kids.length := hl i (by simp)
    have h1 := closeKid_keeps_done s i j hi hd
    rw [closeFrom_cons]
    split
    · exact h1
    · exact ih _ (by intro k hk; rw [closeKid_length]; exact hl k (by simp [hk])) h1

/-- a `Tee.aclose` loop that no child aborted has closed every child it went over -/
theorem closeFrom_pc_done (s : St) (l : List Nat) (hl : ∀ i ∈ l, i < s.kids.length)
    (hb : (closeFrom s l).2 ≠ .busy) : ∀ i ∈ l, ((closeFrom s l).1.kid i).pc = .done := by
  induction l generalizing s with
  | nil => intro i hi; simp at hi
  | cons i rest ih =>
    have hi : i < s.kids.length := hl i (by simp)
    have hl' : ∀ k ∈ rest, k < (closeKid s i).1.kids.length := by
      intro k hk; rw [closeKid_length]; exact hl k (by simp [hk])
    rw [closeFrom_cons] at hb ⊢
    split
    · rename_i hbusy; simp [hbusy] at hb
    · rename_i hnb
      simp only [hnb, if_false] at hb
      intro k hk
      rcases List.mem_cons.1 hk with e | hk'
      · subst e; exact closeFrom_keeps_done _ rest hl' k (closeKid_pc_done s k hi hnb)
      · exact ih _ hl' hb k hk'

theorem any_some_iff (s : St) :
    s.kids.any (fun c => c.buf.isSome) = false ↔ ∀ j, j < s.kids.length → (s.kid j).buf = none := by
  rw [← all_none_iff]
  induction s.kids with
  | nil => simp
  | cons c r ih => cases hb : c.buf <;> simp [hb, ih]

/-- `self._buffers.clear()` unregisters every child (those that are unregistered already are not
    touched); the source is closed if a buffer was still registered -/
theorem clearBuffers_eq (s : St) : clearBuffers s =
    { s with
      kids := s.kids.map fun (c : Child) => { c with buf := none }
      srcCloses := if s.kids.any (fun c => c.buf.isSome) && s.closeable then s.srcCloses + 1
        else s.srcCloses } := by
  unfold clearBuffers
  cases hany : s.kids.any (fun c => c.buf.isSome) with
  | true => cases hc : s.closeable <;> simp
  | false =>
    have : s.kids.map (fun (c : Child) => { c with buf := none }) = s.kids :=
      (List.map_congr_left fun c hc => by
        have := List.any_eq_false.1 hany c hc
        cases c; simp_all).trans (List.map_id _)
    cases s; simp_all

@[simp] theorem clearBuffers_length (s : St) : (clearBuffers s).kids.length = s.kids.length := by
  rw [clearBuffers_eq]; exact List.length_map _
@[simp] theorem clearBuffers_fetched (s : St) : (clearBuffers s).fetched = s.fetched :=
  (congrArg St.fetched (clearBuffers_eq s) :)
@[simp] theorem clearBuffers_src (s : St) : (clearBuffers s).src = s.src :=
  (congrArg St.src (clearBuffers_eq s) :)
@[simp] theorem clearBuffers_srcEnded (s : St) : (clearBuffers s).srcEnded = s.srcEnded :=
  (congrArg St.srcEnded (clearBuffers_eq s) :)
@[simp] theorem clearBuffers_srcKilled (s : St) : (clearBuffers s).srcKilled = s.srcKilled :=
  (congrArg St.srcKilled (clearBuffers_eq s) :)
@[simp] theorem clearBuffers_withLock (s : St) : (clearBuffers s).withLock = s.withLock :=
  (congrArg St.withLock (clearBuffers_eq s) :)
@[simp] theorem clearBuffers_suspPat (s : St) : (clearBuffers s).suspPat = s.suspPat :=
  (congrArg St.suspPat (clearBuffers_eq s) :)
@[simp] theorem clearBuffers_holder (s : St) : (clearBuffers s).holder = s.holder :=
  (congrArg St.holder (clearBuffers_eq s) :)
@[simp] theorem clearBuffers_overlap (s : St) : (clearBuffers s).overlap = s.overlap :=
  (congrArg St.overlap (clearBuffers_eq s) :)
@[simp] theorem clearBuffers_closeable (s : St) : (clearBuffers s).closeable = s.closeable :=
  (congrArg St.closeable (clearBuffers_eq s) :)

theorem clearBuffers_srcCloses_mono (s : St) : s.srcCloses ≤ (clearBuffers s).srcCloses := by
  rw [clearBuffers_eq]; dsimp only; split <;> omega

/-- `self._buffers.clear()`: every child keeps everything but its registration -/
theorem clearBuffers_kid (s : St) (j : Nat) (hj : j < s.kids.length) :
    (clearBuffers s).kid j = { s.kid j with buf := none } := by
  rw [clearBuffers_eq]
  simp [St.kid, List.getD_eq_getElem?_getD, hj]

/-- `Tee.aclose` closes the source itself if a buffer was still registered -/
theorem clearBuffers_srcCloses_of_any (s : St) (hany : s.kids.any (fun c => c.buf.isSome) = true)
    (hc : s.closeable = true) : (clearBuffers s).srcCloses = s.srcCloses + 1 := by
  rw [clearBuffers_eq]; simp [hany, hc]

theorem clearBuffers_srcCloses (s : St) (j : Nat) (hj : j < s.kids.length) (hb : (s.kid j).buf ≠ none)
    (hc : s.closeable = true) : (clearBuffers s).srcCloses = s.srcCloses + 1 := by
  refine clearBuffers_srcCloses_of_any s ?_ hc
  cases h : s.kids.any (fun c => c.buf.isSome) with
  | true => rfl
  | false => exact absurd ((any_some_iff s).1 h j hj) hb

theorem Inv.clearBuffers_inv {s : St} (h : Inv s)
    (hd : ∀ j, j < s.kids.length → (s.kid j).pc = .done) : Inv (clearBuffers s) := by
  have hk : ∀ j, j < s.kids.length → (clearBuffers s).kid j = _ := clearBuffers_kid s
  have h1 : Inv { s with kids := s.kids.map fun (c : Child) => { c with buf := none } } := by
    have hlen := clearBuffers_length s
    rw [clearBuffers_eq] at hk hlen
    refine .of_kids (.of_kids h.d.endedSrc h.d.noOverlap fun j hj => ?_)
      (fun x hx => ?_) fun j hj => ?_
    · replace hj := hlen ▸ hj
      have d := h.d.kid hj
      exact hk j hj ▸ ⟨nofun, fun _ => ⟨d.prefix, hd j hj⟩, fun _ => rfl, d.taskEnded⟩
    · have hx := h.holder_lt x hx
      exact ⟨hlen ▸ hx.1, hx.2.1, ((congrArg (fun c => isFetching c.pc) (hk x hx.1)).trans hx.2.2 :)⟩
    · replace hj := hlen ▸ hj
      exact hk j hj ▸ .quiet (by rw [hd j hj]; rfl) (by rw [hd j hj]; nofun)
  rw [clearBuffers_eq]
  split
  · exact h1.closeSrc fun j hj => by
      rw [clearBuffers_eq] at hk
      have hj' : j < s.kids.length := by simpa using hj
      exact (congrArg Child.buf (hk j hj') :)
  · exact h1

/-- `Tee.aclose` was aborted by a busy child: only the loop ran -/
theorem closeAll_busy (s : St) (hb : (closeFrom s (List.range s.kids.length)).2 = .busy) :
    closeAll s = closeFrom s (List.range s.kids.length) := by
  unfold closeAll; simp only [hb]

/-- `Tee.aclose` went over all children: the rest is unregistered -/
theorem closeAll_not_busy (s : St) (hb : (closeFrom s (List.range s.kids.length)).2 ≠ .busy) :
    closeAll s = (clearBuffers (closeFrom s (List.range s.kids.length)).1,
      (closeFrom s (List.range s.kids.length)).2) := by
  unfold closeAll; simp only []

theorem closeAll_out_busy (s : St) :
    (closeAll s).2 = .busy ↔ (closeFrom s (List.range s.kids.length)).2 = .busy := by
  by_cases hb : (closeFrom s (List.range s.kids.length)).2 = .busy
  · rw [closeAll_busy s hb]
  · rw [closeAll_not_busy s hb]

@[simp] theorem closeAll_length (s : St) : (closeAll s).1.kids.length = s.kids.length := by
  by_cases hb : (closeFrom s (List.range s.kids.length)).2 = .busy
  · rw [closeAll_busy s hb]; simp
  · rw [closeAll_not_busy s hb]; simp

theorem range_lt (s : St) : ∀ i ∈ List.range s.kids.length, i < s.kids.length := by
  intro i hi; simpa using hi

theorem Inv.closeAll_inv {s : St} (h : Inv s) : Inv (closeAll s).1 := by
  have h1 := h.closeFrom_inv _ (range_lt s)
  by_cases hb : (closeFrom s (List.range s.kids.length)).2 = .busy
  · rw [closeAll_busy s hb]; exact h1
  · rw [closeAll_not_busy s hb]
    refine h1.clearBuffers_inv ?_
    intro j hj
    rw [closeFrom_length] at hj
    exact closeFrom_pc_done s _ (range_lt s) hb j (by simpa using hj)

theorem Inv.step_inv {s : St} (h : Inv s) (op : Op) : Inv (step s op).1 := by
  cases op with
  | sched i => simp only [step]; split; exact h.sched_inv i ‹_›; exact h
  | close i => simp only [step]; split; exact h.closeKid_inv i ‹_›; exact h
  | cancel i => simp only [step]; split; exact h.cancel_inv i ‹_›; exact h
  | closeAll => exact h.closeAll_inv

theorem Inv.runOps_inv {s : St} (h : Inv s) (ops : List Op) : Inv (runOps s ops) := by
  induction ops generalizing s with
  | nil => exact h
  | cons op rest ih => exact ih (h.step_inv op)

theorem kid_init (items : List Val) (n : Nat) (susp : List Nat) (lock closeable dies : Bool) (j : Nat) :
    (init items n susp lock closeable dies).kid j = {} := by
  simp only [St.kid, init, List.getD_eq_getElem?_getD]
  by_cases hj : j < n
  · simp [hj]
  · simp [hj]

theorem init_inv (items : List Val) (n : Nat) (susp : List Nat) (lock closeable dies : Bool) :
    Inv (init items n susp lock closeable dies) :=
  .of_kids
    (.of_kids nofun (fun _ => rfl) fun j _ => kid_init items n susp lock closeable dies j ▸
      ⟨by rintro _ ⟨⟩; rfl, nofun, fun h => absurd h (Nat.lt_irrefl 0), fun _ => nofun⟩)
    nofun fun j _ => kid_init items n susp lock closeable dies j ▸ .quiet rfl nofun


/-! ## What no operation changes

Each source item is fetched once; the configuration (lock or not, suspension script, closeable or
not) stays; and only a cancellation can finish the source. -/

/-- everything the source has handed out plus everything it still holds -/
def St.total (s : St) : List Val := s.fetched ++ s.src

def St.cfg (s : St) : Bool × List Nat × Bool := (s.withLock, s.suspPat, s.closeable)

/-- what no operation changes -/
def St.const (s : St) : List Val × (Bool × List Nat × Bool) × Bool := (s.total, s.cfg, s.diesOnCancel)

@[simp] theorem total_setKid (s : St) (i c) : (s.setKid i c).total = s.total := rfl
@[simp] theorem cfg_setKid (s : St) (i c) : (s.setKid i c).cfg = s.cfg := rfl

/-! ## The shape of an operation on one child

A `send`, an `aclose()` of a child and a cancellation first move the lock, the counters and the
ghost fields and may hand a fetched item to every buffer (`Moves`); then they write their own child at
most once, by `setKid` or by the `finally` block (`Shape`). -/

/-- `kill`: a cancellation may finish the source -/
inductive Moves (kill : Bool) : St → St → Prop
  | refl (s) : Moves kill s s
  | holder {s g} (h : Option Nat) : Moves kill s g → Moves kill s { g with holder := h }
  | overlap {s g} (b : Bool) : Moves kill s g → Moves kill s { g with overlap := b }
  | pull {s g} : Moves kill s g → Moves kill s { g with pulls := g.pulls + 1 }
  | ended {s g} : Moves kill s g → Moves kill s { g with srcEnded := true }
  | killed {s g} : kill = true → Moves kill s g → Moves kill s { g with srcKilled := true }
  | fetch {s g} (v r) : g.src = v :: r → Moves kill s g →
      Moves kill s (broadcast { g with src := r, fetched := g.fetched ++ [v] } v)

theorem Moves.release {k : Bool} {s g : St} (h : Moves k s g) (i : Nat) : Moves k s (release g i) := by
  unfold Tee.release; split
  · exact h.holder none
  · exact h

theorem Moves.enter {k : Bool} {s g : St} (h : Moves k s g) (i : Nat) :
    Moves k s (if g.withLock = true then { g with holder := some i } else g) := by
  split
  · exact h.holder _
  · exact h

theorem broadcast_keeps (s : St) (v : Val) (j : Nat) :
    ((broadcast s v).kid j).pc = (s.kid j).pc ∧ ((broadcast s v).kid j).task = (s.kid j).task ∧
      ((broadcast s v).kid j).out = (s.kid j).out ∧
      (((broadcast s v).kid j).buf = none ↔ (s.kid j).buf = none) := by
  by_cases hj : j < s.kids.length
  · rw [kid_broadcast s v j hj]; exact ⟨rfl, rfl, rfl, Option.map_eq_none_iff⟩
  · have e : ∀ t : St, t.kids.length = s.kids.length → t.kid j = {} := fun t ht => by
      simp [St.kid, List.getD_eq_getElem?_getD, ht, hj]
    rw [e _ (length_broadcast s v), e s rfl]; exact ⟨rfl, rfl, rfl, Iff.rfl⟩

/-- what every operation keeps, or moves in one direction only -/
structure Keeps (k : Bool) (s s' : St) : Prop where
  const : s'.const = s.const
  killed : k = false → s'.srcKilled = s.srcKilled
  pulls : s.pulls ≤ s'.pulls
  closes : s.srcCloses ≤ s'.srcCloses
  len : s'.kids.length = s.kids.length

theorem Keeps.refl (k : Bool) (s : St) : Keeps k s s :=
  ⟨rfl, fun _ => rfl, Nat.le_refl _, Nat.le_refl _, rfl⟩

theorem Keeps.trans {k : Bool} {s s' s'' : St} (h : Keeps k s s') (h' : Keeps k s' s'') :
    Keeps k s s'' :=
  ⟨h'.const.trans h.const, fun e => (h'.killed e).trans (h.killed e), Nat.le_trans h.pulls h'.pulls,
    Nat.le_trans h.closes h'.closes, h'.len.trans h.len⟩

theorem Keeps.mono {k k' : Bool} {s s' : St} (h : Keeps k s s') (hk : k' = false → k = false) :
    Keeps k' s s' :=
  { h with killed := fun e => h.killed (hk e) }

/-- such moves do not call `iterator.aclose()` and keep of every child everything but the items in
    its buffer -/
structure Moved (k : Bool) (s g : St) : Prop extends Keeps k s g where
  sameCloses : g.srcCloses = s.srcCloses
  kid : ∀ j, (g.kid j).pc = (s.kid j).pc ∧ (g.kid j).task = (s.kid j).task ∧
    (g.kid j).out = (s.kid j).out ∧ ((g.kid j).buf = none ↔ (s.kid j).buf = none)

theorem Moves.keeps {k : Bool} {s g : St} (h : Moves k s g) : Moved k s g := by
  induction h with
  | refl => exact ⟨.refl k _, rfl, fun _ => ⟨rfl, rfl, rfl, Iff.rfl⟩⟩
  | holder _ _ ih => exact { ih with }
  | overlap _ _ ih => exact { ih with }
  | pull _ ih => exact { ih with pulls := Nat.le_succ_of_le ih.pulls }
  | ended _ ih => exact { ih with }
  | killed hk _ ih => exact { ih with killed := fun e => (nomatch hk.symm.trans e) }
  | @fetch g v r hs _ ih =>
    refine ⟨⟨?_, ih.killed, ih.pulls, ih.closes, (length_broadcast g v).trans ih.len⟩, ih.sameCloses,
      fun j => ?_⟩
    · rw [← ih.const]; simp [St.const, St.total, St.cfg, broadcast, hs]
    · have hb := broadcast_keeps { g with src := r, fetched := g.fetched ++ [v] } v j
      have ihj := ih.kid j
      exact ⟨hb.1.trans ihj.1, hb.2.1.trans ihj.2.1, hb.2.2.1.trans ihj.2.2.1, hb.2.2.2.trans ihj.2.2.2⟩

inductive Shape (k : Bool) (i : Nat) (s s' : St) : Prop
  | same : Moves k s s' → Shape k i s s'
  | write (g : St) (c : Child) : Moves k s g → (c.buf = none → (g.kid i).buf = none) →
      s' = g.setKid i c → Shape k i s s'
  | finish (g : St) (t : Task) : Moves k s g → s' = finishKid g i t → Shape k i s s'

theorem finishKid_le (s : St) (i : Nat) (t : Task) : (finishKid s i t).srcCloses ≤ s.srcCloses + 1 := by
  unfold finishKid; simp only []; split <;> simp

/-- an operation of this shape calls `iterator.aclose()` at most once and leaves the other children's
    position, consumer, output and registration alone -/
structure Shaped (k : Bool) (i : Nat) (s s' : St) : Prop extends Keeps k s s' where
  once : s'.srcCloses ≤ s.srcCloses + 1
  others : ∀ j, j ≠ i → (s'.kid j).pc = (s.kid j).pc ∧ (s'.kid j).task = (s.kid j).task ∧
    (s'.kid j).out = (s.kid j).out ∧ ((s'.kid j).buf = none ↔ (s.kid j).buf = none)

theorem Shape.keeps {k : Bool} {i : Nat} {s s' : St} (h : Shape k i s s') : Shaped k i s s' := by
  cases h with
  | same m => exact ⟨m.keeps.1, Nat.le_succ_of_le (Nat.le_of_eq m.keeps.sameCloses), fun j _ => m.keeps.kid j⟩
  | write g c m _ e =>
    subst e
    exact ⟨m.keeps.1.trans ⟨rfl, fun _ => rfl, Nat.le_refl _, Nat.le_refl _, length_setKid g i c⟩,
      Nat.le_succ_of_le (Nat.le_of_eq m.keeps.sameCloses),
      fun j hj => by rw [kid_setKid_ne c hj]; exact m.keeps.kid j⟩
  | finish g t m e =>
    subst e
    refine ⟨m.keeps.1.trans ⟨(congrArg St.const (finishKid_frame g i t) :), fun _ => finishKid_srcKilled g i t,
        Nat.le_of_eq (finishKid_pulls g i t).symm, finishKid_srcCloses_mono g i t, finishKid_length g i t⟩,
      m.keeps.sameCloses ▸ finishKid_le g i t, fun j hj => ?_⟩
    rw [finishKid_kid_ne g t hj]; exact m.keeps.kid j

theorem popYield_shape {k : Bool} {s g : St} (h : Moves k s g) (i : Nat) :
    Shape k i s (popYield g i).1 := by
  unfold popYield; split
  · refine .write g _ h ?_ rfl; nofun
  · exact .finish g _ h rfl

theorem completeFetch_shape {k : Bool} {s g : St} (h : Moves k s g) (i : Nat) :
    Shape k i s (completeFetch g i).1 := by
  unfold completeFetch; split
  · exact .finish _ _ (h.release i) rfl
  · split
    · exact .finish _ _ (h.ended.release i) rfl
    · rename_i v r hs
      exact popYield_shape ((h.fetch v r hs).release i) i

theorem startFetch_shape {k : Bool} {s g : St} (h : Moves k s g) (i : Nat) :
    Shape k i s (startFetch g i).1 := by
  unfold startFetch; simp only []
  split
  · exact completeFetch_shape (h.overlap _) i
  · split
    · exact completeFetch_shape (h.overlap (g.overlap || g.kids.any fun c => isFetching c.pc)).pull i
    · refine .write _ _ (h.overlap (g.overlap || g.kids.any fun c => isFetching c.pc)).pull ?_ rfl; exact id

theorem enterCritical_shape {k : Bool} {s g : St} (h : Moves k s g) (i : Nat) :
    Shape k i s (enterCritical g i).1 := by
  unfold enterCritical; simp only []
  split
  · exact popYield_shape ((h.enter i).release i) i
  · exact startFetch_shape (h.enter i) i

theorem sched_shape (s : St) (i : Nat) : Shape false i s (sched s i).1 := by
  have top : Shape false i s (loopTop s i).1 := by
    unfold loopTop; split
    · exact popYield_shape (.refl s) i
    · split
      · refine .write s _ (.refl s) ?_ rfl; exact id
      · exact enterCritical_shape (.refl s) i
  unfold sched; split
  · split
    · refine .write s _ (.refl s) ?_ rfl; exact id
    · exact top
    · exact top
    · split
      · exact .same (.refl s)
      · exact enterCritical_shape (.refl s) i
    · exact completeFetch_shape (.refl s) i
    · refine .write s _ (.refl s) ?_ rfl; exact id
  · exact .same (.refl s)

theorem closeKid_shape (s : St) (i : Nat) : Shape false i s (closeKid s i).1 := by
  unfold closeKid; split
  · refine .write s _ (.refl s) ?_ rfl; exact id
  · exact .finish s _ (.refl s) rfl
  · exact .same (.refl s)
  · exact .same (.refl s)

theorem cancel_shape (s : St) (i : Nat) : Shape s.diesOnCancel i s (cancel s i).1 := by
  unfold cancel; split
  · split
    · exact .finish s _ (.refl s) rfl
    · refine .finish _ _ (Moves.release ?_ i) rfl
      split
      · exact .killed ‹_› (.refl s)
      · exact .refl s
    · refine .write s _ (.refl s) ?_ rfl; exact id
  · exact .same (.refl s)

/-! ### Whole operations -/

theorem clearBuffers_keeps (s : St) : Keeps false s (clearBuffers s) := by
  rw [clearBuffers_eq]
  exact ⟨rfl, fun _ => rfl, Nat.le_refl _, by dsimp only; split <;> omega, List.length_map _⟩

theorem closeFrom_keeps (s : St) (l : List Nat) : Keeps false s (closeFrom s l).1 := by
  induction l generalizing s with
  | nil => exact .refl _ s
  | cons i rest ih =>
    rw [closeFrom_cons]; split
    · exact (closeKid_shape s i).keeps.1
    · exact (closeKid_shape s i).keeps.1.trans (ih _)

theorem closeAll_keeps (s : St) : Keeps false s (closeAll s).1 := by
  by_cases hb : (closeFrom s (List.range s.kids.length)).2 = .busy
  · rw [closeAll_busy s hb]; exact closeFrom_keeps s _
  · rw [closeAll_not_busy s hb]; exact (closeFrom_keeps s _).trans (clearBuffers_keeps _)

theorem step_keeps (s : St) (op : Op) : Keeps s.diesOnCancel s (step s op).1 := by
  cases op with
  | sched i => simp only [step]; split; exact (sched_shape s i).keeps.1.mono fun _ => rfl; exact .refl _ s
  | close i => simp only [step]; split; exact (closeKid_shape s i).keeps.1.mono fun _ => rfl; exact .refl _ s
  | cancel i => simp only [step]; split; exact (cancel_shape s i).keeps.1; exact .refl _ s
  | closeAll => exact (closeAll_keeps s).mono fun _ => rfl

theorem runOps_keeps (s : St) (ops : List Op) : Keeps true s (runOps s ops) := by
  induction ops generalizing s with
  | nil => exact .refl _ s
  | cons op rest ih => exact ((step_keeps s op).mono (k' := true) nofun).trans (ih _)

theorem cfg_closeKid (s : St) (i) : (closeKid s i).1.cfg = s.cfg :=
  congrArg (·.2.1) (closeKid_shape s i).keeps.1.const
theorem cfg_closeFrom (s : St) (l) : (closeFrom s l).1.cfg = s.cfg :=
  congrArg (·.2.1) (closeFrom_keeps s l).const
theorem cfg_closeAll (s : St) : (closeAll s).1.cfg = s.cfg :=
  congrArg (·.2.1) (closeAll_keeps s).const
theorem cfg_step (s : St) (op) : (step s op).1.cfg = s.cfg :=
  congrArg (·.2.1) (step_keeps s op).const
theorem total_runOps (s : St) (ops) : (runOps s ops).total = s.total :=
  congrArg (·.1) (runOps_keeps s ops).const
theorem cfg_runOps (s : St) (ops) : (runOps s ops).cfg = s.cfg :=
  congrArg (·.2.1) (runOps_keeps s ops).const
theorem dies_runOps (s : St) (ops) : (runOps s ops).diesOnCancel = s.diesOnCancel :=
  congrArg (·.2.2) (runOps_keeps s ops).const

/-- only a cancellation thrown into a source that dies of it finishes the source -/
theorem killed_step (s : St) (op) (h : s.diesOnCancel = false ∨ ∀ i, op ≠ .cancel i) :
    (step s op).1.srcKilled = s.srcKilled := by
  rcases h with h | h
  · exact (step_keeps s op).killed h
  · cases op with
    | sched i => simp only [step]; split; exact (sched_shape s i).keeps.1.killed rfl; rfl
    | close i => simp only [step]; split; exact (closeKid_shape s i).keeps.1.killed rfl; rfl
    | cancel i => exact absurd rfl (h i)
    | closeAll => exact (closeAll_keeps s).killed rfl

theorem killed_runOps (s : St) (ops : List Op)
    (h : s.diesOnCancel = false ∨ ∀ i, Op.cancel i ∉ ops) :
    (runOps s ops).srcKilled = s.srcKilled := by
  induction ops generalizing s with
  | nil => rfl
  | cons op rest ih =>
    refine (ih _ (h.imp (congrArg (·.2.2) (step_keeps s op).const).trans
      fun h i e => h i (List.mem_cons_of_mem _ e))).trans (killed_step s op (h.imp_right ?_))
    exact fun h i e => h i (e ▸ List.mem_cons_self ..)

/-! ## Facts about every child's program counter

A property `P` of children that reads only the program counter and holds of a finished child
survives whatever only finishes children or leaves their program counters alone: `aclose()`, a
cancellation, `Tee.aclose()`. -/

theorem allKids_kid {s : St} {P : Child → Prop} (h : ∀ c ∈ s.kids, P c) (hd : P {}) (i : Nat) :
    P (s.kid i) := by
  by_cases hi : i < s.kids.length
  · exact forall_mem_kids.1 h i hi
  · have : s.kid i = {} := by simp [St.kid, List.getD_eq_getElem?_getD, hi]
    rw [this]; exact hd

theorem allKids_setKid {s : St} {P : Child → Prop} (h : ∀ c ∈ s.kids, P c) (i : Nat) {c : Child}
    (hc : P c) : ∀ c' ∈ (s.setKid i c).kids, P c' :=
  fun c' hc' => (List.mem_or_eq_of_mem_set hc').elim (h c') fun e => e ▸ hc

structure PcOnly (P : Child → Prop) : Prop where
  congr : ∀ {c c' : Child}, c'.pc = c.pc → P c → P c'
  done : ∀ {c : Child}, c.pc = .done → P c

namespace PcOnly
variable {P : Child → Prop} (hP : PcOnly P) {s : St} (h : ∀ c ∈ s.kids, P c)
include hP h

theorem map (f : Child → Child) (hf : ∀ c, (f c).pc = c.pc) : ∀ c ∈ s.kids.map f, P c :=
  List.forall_mem_map.2 fun c hc => hP.congr (hf c) (h c hc)

theorem finishKid (i : Nat) (t : Task) : ∀ c ∈ (finishKid s i t).kids, P c := by
  rw [finishKid_kids]; exact allKids_setKid h i (hP.done rfl)

theorem popYield (i : Nat) (ha : ∀ c : Child, c.pc = .atYield → P c) :
    ∀ c ∈ (popYield s i).1.kids, P c := by
  unfold Tee.popYield
  split
  · exact allKids_setKid h i (ha _ rfl)
  · exact hP.finishKid h i _

theorem closeKid (i : Nat) : ∀ c ∈ (closeKid s i).1.kids, P c := by
  unfold Tee.closeKid
  split
  · exact allKids_setKid h i (hP.done rfl)
  · exact hP.finishKid h i _
  · exact h
  · exact h

theorem cancel (hd : P {}) (i : Nat) : ∀ c ∈ (cancel s i).1.kids, P c := by
  unfold Tee.cancel
  split
  · split
    · exact hP.finishKid h i _
    · exact hP.finishKid (by rw [release_kids]; split <;> exact h) i _
    · exact allKids_setKid h i (hP.congr (c := s.kid i) rfl (allKids_kid h hd i))
  · exact h

theorem closeFrom (l : List Nat) : ∀ c ∈ (closeFrom s l).1.kids, P c := by
  induction l generalizing s with
  | nil => exact h
  | cons i rest ih =>
    rw [closeFrom_cons]
    split
    · exact hP.closeKid h i
    · exact ih (hP.closeKid h i)

theorem closeAll : ∀ c ∈ (closeAll s).1.kids, P c := by
  by_cases hb : (Tee.closeFrom s (List.range s.kids.length)).2 = .busy
  · rw [closeAll_busy s hb]; exact hP.closeFrom h _
  · rw [closeAll_not_busy s hb, clearBuffers_eq]
    exact hP.map (hP.closeFrom h _) _ fun _ => rfl

end PcOnly

/-! ## What a `send` does to its own child -/

/-- how a `send` on a consumer ends, read off its child before (`c`) and after and off the output.
    `held`: the lock is held, before and after; `starts k`: this `send` started a pull of the live
    source that suspends `k + 1` times. -/
inductive Sent (held : Prop) (starts : Nat → Prop) (c : Child) : Child → Out → Prop
  | noop : c.task ≠ .active → Sent held starts c c .noop
  | blocked : c.pc = .acquiring → held → Sent held starts c c .suspLock
  | stopped : c.pc = .done → Sent held starts c { c with task := .stopped } .end_
  | waits : isFetching c.pc = false → held → Sent held starts c { c with pc := .acquiring } .suspLock
  | pulling (k) : c.pc = .fetching (k + 1) → Sent held starts c { c with pc := .fetching k } .suspSrc
  | started (k) : starts k → Sent held starts c { c with pc := .fetching k } .suspSrc
  | item (v r) :
    Sent held starts c { c with pc := .atYield, buf := some r, out := c.out ++ [v] } (.item v)
  | ended : Sent held starts c (c.finished .ended) .end_
  | failed : c.buf = none → Sent held starts c (c.finished .failed) .error

theorem Sent.imp {held held' : Prop} {starts starts' : Nat → Prop} {c c' : Child} {o : Out}
    (h : Sent held starts c c' o) (hh : held → held') (hs : ∀ k, starts k → starts' k) :
    Sent held' starts' c c' o := by
  cases h with
  | noop a => exact .noop a
  | blocked a b => exact .blocked a (hh b)
  | stopped a => exact .stopped a
  | waits a b => exact .waits a (hh b)
  | pulling k a => exact .pulling k a
  | started k a => exact .started k (hs k a)
  | item v r => exact .item v r
  | ended => exact .ended
  | failed a => exact .failed a

/-- `yield buffer.popleft()`, possibly after a broadcast: `b` is the buffer as it is now, `c` the
    child as it was -/
theorem popYield_sent {held : Prop} {starts : Nat → Prop} (s : St) (i : Nat) (hi : i < s.kids.length)
    (c : Child) (b : Option (List Val)) (hc : s.kid i = { c with buf := b }) (hb : b ≠ some [])
    (hn : b = none → c.buf = none) :
    Sent held starts c ((popYield s i).1.kid i) (popYield s i).2 := by
  unfold popYield
  split
  · rw [kid_setKid_self _ hi, hc]; exact .item _ _
  · rename_i hx
    rw [finishKid_kid _ _ _ _ hi, if_pos rfl, hc]
    refine .failed (hn ?_)
    rw [hc] at hx
    match b with
    | none => rfl
    | some [] => exact absurd rfl hb
    | some (x :: y) => exact absurd rfl (hx x y)

theorem completeFetch_sent {held : Prop} {starts : Nat → Prop} (s : St) (i : Nat)
    (hi : i < s.kids.length) (c : Child) (hc : s.kid i = c) :
    Sent held starts c ((completeFetch s i).1.kid i) (completeFetch s i).2 := by
  subst hc
  unfold completeFetch
  split
  · rw [finishKid_kid _ _ _ _ (by simpa using hi), if_pos rfl, release_kid]; exact .ended
  · split
    · rw [finishKid_kid _ _ _ _ (by simpa using hi), if_pos rfl, release_kid]; exact .ended
    · rename_i v r _
      refine popYield_sent _ i (by simpa using hi) _ ((s.kid i).buf.map (· ++ [v])) ?_ ?_ ?_
      · rw [release_kid]; exact kid_broadcast s v i hi
      · cases (s.kid i).buf <;> simp
      · exact Option.map_eq_none_iff.1

/-- this `send` started pull number `s.pulls` of the live source, which suspends `k + 1` times -/
def Starts (s s' : St) (k : Nat) : Prop :=
  s.srcDead = false ∧ s.suspPat.getD s.pulls 0 = k + 1 ∧ s'.pulls = s.pulls + 1

theorem startFetch_sent {held : Prop} (s : St) (i : Nat) (hi : i < s.kids.length) :
    Sent held (Starts s (startFetch s i).1) (s.kid i) ((startFetch s i).1.kid i) (startFetch s i).2 := by
  unfold startFetch
  simp only []
  split
  · exact completeFetch_sent _ i (by exact hi) _ rfl
  · rename_i hd
    split
    · exact completeFetch_sent _ i (by exact hi) _ rfl
    · rename_i k hk
      rw [kid_setKid_self _ (by simpa using hi)]
      exact .started k ⟨by simpa [St.srcDead] using hd, hk, rfl⟩

theorem enterCritical_sent {held : Prop} (s : St) (i : Nat) (hi : i < s.kids.length) :
    Sent held (Starts s (enterCritical s i).1) (s.kid i) ((enterCritical s i).1.kid i)
      (enterCritical s i).2 := by
  unfold enterCritical
  simp only []
  have hkid : (if s.withLock = true then { s with holder := some i } else s).kid i = s.kid i := by
    split <;> rfl
  rw [hkid]
  split
  · rename_i v r hb
    refine popYield_sent _ i (by split <;> simpa using hi) _ (s.kid i).buf ?_ ?_ id
    · rw [release_kid, hkid]
    · rw [hb]; nofun
  · -- taking the lock changes neither the source nor the script
    have := startFetch_sent (held := held) (if s.withLock = true then { s with holder := some i } else s)
      i (by split <;> exact hi)
    rw [hkid] at this
    refine this.imp id fun k ⟨h1, h2, h3⟩ => ⟨?_, ?_, ?_⟩
    · rw [← h1]; split <;> rfl
    · rw [← h2]; split <;> rfl
    · rw [h3]; split <;> rfl

theorem loopTop_sent (s : St) (i : Nat) (hi : i < s.kids.length)
    (hf : isFetching (s.kid i).pc = false) :
    Sent (∃ h, s.holder = some h ∧ (loopTop s i).1.holder = some h) (Starts s (loopTop s i).1)
      (s.kid i) ((loopTop s i).1.kid i) (loopTop s i).2 := by
  unfold loopTop
  split
  · rename_i v r hb
    exact popYield_sent s i hi _ (s.kid i).buf rfl (by rw [hb]; nofun) id
  · split
    · rename_i hc
      simp only [Bool.and_eq_true] at hc
      obtain ⟨h, hh⟩ := Option.isSome_iff_exists.1 hc.2
      rw [kid_setKid_self _ hi]
      exact .waits hf ⟨h, hh, hh⟩
    · exact enterCritical_sent s i hi

theorem sched_sent (s : St) (i : Nat) (hi : i < s.kids.length) :
    Sent (∃ h, s.holder = some h ∧ (sched s i).1.holder = some h) (Starts s (sched s i).1)
      (s.kid i) ((sched s i).1.kid i) (sched s i).2 := by
  unfold sched
  split
  · split
    · rename_i hp; rw [kid_setKid_self _ hi]; exact .stopped hp
    · rename_i hp; exact loopTop_sent s i hi (by rw [hp]; rfl)
    · rename_i hp; exact loopTop_sent s i hi (by rw [hp]; rfl)
    · rename_i hp
      split
      · rename_i hh
        obtain ⟨h, hh'⟩ := Option.isSome_iff_exists.1 hh
        exact .blocked hp ⟨h, hh', hh'⟩
      · exact enterCritical_sent s i hi
    · exact completeFetch_sent s i hi _ rfl
    · rename_i k hp; rw [kid_setKid_self _ hi]; exact .pulling k hp
  · rename_i hna
    exact .noop hna

/-- what running child `i` (one `send`) may do to the children: the others keep their position,
    their consumer's state and what they have yielded, and stay registered iff they were;
    child `i` yields at most the one item that is reported -/
structure Eff (s s' : St) (i : Nat) (o : Out) : Prop where
  len : s'.kids.length = s.kids.length
  others : ∀ j, j < s.kids.length → j ≠ i →
    (s'.kid j).pc = (s.kid j).pc ∧ (s'.kid j).task = (s.kid j).task ∧
    (s'.kid j).out = (s.kid j).out ∧ ((s'.kid j).buf = none ↔ (s.kid j).buf = none)
  item : ∀ v, o = .item v → (s'.kid i).out = (s.kid i).out ++ [v]
  noitem : (∀ v, o ≠ .item v) → (s'.kid i).out = (s.kid i).out
  done : (s'.kid i).pc = .done → (s'.kid i).buf = none ∨
    ((s.kid i).pc = .done ∧ ((s'.kid i).buf = none ↔ (s.kid i).buf = none))

theorem sched_eff (s : St) (i : Nat) (hi : i < s.kids.length) :
    Eff s (sched s i).1 i (sched s i).2 := by
  have hk := (sched_shape s i).keeps
  have hs := sched_sent s i hi
  suffices own : (∀ v, (sched s i).2 = .item v → ((sched s i).1.kid i).out = (s.kid i).out ++ [v]) ∧
      ((∀ v, (sched s i).2 ≠ .item v) → ((sched s i).1.kid i).out = (s.kid i).out) ∧
      (((sched s i).1.kid i).pc = .done → ((sched s i).1.kid i).buf = none ∨
        ((s.kid i).pc = .done ∧ (((sched s i).1.kid i).buf = none ↔ (s.kid i).buf = none))) from
    ⟨hk.len, fun j _ e => hk.others j e, own.1, own.2.1, own.2.2⟩
  generalize (sched s i).1.kid i = c', (sched s i).2 = o at hs ⊢
  cases hs with
  | noop => exact ⟨nofun, fun _ => rfl, fun hd => .inr ⟨hd, Iff.rfl⟩⟩
  | blocked => exact ⟨nofun, fun _ => rfl, fun hd => .inr ⟨hd, Iff.rfl⟩⟩
  | stopped hp => exact ⟨nofun, fun _ => rfl, fun _ => .inr ⟨hp, Iff.rfl⟩⟩
  | item v r => exact ⟨fun w e => by cases e; rfl, fun h => absurd rfl (h v), nofun⟩
  | ended => exact ⟨nofun, fun _ => rfl, fun _ => .inl rfl⟩
  | failed => exact ⟨nofun, fun _ => rfl, fun _ => .inl rfl⟩
  | _ => exact ⟨nofun, fun _ => rfl, nofun⟩

/-! ## `popleft` never fails -/

/-- `buffer.popleft()` fails only on a child whose buffer is gone; such a child is finished, and a
    `send` on its consumer does not get that far -/
theorem Inv.sched_noerr {s : St} (h : Inv s) (i : Nat) (hi : i < s.kids.length) :
    (sched s i).2 ≠ .error := by
  intro e
  have hs := sched_sent s i hi
  rw [e] at hs
  generalize (sched s i).1.kid i = c' at hs
  cases hs with
  | failed hb =>
    have hd := (h.d.unreg i hi hb).2
    unfold sched at e
    rw [hd] at e
    split at e <;> cases e

theorem closeKid_out (s : St) (i : Nat) : (closeKid s i).2 = .closed ∨ (closeKid s i).2 = .busy := by
  unfold closeKid; split <;> simp

theorem closeFrom_out (s : St) (l : List Nat) : (closeFrom s l).2 = .closed ∨ (closeFrom s l).2 = .busy := by
  induction l generalizing s with
  | nil => simp [closeFrom]
  | cons i rest ih =>
    unfold closeFrom
    split
    · simp
    · exact ih _

theorem closeAll_out (s : St) : (closeAll s).2 = .closed ∨ (closeAll s).2 = .busy := by
  by_cases hb : (closeFrom s (List.range s.kids.length)).2 = .busy
  · rw [closeAll_busy s hb]; exact Or.inr hb
  · rw [closeAll_not_busy s hb]; exact closeFrom_out s _

theorem cancel_out (s : St) (i : Nat) : (cancel s i).2 = .cancelled ∨ (cancel s i).2 = .noop := by
  unfold cancel; split
  · split <;> simp
  · simp

theorem Inv.step_noerr {s : St} (h : Inv s) (op : Op) : (step s op).2 ≠ .error := by
  cases op with
  | sched i => simp only [step]; split; exact h.sched_noerr i ‹_›; simp
  | close i =>
    simp only [step]; split
    · rcases closeKid_out s i with e | e <;> rw [e] <;> simp
    · simp
  | cancel i =>
    simp only [step]; split
    · rcases cancel_out s i with e | e <;> rw [e] <;> simp
    · simp
  | closeAll =>
    simp only [step]
    rcases closeAll_out s with e | e <;> rw [e] <;> simp

/-! ### closing or cancelling child `i` does not touch the others -/

theorem closeKid_frame (s : St) (i j : Nat) (_ : i < s.kids.length) (hne : j ≠ i) :
    (closeKid s i).1.kid j = s.kid j ∧ (closeKid s i).1.fetched = s.fetched ∧
      (closeKid s i).1.src = s.src := by
  unfold closeKid
  split
  · simp [kid_setKid_ne _ hne]
  · simp [finishKid_kid_ne _ _ hne]
  · simp
  · simp

theorem cancel_frame (s : St) (i j : Nat) (_ : i < s.kids.length) (hne : j ≠ i) :
    (cancel s i).1.kid j = s.kid j ∧ (cancel s i).1.fetched = s.fetched ∧
      (cancel s i).1.src = s.src := by
  unfold cancel
  split
  · split
    · simp [finishKid_kid_ne _ _ hne]
    · simp only [finishKid_kid_ne _ _ hne, release_kid, finishKid_fetched, release_fetched,
        finishKid_src, release_src]
      refine ⟨?_, ?_, ?_⟩ <;> split <;> rfl
    · simp [kid_setKid_ne _ hne]
  · simp



/-! ## Finished children are unregistered — unless one was closed before its first step -/

/-- every finished or closed child has had its buffer removed from `peers` -/
def Tidy (s : St) : Prop :=
  ∀ j, j < s.kids.length → (s.kid j).pc = .done → (s.kid j).buf = none

theorem Tidy.eff {s s' : St} {i : Nat} {o : Out} (h : Tidy s) (e : Eff s s' i o) : Tidy s' := by
  intro j hj hd
  rw [e.len] at hj
  by_cases hji : j = i
  · subst hji
    rcases e.done hd with h1 | ⟨h1, h2⟩
    · exact h1
    · exact h2.2 (h j hj h1)
  · have := e.others j hj hji
    rw [this.1] at hd
    exact this.2.2.2.2 (h j hj hd)

theorem closeKid_eff (s : St) (i : Nat) (hi : i < s.kids.length)
    (hne : (s.kid i).pc ≠ .unstarted) : Eff s (closeKid s i).1 i (closeKid s i).2 := by
  suffices own : (∀ v, (closeKid s i).2 = .item v → _) ∧ ((∀ v, (closeKid s i).2 ≠ .item v) → _) ∧
      (((closeKid s i).1.kid i).pc = .done → _) from
    ⟨closeKid_length s i, fun j _ e => by rw [(closeKid_frame s i j hi e).1]; exact ⟨rfl, rfl, rfl, .rfl⟩,
      own.1, own.2.1, own.2.2⟩
  unfold closeKid; split
  · exact absurd ‹_› hne
  · rw [finishKid_kid _ _ _ _ hi, if_pos rfl]; exact ⟨nofun, fun _ => rfl, fun _ => .inl rfl⟩
  · exact ⟨nofun, fun _ => rfl, fun hd => .inr ⟨hd, Iff.rfl⟩⟩
  · exact ⟨nofun, fun _ => rfl, fun hd => .inr ⟨hd, Iff.rfl⟩⟩

theorem cancel_eff (s : St) (i : Nat) (hi : i < s.kids.length) :
    Eff s (cancel s i).1 i (cancel s i).2 := by
  suffices own : (∀ v, (cancel s i).2 = .item v → _) ∧ ((∀ v, (cancel s i).2 ≠ .item v) → _) ∧
      (((cancel s i).1.kid i).pc = .done → _) from
    ⟨(cancel_shape s i).keeps.len,
      fun j _ e => by rw [(cancel_frame s i j hi e).1]; exact ⟨rfl, rfl, rfl, .rfl⟩,
      own.1, own.2.1, own.2.2⟩
  unfold cancel; split
  · split
    · rw [finishKid_kid _ _ _ _ hi, if_pos rfl]; exact ⟨nofun, fun _ => rfl, fun _ => .inl rfl⟩
    · rw [finishKid_kid _ _ _ _ (by rw [release_kids]; split <;> exact hi), if_pos rfl, release_kid]
      exact ⟨nofun, by split <;> exact fun _ => rfl, fun _ => .inl rfl⟩
    · rw [kid_setKid_self _ hi]; exact ⟨nofun, fun _ => rfl, fun hd => .inr ⟨hd, Iff.rfl⟩⟩
  · exact ⟨nofun, fun _ => rfl, fun hd => .inr ⟨hd, Iff.rfl⟩⟩

/-- the operation closes a child that has never been advanced and leaves its buffer registered:
    `child.aclose()` of such a child; `Tee.aclose()` only when it is aborted by a busy child
    (RuntimeError) while some child has never been advanced — a `Tee.aclose()` that goes over all
    children unregisters whatever is left by itself -/
def earlyClose (s : St) : Op → Bool
  | .close i => decide (i < s.kids.length) && decide ((s.kid i).pc = .unstarted)
  | .closeAll => s.kids.any (fun c => decide (c.pc = .unstarted)) && decide ((closeAll s).2 = .busy)
  | _ => false

/-- no operation of the sequence closes a child before its first step -/
def NoEarlyClose (s : St) : List Op → Prop
  | [] => True
  | op :: ops => earlyClose s op = false ∧ NoEarlyClose (step s op).1 ops

theorem any_unstarted_iff (s : St) :
    s.kids.any (fun c => decide (c.pc = .unstarted)) = false ↔
      ∀ j, j < s.kids.length → (s.kid j).pc ≠ .unstarted := by
  rw [Bool.eq_false_iff]
  simp only [ne_eq, List.any_eq_true, decide_eq_true_eq, not_exists, not_and]
  exact forall_mem_kids

theorem Tidy.closeFrom_tidy {s : St} (h : Tidy s) (l : List Nat) (hl : ∀ i ∈ l, i < s.kids.length)
    (hu : ∀ j, j < s.kids.length → (s.kid j).pc ≠ .unstarted) : Tidy (closeFrom s l).1 := by
  induction l generalizing s with
  | nil => exact h
  | cons i rest ih =>
    have hi : i < s.kids.length := hl i (by simp)
    have e := closeKid_eff s i hi (hu i hi)
    rw [closeFrom_cons]
    split
    · exact h.eff e
    · rename_i hnb
      refine ih (h.eff e) (fun j hj => by rw [closeKid_length]; exact hl j (by simp [hj])) fun j hj => ?_
      rw [closeKid_length] at hj
      by_cases hji : j = i
      · rw [hji, closeKid_pc_done s i hi hnb]; nofun
      · rw [(e.others j hj hji).1]; exact hu j hj

theorem Tidy.step_tidy {s : St} (h : Tidy s) (op : Op) (hne : earlyClose s op = false) :
    Tidy (step s op).1 := by
  cases op with
  | sched i => simp only [step]; split; exact h.eff (sched_eff s i ‹_›); exact h
  | close i =>
    simp only [step]; split
    · rename_i hi
      refine h.eff (closeKid_eff s i hi ?_)
      simpa [earlyClose, hi] using hne
    · exact h
  | cancel i => simp only [step]; split; exact h.eff (cancel_eff s i ‹_›); exact h
  | closeAll =>
    simp only [step]
    by_cases hb : (closeFrom s (List.range s.kids.length)).2 = .busy
    · have hu : s.kids.any (fun c => decide (c.pc = .unstarted)) = false := by
        simpa [earlyClose, (closeAll_out_busy s).2 hb] using hne
      rw [closeAll_busy s hb]
      exact h.closeFrom_tidy _ (range_lt s) ((any_unstarted_iff s).1 hu)
    · rw [closeAll_not_busy s hb]
      intro j hj _
      rw [clearBuffers_length] at hj
      rw [clearBuffers_kid _ j hj]

theorem Tidy.runOps_tidy {s : St} (h : Tidy s) (ops : List Op) (hne : NoEarlyClose s ops) :
    Tidy (runOps s ops) := by
  induction ops generalizing s with
  | nil => exact h
  | cons op rest ih => exact ih (h.step_tidy op hne.1) hne.2

theorem init_tidy (items : List Val) (n : Nat) (susp : List Nat) (lock closeable dies : Bool) :
    Tidy (init items n susp lock closeable dies) := by
  intro j _ hd; rw [kid_init] at hd; simp at hd



/-! ## Sequences of operations: the precondition and the number of children stay -/

theorem safe_of_cfg {s s' : St} (h : s'.cfg = s.cfg) : Safe s' ↔ Safe s := by
  simp only [St.cfg, Prod.mk.injEq] at h
  simp [Safe, NoSusp, h.1, h.2.1]

@[simp] theorem length_step (s : St) (op) : (step s op).1.kids.length = s.kids.length := by
  cases op with
  | sched i => simp only [step]; split; exact (sched_eff s i ‹_›).len; rfl
  | close i => simp only [step]; split; simp; rfl
  | cancel i => simp only [step]; split; exact (cancel_eff s i ‹_›).len; rfl
  | closeAll => simp only [step]; simp

theorem length_runOps (s : St) (ops) : (runOps s ops).kids.length = s.kids.length := by
  induction ops generalizing s with
  | nil => rfl
  | cons op rest ih => simp [runOps, ih]

theorem runOps_append (s : St) (a b : List Op) : runOps s (a ++ b) = runOps (runOps s a) b := by
  induction a generalizing s with
  | nil => rfl
  | cons op rest ih => exact ih _

theorem getElem?_append_mid (a : List Val) (v : Val) (t : List Val) :
    (a ++ [v] ++ t)[a.length]? = some v := by
  simp

instance decNoEarlyClose : (s : St) → (ops : List Op) → Decidable (NoEarlyClose s ops)
  | _, [] => isTrue trivial
  | s, op :: ops => @instDecidableAnd _ _ _ (decNoEarlyClose (step s op).1 ops)


/-! ## Once no buffer is registered, a source that can be closed has been closed -/

/-- the converse of `DInv.closedAll` (for a tee with at least one child) -/
def ClosedLast (s : St) : Prop :=
  s.closeable = true → 0 < s.kids.length →
    (∀ j, j < s.kids.length → (s.kid j).buf = none) → 0 < s.srcCloses

theorem finishKid_srcCloses_eq (s : St) (i t) :
    (finishKid s i t).srcCloses =
      if ((finishKid s i t).kids.all (fun c => c.buf.isNone) && s.closeable) = true
      then s.srcCloses + 1 else s.srcCloses := by
  unfold finishKid; simp only []
  split
  · rename_i h; simp only [setKid_closeable] at h; simp [h]
  · rename_i h; simp only [setKid_closeable] at h; simp [h]

/-- the `finally` block establishes it outright -/
theorem finishKid_closedLast (s : St) (i t) : ClosedLast (finishKid s i t) := by
  intro hc _ hall
  have ha := (all_none_iff _).2 hall
  rw [finishKid_closeable] at hc
  rw [finishKid_srcCloses_eq, ha, hc]
  simp

/-- moves keep every registration and the count of closes; a write keeps its child registered if it
    was; the `finally` block closes the source itself if it has to -/
theorem Shape.closedLast {k : Bool} {i : Nat} {s s' : St} (h : Shape k i s s') (hc : ClosedLast s) :
    ClosedLast s' := by
  have of : ∀ {g}, Moves k s g → ClosedLast g := fun m hcl hn hall => by
    have mk := m.keeps
    rw [mk.sameCloses]
    exact hc ((congrArg (·.2.1.2.2) mk.const).symm.trans hcl) (mk.len ▸ hn) fun j hj =>
      (mk.kid j).2.2.2.1 (hall j (mk.len ▸ hj))
  cases h with
  | same m => exact of m
  | write g c m hb e =>
    subst e
    intro hcl hn hall
    rw [length_setKid] at hn hall
    show 0 < g.srcCloses
    refine of m hcl hn fun j hj => ?_
    have := hall j hj
    by_cases hji : j = i
    · subst hji; rw [kid_setKid_self c hj] at this; exact hb this
    · rwa [kid_setKid_ne c hji] at this
  | finish g t m e => subst e; exact finishKid_closedLast g i t

theorem ClosedLast.closeFrom_ok {s : St} (h : ClosedLast s) (l : List Nat) :
    ClosedLast (closeFrom s l).1 := by
  induction l generalizing s with
  | nil => exact h
  | cons i rest ih =>
    have h1 := (closeKid_shape s i).closedLast h
    rw [closeFrom_cons]
    split
    · exact h1
    · exact ih h1

theorem ClosedLast.clearBuffers_ok {s : St} (h : ClosedLast s) : ClosedLast (clearBuffers s) := by
  intro hc hn _
  rw [clearBuffers_closeable] at hc
  rw [clearBuffers_length] at hn
  cases hany : s.kids.any (fun c => c.buf.isSome) with
  | true => rw [clearBuffers_srcCloses_of_any s hany hc]; omega
  | false =>
    have := h hc hn ((any_some_iff s).1 hany)
    have := clearBuffers_srcCloses_mono s
    omega

theorem ClosedLast.closeAll_ok {s : St} (h : ClosedLast s) : ClosedLast (closeAll s).1 := by
  have h1 := h.closeFrom_ok (List.range s.kids.length)
  by_cases hb : (closeFrom s (List.range s.kids.length)).2 = .busy
  · rw [closeAll_busy s hb]; exact h1
  · rw [closeAll_not_busy s hb]; exact h1.clearBuffers_ok

theorem ClosedLast.step_ok {s : St} (h : ClosedLast s) (op : Op) : ClosedLast (step s op).1 := by
  cases op with
  | sched i => simp only [step]; split; exact (sched_shape s i).closedLast h; exact h
  | close i => simp only [step]; split; exact (closeKid_shape s i).closedLast h; exact h
  | cancel i => simp only [step]; split; exact (cancel_shape s i).closedLast h; exact h
  | closeAll => exact h.closeAll_ok

theorem ClosedLast.runOps_ok {s : St} (h : ClosedLast s) (ops : List Op) : ClosedLast (runOps s ops) := by
  induction ops generalizing s with
  | nil => exact h
  | cons op rest ih => exact ih (h.step_ok op)

theorem init_closedLast (items : List Val) (n : Nat) (susp : List Nat) (lock closeable dies : Bool) :
    ClosedLast (init items n susp lock closeable dies) := by
  intro _ hn hall
  have := hall 0 hn
  rw [kid_init] at this
  simp at this

/-! ## Reachable states -/

theorem reach_inv (items n susp lock closeable dies ops) :
    Inv (reach items n susp lock closeable dies ops) :=
  (init_inv items n susp lock closeable dies).runOps_inv ops

theorem reach_len (items n susp lock closeable dies ops) :
    (reach items n susp lock closeable dies ops).kids.length = n := by
  simp [reach, length_runOps, init]

theorem reach_closedLast (items n susp lock closeable dies ops) :
    ClosedLast (reach items n susp lock closeable dies ops) :=
  (init_closedLast items n susp lock closeable dies).runOps_ok ops

theorem reach_closeable (items n susp lock closeable dies ops) :
    (reach items n susp lock closeable dies ops).closeable = closeable := by
  have := cfg_runOps (init items n susp lock closeable dies) ops
  simp only [St.cfg, Prod.mk.injEq] at this
  exact this.2.2

theorem reach_safe (items n susp lock closeable dies ops) (h : Pre lock susp) :
    Safe (reach items n susp lock closeable dies ops) := by
  rw [safe_of_cfg (cfg_runOps _ ops)]
  exact Pre.safe h

end AsyncVerif.Tee
