import AsyncVerif.Proofs.AggTools
import AsyncVerif.Proofs.Release
import AsyncVerif.Proofs.AggValues
/-!
# `set` / `dict`: the loops are `Compositional`; the value theorems
-/
namespace AsyncVerif

theorem Std.unpackPair_ne_user (x : Val) (e : Nat) : Std.unpackPair x ≠ .error (.user e) := by
  unfold Std.unpackPair; split <;> simp

namespace Compositional
variable {P : ∀ {α : Type}, M α → Prop} (h : Compositional @P)
include h

theorem setLoop (s : Nat) : ∀ (fuel : Nat) (acc : List Val), P (Std.setLoop s acc fuel)
  | 0, _ => h.outOfFuel
  | fuel+1, acc => h.bind (h.pull s) fun
    | none => h.pure _
    | some x => ite_both _ (setLoop s fuel (Std.setInsert acc x)) (h.raise _ nofun)

theorem dictLoop (s : Nat) : ∀ (fuel : Nat) (acc : List (Val × Val)), P (Std.dictLoop s acc fuel)
  | 0, _ => h.outOfFuel
  | fuel+1, acc => h.bind (h.pull s) fun
    | none => h.pure _
    | some x => h.bind (h.liftExc _ (Std.unpackPair_ne_user x)) fun
      | (k, v) => ite_both _ (dictLoop s fuel (Std.dictInsert acc k v)) (h.raise _ nofun)

theorem set (s fuel : Nat) : P (Impl.set s fuel) :=
  h.scopedIter s (h.bind (h.setLoop s fuel []) fun _ => h.pure _)

theorem dict (s fuel : Nat) : P (Impl.dict s fuel) :=
  h.scopedIter s (h.bind (h.dictLoop s fuel []) fun _ => h.pure _)

end Compositional

/-- the distinct elements of `items` in first-occurrence order, starting from `acc` -/
def ListSpec.distinct (acc items : List Val) : List Val := items.foldl Std.setInsert acc

/-- the dictionary built from `(key, value)` pairs: first key object and position, last value -/
def ListSpec.dictOf (acc : List (Val × Val)) (pairs : List (Val × Val)) : List (Val × Val) :=
  pairs.foldl (fun a p => Std.dictInsert a p.1 p.2) acc

theorem setLoop_value (s : Nat) : ∀ (items acc : List Val) (fuel : Nat) (w : World),
    Feeds w s items → (∀ x ∈ items, Std.hashable x = true) → items.length < fuel →
    (Std.setLoop s acc fuel w).1 = .ok (ListSpec.distinct acc items) ∧
    ((Std.setLoop s acc fuel w).2.srcs s).script = [] ∧
    (Std.setLoop s acc fuel w).2.vis = w.vis ++ ListSpec.pullLog s items ++ ListSpec.endLog s := by
  intro items
  induction items with
  | nil =>
    intro acc fuel w hf _ hlt
    cases fuel with
    | zero => simp at hlt
    | succ fuel =>
      obtain ⟨w', hp, hs, hv, -⟩ := pull_nil hf
      simp [Std.setLoop, bind_apply, hp, pure_apply, hs, hv, ListSpec.pullLog, ListSpec.endLog, ListSpec.distinct]
  | cons x rest ih =>
    intro acc fuel w hf hh hlt
    cases fuel with
    | zero => simp at hlt
    | succ fuel =>
      obtain ⟨w', hp, hf', -, -, -, hv⟩ := pull_cons hf
      have hx : Std.hashable x = true := hh x (by simp)
      simp only [Std.setLoop, bind_apply, hp, hx, if_true]
      have := ih (Std.setInsert acc x) fuel w' hf' (fun y hy => hh y (by simp [hy])) (by simp at hlt; omega)
      simpa [hv, ListSpec.pullLog, ListSpec.distinct] using this

theorem dictLoop_value (s : Nat) : ∀ (pairs acc : List (Val × Val)) (fuel : Nat) (w : World),
    Feeds w s (pairs.map fun p => Val.tup [p.1, p.2]) → (∀ p ∈ pairs, Std.hashable p.1 = true) → pairs.length < fuel →
    (Std.dictLoop s acc fuel w).1 = .ok (ListSpec.dictOf acc pairs) ∧
    ((Std.dictLoop s acc fuel w).2.srcs s).script = [] ∧
    (Std.dictLoop s acc fuel w).2.vis
      = w.vis ++ ListSpec.pullLog s (pairs.map fun p => Val.tup [p.1, p.2]) ++ ListSpec.endLog s := by
  intro pairs
  induction pairs with
  | nil =>
    intro acc fuel w hf _ hlt
    cases fuel with
    | zero => simp at hlt
    | succ fuel =>
      obtain ⟨w', hp, hs, hv, -⟩ := pull_nil hf
      simp [Std.dictLoop, bind_apply, hp, pure_apply, hs, hv, ListSpec.pullLog, ListSpec.endLog, ListSpec.dictOf]
  | cons p rest ih =>
    intro acc fuel w hf hh hlt
    rcases p with ⟨k, v⟩
    cases fuel with
    | zero => simp at hlt
    | succ fuel =>
      obtain ⟨w', hp, hf', -, -, -, hv⟩ := pull_cons hf
      have hk : Std.hashable k = true := hh (k, v) (by simp)
      simp only [Std.dictLoop, bind_apply, hp, Std.unpackPair, liftExc_apply, hk, if_true]
      have := ih (Std.dictInsert acc k v) fuel w' hf' (fun y hy => hh y (by simp [hy])) (by simp at hlt; omega)
      simpa [hv, ListSpec.pullLog, ListSpec.dictOf] using this

end AsyncVerif
