import AsyncVerif.Proofs.Lru
/-! A readable specification of "least recently used": after any sequence of successful calls a
bounded cache holds exactly the `maxsize` most recently used distinct keys, oldest first. -/
namespace AsyncVerif.Lru

/-- the key (equality class) of a pattern as asyncstdlib sees it -/
def keyOf (typed : Bool) (p : Pattern) : NKey := (asKey typed p).norm

/-- order of last use: using `k` moves it to the end -/
def touch (l : List NKey) (k : NKey) : List NKey := l.erase k ++ [k]

/-- all keys ever used, least recently used first -/
def recency (ks : List NKey) : List NKey := ks.foldl touch []

/-- the last `n` elements -/
def lastN (n : Nat) (l : List NKey) : List NKey := l.drop (l.length - n)

theorem eqv_iff_key (t : Bool) (p q : Pattern) : Impl.eqv t p q = true ↔ keyOf t p = keyOf t q :=
  decide_eq_true_iff

def keys (t : Bool) (st : Store) : List NKey := st.map fun e => keyOf t e.1

theorem find_none_iff_not_mem (t : Bool) (p : Pattern) (st : Store) :
    find (Impl.eqv t) p st = none ↔ keyOf t p ∉ keys t st := by
  simp only [find_none_iff, ← Bool.not_eq_true, eqv_iff_key, keys, List.mem_map, not_exists, not_and]

/-- `eqv` is `==` on keys -/
theorem keys_erase (t : Bool) (p : Pattern) (st : Store) :
    keys t (erase (Impl.eqv t) p st) = (keys t st).erase (keyOf t p) := by
  rw [erase_eq, keys, keys, List.erase_eq_eraseP', List.eraseP_map]
  rfl

theorem touch_nodup {l : List NKey} (h : l.Nodup) (k : NKey) : (touch l k).Nodup :=
  List.nodup_append.mpr ⟨h.erase k, List.pairwise_singleton _ _,
    fun _ ha _ hb hab => ((List.Nodup.mem_erase_iff h).mp ha).1 (hab.trans (List.mem_singleton.mp hb))⟩

theorem lastN_split (n : Nat) (l : List NKey) :
    ∃ T, l = T ++ lastN n l ∧ (lastN n l).length ≤ n ∧ (T = [] ∨ (lastN n l).length = n) := by
  refine ⟨l.take (l.length - n), (List.take_append_drop ..).symm, ?_, ?_⟩
  · unfold lastN; rw [List.length_drop]; omega
  · by_cases h : l.length ≤ n
    · left; rw [Nat.sub_eq_zero_of_le h]; rfl
    · right; unfold lastN; rw [List.length_drop]; omega

theorem lastN_append_eq {n : Nat} {T X : List NKey} (hX : X.length ≤ n) (hT : T = [] ∨ X.length = n) :
    lastN n (T ++ X) = X := by
  unfold lastN
  rcases hT with rfl | h
  · rw [List.nil_append, Nat.sub_eq_zero_of_le hX]; rfl
  · rw [List.length_append, h, Nat.add_sub_cancel]; exact List.drop_left

theorem lastN_touch_mem (n : Nat) (l : List NKey) (h : l.Nodup) (k : NKey) (hk : k ∈ lastN n l) :
    lastN n (touch l k) = (lastN n l).erase k ++ [k] := by
  obtain ⟨T, hl, hle, hT⟩ := lastN_split n l
  generalize lastN n l = S at *
  subst hl
  have hkT : k ∉ T := fun hm => (List.nodup_append.mp h).2.2 k hm k hk rfl
  have hlen : (S.erase k ++ [k]).length = S.length := by
    rw [List.length_append, List.length_erase_of_mem hk, List.length_singleton,
      Nat.sub_add_cancel (List.length_pos_of_mem hk)]
  unfold touch
  rw [List.erase_append_right _ hkT, List.append_assoc]
  exact lastN_append_eq (hlen ▸ hle) (hlen ▸ hT)

theorem lastN_touch_not_mem (n : Nat) (hn : 1 ≤ n) (l : List NKey) (h : l.Nodup) (k : NKey)
    (hk : k ∉ lastN n l) :
    lastN n (touch l k) = (if (lastN n l).length < n then lastN n l else (lastN n l).drop 1) ++ [k] := by
  obtain ⟨T, hl, hle, hT⟩ := lastN_split n l
  generalize lastN n l = S at *
  subst hl
  -- whether `k` was evicted earlier or never used: only the dropped part can lose it
  have he : (T ++ S).erase k = T.erase k ++ S := by
    rw [List.erase_append]
    split
    · rfl
    · rw [List.erase_of_not_mem hk, List.erase_of_not_mem ‹_›]
  unfold touch
  rw [he]
  split
  next hlt =>
    obtain rfl : T = [] := hT.resolve_right (Nat.ne_of_lt hlt)
    show lastN n ([] ++ (S ++ [k])) = S ++ [k]
    exact lastN_append_eq (by rw [List.length_append]; exact hlt) (.inl rfl)
  next hlt =>
    have hS : S.length = n := Nat.le_antisymm hle (Nat.not_lt.mp hlt)
    unfold lastN
    rw [List.append_assoc, List.length_append, List.length_append, List.length_singleton, hS,
      Nat.add_comm n 1, ← Nat.add_assoc, Nat.add_sub_cancel, ← List.drop_drop, List.drop_left,
      List.drop_append_of_le_length (hS ▸ hn)]

theorem call_ok_keys (n : Nat) (t : Bool) (s : St) (p : Pattern) (v : Nat) :
    keys t (Impl.call ⟨.bounded n, t⟩ s p (.ok v)).1.store =
      if keyOf t p ∈ keys t s.store then (keys t s.store).erase (keyOf t p) ++ [keyOf t p]
      else (if (keys t s.store).length < n then keys t s.store else (keys t s.store).drop 1) ++ [keyOf t p] := by
  cases hf : find (Impl.eqv t) p s.store with
  | some e =>
    have hek := (eqv_iff_key t e.1 p).mp (find_mem hf).2
    have hmem : keyOf t p ∈ keys t s.store := hek ▸ List.mem_map_of_mem (find_mem hf).1
    rw [if_pos hmem, ← keys_erase, call_bounded_hit hf, ← hek]
    exact List.map_append
  | none =>
    rw [if_neg ((find_none_iff_not_mem t p s.store).mp hf), call_bounded_miss hf]
    simp only [keys, List.map_append, List.map_drop, List.length_map, List.map_cons, List.map_nil,
      apply_ite (List.map fun e : Pattern × Nat => keyOf t e.1)]

theorem call_ok_lru (n : Nat) (hn : 1 ≤ n) (t : Bool) (s : St) (rec : List NKey) (hrec : rec.Nodup)
    (hs : keys t s.store = lastN n rec) (p : Pattern) (v : Nat) :
    keys t (Impl.call ⟨.bounded n, t⟩ s p (.ok v)).1.store = lastN n (touch rec (keyOf t p)) := by
  rw [call_ok_keys, hs]
  split
  next hm => exact (lastN_touch_mem n rec hrec _ hm).symm
  next hm => exact (lastN_touch_not_mem n hn rec hrec _ hm).symm

theorem calls_lru (n : Nat) (hn : 1 ≤ n) (t : Bool) : ∀ (calls : List (Pattern × Nat)) (s : St) (rec : List NKey),
    rec.Nodup → keys t s.store = lastN n rec →
    keys t (final (Impl.step ⟨.bounded n, t⟩) s (calls.map fun c => Op.call c.1 (.ok c.2))).store
      = lastN n ((calls.map fun c => keyOf t c.1).foldl touch rec) := by
  intro calls
  induction calls with
  | nil => exact fun _ _ _ hs => hs
  | cons c rest ih =>
    exact fun s rec hrec hs => ih _ _ (touch_nodup hrec _) (call_ok_lru n hn t s rec hrec hs c.1 c.2)

end AsyncVerif.Lru
