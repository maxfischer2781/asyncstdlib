import AsyncVerif.Proofs.Core
import AsyncVerif.Std.ListSpec
import AsyncVerif.Impl.Aggregations
/-!
# Value lemmas (C01): what the twins yield in a fault-free world

A fault-free world is described by a state `St`: the consumer, and for every source the items it still
holds.  `Run F D m σ r ys σ'` says that from every world in state `σ` (callables `F`, the sources in `D`
fault-free) the program `m` ends with `r`, hands `ys` to the consumer and leaves state `σ'`; `Ends` forgets
`σ'`.  The primitives (`pull`, `call`, `yieldV`, …) have one `Run` rule each and `Run.bind` composes them,
so the run of a loop is written down round by round and the loops are inductions on the item lists.

Here: the single-source loops, `zip` / `map` / strict `zip`, `chain`, `dropwhile`, `islice` (CPython's and
asyncstdlib's own loop), `zip_longest`.  `cycle` and `merge` are in `Values2`, `compress` and
`iter(callable, sentinel)` in `Values3`.
-/
namespace AsyncVerif.V1

@[simp] theorem yields_nil' : yields [] = [] := rfl

theorem all_congr_mem {α : Type} (l : List α) (p q : α → Bool) (h : ∀ a ∈ l, p a = q a) : l.all p = l.all q := by
  induction l with
  | nil => rfl
  | cons a rest ih =>
    simp only [List.all_cons, h a (by simp), ih (fun b hb => h b (by simp [hb]))]


/-- a source that will deliver exactly `items` and then end (an ended source holds `[]`) -/
def Has (x : Src) (items : List Val) : Prop :=
  x.script = items.map Resp.item ∧ (items ≠ [] → x.status.live = true)

theorem _root_.AsyncVerif.FeedsL.has {w : World} {s : Nat} {items : List Val} (h : FeedsL w s items) : Has (w.srcs s) items :=
  ⟨h.1, fun _ => h.2⟩

/-- what a tool can tell of a fault-free world: the consumer, and the items each source still holds -/
structure St where
  cons : Cons
  items : Nat → List Val

def St.set (σ : St) (s : Nat) (l : List Val) : St :=
  { σ with items := fun t => if t = s then l else σ.items t }

@[simp] theorem St.set_cons (σ : St) (s : Nat) (l : List Val) : (σ.set s l).cons = σ.cons := rfl
@[simp] theorem St.set_same (σ : St) (s : Nat) (l : List Val) : (σ.set s l).items s = l := if_pos rfl
theorem St.set_ne (σ : St) {s t : Nat} (l : List Val) (h : t ≠ s) : (σ.set s l).items t = σ.items t := if_neg h

@[simp] theorem St.set_set (σ : St) (s : Nat) (a b : List Val) : (σ.set s a).set s b = σ.set s b := by
  simp only [St.set, St.mk.injEq, true_and]
  funext t
  by_cases ht : t = s <;> simp [ht]

theorem St.set_self (σ : St) {s : Nat} {l : List Val} (h : σ.items s = l) : σ.set s l = σ := by
  cases σ with | mk c I =>
  simp only [St.set, St.mk.injEq, true_and]
  funext t
  by_cases ht : t = s
  · subst ht; simpa using h.symm
  · simp [ht]

/-- `w` is in state `σ`: callables `F`, consumer `σ.cons`, and every source in `D` fault-free -/
structure Good (F : Nat → FnBeh) (D : Nat → Prop) (σ : St) (w : World) : Prop where
  fns : w.fns = F
  cons : w.cons = σ.cons
  has : ∀ s, D s → Has (w.srcs s) (σ.items s)

/-- from every world in state `σ`, `m` ends with `r`, hands `ys` to the consumer, and leaves state `σ'` -/
def Run (F : Nat → FnBeh) (D : Nat → Prop) {α : Type} (m : M α) (σ : St) (r : Except Exc α) (ys : List Val)
    (σ' : St) : Prop :=
  ∀ w, Good F D σ w → ∃ w', m w = (r, w') ∧ Good F D σ' w' ∧ yields w'.vis = yields w.vis ++ ys

variable {F : Nat → FnBeh} {D : Nat → Prop} {α β : Type}

theorem map_apply (f : α → β) (m : M α) (w : World) :
    (f <$> m) w = match m w with
      | (.ok a, w') => (.ok (f a), w')
      | (.error e, w') => (.error e, w') := rfl

namespace Run

theorem pure (a : α) (σ : St) : Run F D (Pure.pure a) σ (.ok a) [] σ :=
  fun w hw => ⟨w, rfl, hw, (List.append_nil _).symm⟩

theorem raise (e : Exc) (σ : St) : Run F D (raise e : M α) σ (.error e) [] σ :=
  fun w hw => ⟨w, rfl, hw, (List.append_nil _).symm⟩

/-- the output is stated apart, so that after a silent step (`ys = []`) or a single `yield` it is read off
    the goal as it stands -/
theorem bind {m : M α} {f : α → M β} {σ σ1 σ2 : St} {a : α} {r : Except Exc β} {ys zs out : List Val}
    (h1 : Run F D m σ (.ok a) ys σ1) (h2 : Run F D (f a) σ1 r zs σ2)
    (e : ys ++ zs = out := by first | exact List.nil_append _ | exact List.singleton_append | rfl) :
    Run F D (m >>= f) σ r out σ2 := by
  subst e
  intro w hw
  obtain ⟨w1, e1, g1, y1⟩ := h1 w hw
  obtain ⟨w2, e2, g2, y2⟩ := h2 w1 g1
  exact ⟨w2, by rw [bind_apply, e1]; exact e2, g2, by rw [y2, y1, List.append_assoc]⟩

theorem bind_error {m : M α} {f : α → M β} {σ σ1 : St} {e : Exc} {ys : List Val}
    (h1 : Run F D m σ (.error e) ys σ1) : Run F D (m >>= f) σ (.error e) ys σ1 := by
  intro w hw
  obtain ⟨w1, e1, g1, y1⟩ := h1 w hw
  exact ⟨w1, by rw [bind_apply, e1], g1, y1⟩

theorem of_map {m : M α} {f : α → β} {σ σ' : St} {a : α} {ys : List Val}
    (hinj : ∀ a', f a' = f a → a' = a) (h : Run F D (f <$> m) σ (.ok (f a)) ys σ') :
    Run F D m σ (.ok a) ys σ' := by
  intro w hw
  obtain ⟨w', e, g, y⟩ := h w hw
  rw [map_apply] at e
  rcases hm : m w with ⟨_ | a', w1⟩ <;> rw [hm] at e
  · cases e
  · obtain ⟨h1, rfl⟩ := Prod.mk.inj e
    exact ⟨w1, by rw [hinj a' (Except.ok.inj h1)], g, y⟩

theorem map {m : M α} {σ σ' : St} {a : α} {ys : List Val} (h : Run F D m σ (.ok a) ys σ') (f : α → β) :
    Run F D (f <$> m) σ (.ok (f a)) ys σ' := h.bind (pure _ _) (List.append_nil _)

theorem pull_cons {s : Nat} {σ : St} {x : Val} {xs : List Val} (hD : D s) (h : σ.items s = x :: xs) :
    Run F D (pull s) σ (.ok (some x)) [] (σ.set s xs) := by
  intro w hw
  obtain ⟨h1, h2⟩ := hw.has s hD
  rw [h] at h1 h2
  have hl := h2 (List.cons_ne_nil _ _)
  have e : pull s w = (.ok (some x), ((w.pushVis (.pull s)).setSrc s
      { w.srcs s with script := xs.map .item, status := .running }).pushVis (.item s x)) := by
    simp [pull, hl, h1]
  refine ⟨_, e, ⟨hw.fns, hw.cons, fun t ht => ?_⟩, by simp [World.pushVis, World.setSrc, yields]⟩
  by_cases hts : t = s
  · subst hts
    simp [World.pushVis, World.setSrc, Has, Status.live]
  · simpa [World.pushVis, World.setSrc, hts, St.set_ne] using hw.has t ht

theorem pull_nil {s : Nat} {σ : St} (hD : D s) (h : σ.items s = []) :
    Run F D (pull s) σ (.ok none) [] σ := by
  intro w hw
  have hg : ∀ w' : World, w'.fns = w.fns → w'.cons = w.cons →
      (∀ t, t ≠ s → w'.srcs t = w.srcs t) → (w'.srcs s).script = [] → Good F D σ w' := by
    intro w' hf hc ho hsc
    refine ⟨hf.trans hw.fns, hc.trans hw.cons, fun t ht => ?_⟩
    by_cases hts : t = s
    · subst hts; rw [h]; exact ⟨hsc, fun h => absurd rfl h⟩
    · rw [ho t hts]; exact hw.has t ht
  obtain ⟨h1, _⟩ := hw.has s hD
  rw [h] at h1
  simp only [List.map_nil] at h1
  unfold pull
  by_cases hl : (w.srcs s).status.live
  · refine ⟨((w.pushVis (.pull s)).setSrc s { w.srcs s with status := .exhausted }).pushVis (.endd s),
      by simp [hl, h1], hg _ rfl rfl ?_ ?_, ?_⟩
    · intro t ht; simp [World.pushVis, World.setSrc, ht]
    · simp [World.pushVis, World.setSrc, h1]
    · simp [World.pushVis, World.setSrc, yields]
  · by_cases hv : (w.srcs s).kind.repollVisible
    · exact ⟨(w.pushVis (.pull s)).pushVis (.endd s), by simp [hl, hv], hg _ rfl rfl (fun _ _ => rfl) h1,
        by simp [World.pushVis, yields]⟩
    · exact ⟨w, by simp [hl, hv], hw, (List.append_nil _).symm⟩

theorem anext_cons {s : Nat} {σ : St} {x : Val} {xs : List Val} (hD : D s) (h : σ.items s = x :: xs) :
    Run F D (anext s) σ (.ok x) [] (σ.set s xs) := (pull_cons hD h).bind (pure _ _)

theorem anext_nil {s : Nat} {σ : St} (hD : D s) (h : σ.items s = []) :
    Run F D (anext s) σ (.error .stop) [] σ := (pull_nil hD h).bind (raise _ _)

theorem call {f : Nat} {q : List Val → Val} (hq : ∀ n a, F f n a = .ok (q a)) (args : List Val) (σ : St) :
    Run F D (call f args) σ (.ok (q args)) [] σ := by
  intro w hw
  have h : w.fns f (w.calls f) args = .ok (q args) := by rw [hw.fns]; exact hq _ _
  exact ⟨{ w with calls := fun i => if i = f then w.calls f + 1 else w.calls i,
                   vis := w.vis ++ [Ev.call f args] }.pushVis (.ret f (q args)),
    by simp only [AsyncVerif.call, h], ⟨hw.fns, hw.cons, hw.has⟩, by simp [World.pushVis, yields]⟩

theorem liftExc (r : Except Exc α) (σ : St) : Run F D (liftExc r) σ r [] σ :=
  fun w hw => ⟨w, by cases r <;> rfl, hw, (List.append_nil _).symm⟩

/-- `.run 0 .exhaust` is the consumer that takes every item (`Exhausting w`); a consumer that closes after
    `k` more items (`.run k .close`) has its rules in `Values2` -/
theorem yieldV (v : Val) {σ : St} (hc : σ.cons = .run 0 .exhaust) : Run F D (yieldV v) σ (.ok ()) [v] σ := by
  intro w hw
  have := hw.cons.trans hc
  exact ⟨w.pushVis (.yld v), by simp only [AsyncVerif.yieldV, this], ⟨hw.fns, hw.cons, hw.has⟩,
    by simp [World.pushVis, yields]⟩

end Run

theorem Run.tryCatchStop_ok {body h : M α} {σ σ' : St} {a : α} {ys : List Val}
    (hb : Run F D body σ (.ok a) ys σ') : Run F D (tryCatchStop body h) σ (.ok a) ys σ' := by
  intro w hw
  obtain ⟨w', e, g, y⟩ := hb w hw
  exact ⟨w', by simp only [tryCatchStop, e], g, y⟩

theorem Run.tryCatchStop_stop {body h : M α} {σ σ1 σ2 : St} {r : Except Exc α} {zs : List Val}
    (hb : Run F D body σ (.error .stop) [] σ1) (hh : Run F D h σ1 r zs σ2) :
    Run F D (tryCatchStop body h) σ r zs σ2 := by
  intro w hw
  obtain ⟨w1, e1, g1, y1⟩ := hb w hw
  obtain ⟨w2, e2, g2, y2⟩ := hh w1 g1
  exact ⟨w2, by simp only [tryCatchStop, e1, e2], g2, by rw [y2, y1, List.append_nil]⟩

def Ends (F : Nat → FnBeh) (D : Nat → Prop) {α : Type} (m : M α) (σ : St) (r : Except Exc α) (ys : List Val) : Prop :=
  ∃ σ', Run F D m σ r ys σ'

theorem Run.ends {m : M α} {σ σ' : St} {r : Except Exc α} {ys : List Val} (h : Run F D m σ r ys σ') :
    Ends F D m σ r ys := ⟨σ', h⟩

theorem Run.andThen {m : M α} {f : α → M β} {σ σ1 : St} {a : α} {r : Except Exc β} {ys zs out : List Val}
    (h1 : Run F D m σ (.ok a) ys σ1) (h2 : Ends F D (f a) σ1 r zs)
    (e : ys ++ zs = out := by first | exact List.nil_append _ | exact List.singleton_append | rfl) :
    Ends F D (m >>= f) σ r out :=
  let ⟨σ2, h⟩ := h2; ⟨σ2, h1.bind h e⟩

theorem Ends.yield {v : Val} {f : Unit → M β} {σ : St} {r : Except Exc β} {zs : List Val}
    (h : Ends F D (f ()) σ r zs) (hc : σ.cons = .run 0 .exhaust) : Ends F D (yieldV v >>= f) σ r (v :: zs) :=
  (Run.yieldV v hc).andThen h

theorem Ends.produces {m : M Unit} {σ : St} {r : Except Exc Unit} {ys : List Val} (h : Ends F D m σ r ys)
    {w : World} (hw : Good F D σ w) : Produces m w r ys := by
  obtain ⟨_, h⟩ := h
  obtain ⟨w', h1, _, h2⟩ := h w hw
  exact ⟨by rw [h1], by rw [h1]; exact h2⟩

theorem good_of {w : World} {I : Nat → List Val} (h : ∀ s, D s → FeedsL w s (I s)) :
    Good w.fns D ⟨w.cons, I⟩ w := ⟨rfl, rfl, fun s hs => (h s hs).has⟩

/-- the statement form, for a tool that reads the sources `srcs` -/
theorem Ends.produces_of {m : M Unit} {r : Except Exc Unit} {ys : List Val} {w : World} {srcs : List Nat}
    {I : Nat → List Val} (hs : ∀ s ∈ srcs, FeedsL w s (I s)) (h : Ends w.fns (· ∈ srcs) m ⟨w.cons, I⟩ r ys) :
    Produces m w r ys := h.produces (good_of hs)

theorem Ends.produces_one {m : M Unit} {r : Except Exc Unit} {ys : List Val} {w : World} {s : Nat}
    {items : List Val} (hs : FeedsL w s items) (h : Ends w.fns (Eq s) m ⟨w.cons, fun _ => items⟩ r ys) :
    Produces m w r ys := h.produces (good_of fun _ ht => ht ▸ hs)

theorem _root_.AsyncVerif.Twin.produces {a b : M Unit} (h : Twin a b) {w : World} {r : Except Exc Unit} {ys : List Val}
    (hb : Produces b w r ys) : Produces a w r ys :=
  ⟨(h w).1.trans hb.1, by rw [(h w).2]; exact hb.2⟩

/-! ## `async for` -/

/-- what a `forEach` loop yields when its body on `x` yields `out x` and returns `c x` (`false` is the
    body's `break`): `out x` for every item up to and including the first one with `c x = false` -/
def outs (c : Val → Bool) (out : Val → List Val) : List Val → List Val
  | [] => []
  | x :: xs => out x ++ (if c x then outs c out xs else [])

/-- what the loop leaves in the source -/
def leftover (c : Val → Bool) : List Val → List Val
  | [] => []
  | x :: xs => if c x then leftover c xs else xs

theorem forEach_run {s : Nat} (hD : D s) (body : Val → M Bool) (c : Val → Bool) (out : Val → List Val) :
    ∀ (items : List Val) (fuel : Nat) (σ : St),
      (∀ x ∈ items, ∀ σ, σ.cons = .run 0 .exhaust → Run F D (body x) σ (.ok (c x)) (out x) σ) →
      σ.cons = .run 0 .exhaust → σ.items s = items → items.length < fuel →
      Run F D (forEach s body fuel) σ (.ok ()) (outs c out items) (σ.set s (leftover c items)) := by
  intro items
  induction items with
  | nil =>
    intro fuel σ _ _ hs hf
    obtain _ | fuel := fuel
    · exact absurd hf (Nat.not_lt_zero _)
    · have e : σ.set s (leftover c []) = σ := σ.set_self hs
      rw [e]
      exact (Run.pull_nil hD hs).bind (Run.pure _ _)
  | cons x xs ih =>
    intro fuel σ hb hc hs hf
    obtain _ | fuel := fuel
    · exact absurd hf (Nat.not_lt_zero _)
    · refine (Run.pull_cons hD hs).bind ((hb x List.mem_cons_self (σ.set s xs) hc).bind ?_)
      cases hcx : c x with
      | false =>
        simp only [leftover, hcx, Bool.false_eq_true, if_false]
        exact Run.pure _ _
      | true =>
        simp only [leftover, hcx, if_true]
        have h := ih fuel (σ.set s xs) (fun y hy => hb y (List.mem_cons_of_mem _ hy)) hc (σ.set_same s xs)
          (Nat.lt_of_succ_lt_succ hf)
        rwa [St.set_set] at h

theorem outs_filter (p : Val → Bool) (items : List Val) :
    outs (fun _ => true) (fun x => if p x then [x] else []) items = items.filter p := by
  induction items with
  | nil => rfl
  | cons x xs ih => cases h : p x <;> simp [outs, ih, h]

theorem outs_map (g : Val → Val) (items : List Val) :
    outs (fun _ => true) (fun x => [g x]) items = items.map g := by
  induction items with
  | nil => rfl
  | cons x xs ih => simp [outs, ih]

theorem outs_takeWhile (p : Val → Bool) (items : List Val) :
    outs p (fun x => if p x then [x] else []) items = items.takeWhile p := by
  induction items with
  | nil => rfl
  | cons x xs ih => cases h : p x <;> simp [outs, ih, h, List.takeWhile]

/-! ## filter, filterfalse -/

theorem test_run (fn : Option Nat) (q : List Val → Val) (hq : ∀ f, fn = some f → ∀ n a, F f n a = .ok (q a))
    (x : Val) (σ : St) : Run F D (test fn x) σ (.ok (ListSpec.pred fn q x)) [] σ := by
  cases fn with
  | none => exact Run.pure _ _
  | some f => exact (Run.call (hq f rfl) [x] σ).bind (Run.pure _ _)

theorem filterLoop_run {s : Nat} (hD : D s) (fn : Option Nat) (neg : Bool) (q : List Val → Val)
    (hq : ∀ f, fn = some f → ∀ n a, F f n a = .ok (q a)) (items : List Val) (fuel : Nat) (σ : St)
    (hc : σ.cons = .run 0 .exhaust) (hs : σ.items s = items) (hf : items.length < fuel) :
    Ends F D (Std.filterLoop fn neg s fuel) σ (.ok ())
      (if neg then ListSpec.filterfalse fn q items else ListSpec.filter fn q items) := by
  have e : (if neg then ListSpec.filterfalse fn q items else ListSpec.filter fn q items)
      = outs (fun _ => true) (fun x => if ListSpec.pred fn q x != neg then [x] else []) items := by
    rw [outs_filter]
    cases neg
    · exact congrArg (List.filter · items) (funext fun x => by cases ListSpec.pred fn q x <;> rfl)
    · exact congrArg (List.filter · items) (funext fun x => by cases ListSpec.pred fn q x <;> rfl)
  rw [e]
  refine (forEach_run hD _ (fun _ => true) _ items fuel σ (fun x _ σ hc => ?_) hc hs hf).ends
  refine (test_run fn q hq x σ).bind ?_
  cases hp : (ListSpec.pred fn q x != neg) with
  | false => exact (Run.pure _ _).bind (Run.pure _ _)
  | true => exact (Run.yieldV _ hc).bind (Run.pure _ _)

/-! ## enumerate -/

def enumFrom : Int → List Val → List Val
  | _, [] => []
  | c, x :: xs => .tup [.int c, x] :: enumFrom (c + 1) xs

theorem enumFrom_eq (c : Int) (items : List Val) : ∀ (k : Nat),
    enumFrom (c + k) items = (items.zipIdx k).map (fun p => Val.tup [.int (c + (p.2 : Int)), p.1]) := by
  induction items with
  | nil => intro k; rfl
  | cons x xs ih =>
    intro k
    have h : c + (k : Int) + 1 = c + ((k + 1 : Nat) : Int) := by omega
    simp only [enumFrom, List.zipIdx_cons, List.map_cons, h, ih]

theorem enumFrom_spec (c : Int) (items : List Val) : enumFrom c items = ListSpec.enumerate c items := by
  have := enumFrom_eq c items 0
  simpa [ListSpec.enumerate] using this

theorem enumerateLoop_run {s : Nat} (hD : D s) :
    ∀ (items : List Val) (c : Int) (fuel : Nat) (σ : St), σ.cons = .run 0 .exhaust → σ.items s = items →
      items.length < fuel → Ends F D (Std.enumerateLoop s c fuel) σ (.ok ()) (enumFrom c items) := by
  intro items
  induction items with
  | nil =>
    intro c fuel σ _ hs hf
    obtain _ | fuel := fuel
    · exact absurd hf (Nat.not_lt_zero _)
    · exact (Run.pull_nil hD hs).andThen (Run.pure _ _).ends
  | cons x xs ih =>
    intro c fuel σ hc hs hf
    obtain _ | fuel := fuel
    · exact absurd hf (Nat.not_lt_zero _)
    · exact (Run.pull_cons hD hs).andThen
        (.yield (ih (c + 1) fuel (σ.set s xs) hc (σ.set_same s xs) (Nat.lt_of_succ_lt_succ hf)) hc)

/-! ## takewhile -/

theorem takewhileLoop_run {s : Nat} (hD : D s) (f : Nat) (q : List Val → Val) (hq : ∀ n a, F f n a = .ok (q a))
    (items : List Val) (fuel : Nat) (σ : St) (hc : σ.cons = .run 0 .exhaust) (hs : σ.items s = items)
    (hf : items.length < fuel) :
    Ends F D (Std.takewhileLoop f s fuel) σ (.ok ()) (ListSpec.takewhile q items) := by
  rw [ListSpec.takewhile, ← outs_takeWhile]
  refine (forEach_run hD _ (fun x => (q [x]).truthy) _ items fuel σ (fun x _ σ hc => ?_) hc hs hf).ends
  refine (Run.call hq [x] σ).bind ?_
  cases hp : (q [x]).truthy with
  | false => exact Run.pure _ _
  | true => exact (Run.yieldV _ hc).bind (Run.pure _ _)

/-! ## starmap -/

theorem starmapLoop_run {s : Nat} (hD : D s) (f : Nat) (q : List Val → Val) (hq : ∀ n a, F f n a = .ok (q a))
    (rows : List (List Val)) (fuel : Nat) (σ : St) (hc : σ.cons = .run 0 .exhaust)
    (hs : σ.items s = rows.map Val.tup) (hf : rows.length < fuel) :
    Ends F D (Std.starmapLoop f s fuel) σ (.ok ()) (ListSpec.starmap q rows) := by
  have e : ListSpec.starmap q rows
      = outs (fun _ => true) (fun x => [match x with | .tup vs => q vs | _ => Val.none]) (rows.map Val.tup) := by
    rw [outs_map, List.map_map]; rfl
  rw [e]
  refine (forEach_run hD _ (fun _ => true) _ _ fuel σ (fun x hx σ hc => ?_) hc hs
    (by rwa [List.length_map])).ends
  obtain ⟨r, _, rfl⟩ := List.mem_map.mp hx
  exact (Run.liftExc (.ok r) σ).bind ((Run.call hq r σ).bind ((Run.yieldV _ hc).bind (Run.pure _ _)))

/-! ## accumulate -/

theorem accLoop_run {s : Nat} (hD : D s) (fn : Option Nat) (op : Val → Val → Val) (P : Val → Prop) :
    ∀ (items : List Val) (t : Val) (fuel : Nat) (σ : St),
      (∀ t x, P t → x ∈ items → P (op t x) ∧ ∀ σ, Run F D (Std.accStep fn t x) σ (.ok (op t x)) [] σ) →
      P t → σ.cons = .run 0 .exhaust → σ.items s = items → items.length < fuel →
      Ends F D (Std.accLoop fn s t fuel) σ (.ok ()) (ListSpec.scan op t items) := by
  intro items
  induction items with
  | nil =>
    intro t fuel σ _ _ _ hs hf
    obtain _ | fuel := fuel
    · exact absurd hf (Nat.not_lt_zero _)
    · exact (Run.pull_nil hD hs).andThen (Run.pure _ _).ends
  | cons x xs ih =>
    intro t fuel σ hstep hP hc hs hf
    obtain _ | fuel := fuel
    · exact absurd hf (Nat.not_lt_zero _)
    · obtain ⟨hP', hst⟩ := hstep t x hP List.mem_cons_self
      exact (Run.pull_cons hD hs).andThen ((hst _).andThen (.yield
        (ih (op t x) fuel (σ.set s xs) (fun t y hPt hy => hstep t y hPt (List.mem_cons_of_mem _ hy)) hP' hc
          (σ.set_same s xs) (Nat.lt_of_succ_lt_succ hf)) hc))

theorem accStep_call {f : Nat} {q : List Val → Val} (hq : ∀ n a, F f n a = .ok (q a)) (t x : Val) (σ : St) :
    Run F D (Std.accStep (some f) t x) σ (.ok (q [t, x])) [] σ := Run.call hq [t, x] σ

theorem accStep_plus {t x : Val} (ht : t.isNum = true) (hx : x.isNum = true) :
    (ListSpec.plus t x).isNum = true ∧ ∀ σ, Run F D (Std.accStep none t x) σ (.ok (ListSpec.plus t x)) [] σ := by
  cases t <;> cases x <;> simp [Val.isNum] at ht hx <;>
    exact ⟨by simp [ListSpec.plus, Val.add, Val.isNum], Run.liftExc (.ok _)⟩

theorem accumulate_run {s : Nat} (hD : D s) (fn : Option Nat) (initial : Option Val)
    (op : Val → Val → Val) (P : Val → Prop) (items : List Val) (fuel : Nat) (σ : St)
    (hstep : ∀ t x, P t → x ∈ items → P (op t x) ∧ ∀ σ, Run F D (Std.accStep fn t x) σ (.ok (op t x)) [] σ)
    (hini : ∀ v, initial = some v → P v) (hitems : ∀ x ∈ items, P x)
    (hc : σ.cons = .run 0 .exhaust) (hs : σ.items s = items) (hf : items.length < fuel) :
    Ends F D (Std.accumulate fn initial s fuel) σ (ListSpec.accResult (ListSpec.accumulate op initial items))
      ((ListSpec.accumulate op initial items).getD []) := by
  cases initial with
  | some v =>
    exact (Run.pure v σ).andThen (.yield (accLoop_run hD fn op P items v fuel σ hstep (hini v rfl) hc hs hf) hc)
  | none =>
    cases items with
    | nil =>
      exact (Run.tryCatchStop_stop (Run.anext_nil hD hs) (Run.raise _ _)).bind_error.ends
    | cons x xs =>
      exact (Run.tryCatchStop_ok (Run.anext_cons hD hs)).andThen (.yield
        (accLoop_run hD fn op P xs x fuel (σ.set s xs) (fun t y hPt hy => hstep t y hPt (List.mem_cons_of_mem _ hy))
          (hitems x List.mem_cons_self) hc (σ.set_same s xs) (Nat.lt_of_succ_lt hf)) hc)

/-! ## pairwise -/

theorem pairwiseLoop_run {s : Nat} (hD : D s) :
    ∀ (items : List Val) (old : Val) (fuel : Nat) (σ : St), σ.cons = .run 0 .exhaust → σ.items s = items →
      items.length < fuel →
      Ends F D (Std.pairwiseLoop s old fuel) σ (.ok ()) (ListSpec.pairwise (old :: items)) := by
  intro items
  induction items with
  | nil =>
    intro old fuel σ _ hs hf
    obtain _ | fuel := fuel
    · exact absurd hf (Nat.not_lt_zero _)
    · exact (Run.pull_nil hD hs).andThen (Run.pure _ _).ends
  | cons x xs ih =>
    intro old fuel σ hc hs hf
    obtain _ | fuel := fuel
    · exact absurd hf (Nat.not_lt_zero _)
    · exact (Run.pull_cons hD hs).andThen
        (.yield (ih x fuel (σ.set s xs) hc (σ.set_same s xs) (Nat.lt_of_succ_lt_succ hf)) hc)

theorem pairwise_run {s : Nat} (hD : D s) (items : List Val) (fuel : Nat) (σ : St)
    (hc : σ.cons = .run 0 .exhaust) (hs : σ.items s = items) (hf : items.length < fuel) :
    Ends F D (Std.pairwise s fuel) σ (.ok ()) (ListSpec.pairwise items) := by
  cases items with
  | nil => exact (Run.pull_nil hD hs).andThen (Run.pure _ _).ends
  | cons x xs =>
    exact (Run.pull_cons hD hs).andThen
      (pairwiseLoop_run hD xs x fuel (σ.set s xs) hc (σ.set_same s xs) (Nat.lt_of_succ_lt hf))

/-! ## batched -/

theorem collect_run {s : Nat} (hD : D s) :
    ∀ (n : Nat) (items acc : List Val) (σ : St), σ.items s = items →
      Run F D (Std.collect s n acc) σ (.ok (acc ++ items.take n, decide (n ≤ items.length))) []
        (σ.set s (items.drop n)) := by
  intro n
  induction n with
  | zero =>
    intro items acc σ hs
    rw [Std.collect]
    simpa [σ.set_self hs] using Run.pure (acc, true) σ
  | succ n ih =>
    intro items acc σ hs
    rw [Std.collect]
    cases items with
    | nil => simpa [σ.set_self hs] using (Run.pull_nil hD hs).bind (Run.pure (acc, false) σ)
    | cons x xs =>
      refine (Run.pull_cons hD hs).bind ?_
      simpa using ih xs (acc ++ [x]) (σ.set s xs) (σ.set_same s xs)


theorem chunksN_nil (n k : Nat) : ListSpec.chunksN n k [] = [] := by
  cases k <;> simp [ListSpec.chunksN]

theorem chunksN_full {n : Nat} (k : Nat) {items : List Val} (hne : items ≠ []) :
    ListSpec.chunksN n (k + 1) items = items.take n :: ListSpec.chunksN n k (items.drop n) := by
  simp [ListSpec.chunksN, hne]

theorem chunksN_short {n k : Nat} {items : List Val} (hk : items.length ≤ k) (hne : items ≠ [])
    (hlt : items.length < n) : ListSpec.chunksN n k items = [items] := by
  obtain _ | k := k
  · exact absurd (List.eq_nil_of_length_eq_zero (Nat.le_zero.mp hk)) hne
  · rw [chunksN_full k hne, List.take_of_length_le (Nat.le_of_lt hlt), List.drop_of_length_le (Nat.le_of_lt hlt),
      chunksN_nil]

theorem batchedLoop_succ (n : Nat) (strict : Bool) (s fuel : Nat) :
    Std.batchedLoop n strict s (fuel + 1) = Std.collect s n [] >>= fun p =>
      if p.2 = true then yieldV (.tup p.1) >>= fun _ => Std.batchedLoop n strict s fuel
      else if p.1.isEmpty = true then pure ()
      else if strict = true then raise .valueError
      else yieldV (.tup p.1) := rfl

/-- how `batched` ends on the chunks `cs`: `strict` wants every chunk full -/
def batchedEnd (n : Nat) : Bool → List (List Val) → Except Exc Unit
  | false, _ => .ok ()
  | true, cs => if cs.all (fun c => c.length == n) then .ok () else .error .valueError

/-- what `batched` yields on the chunks `cs`: `strict` yields the full ones -/
def batchedOut (n : Nat) : Bool → List (List Val) → List Val
  | false, cs => cs.map Val.tup
  | true, cs => (cs.filter (fun c => c.length == n)).map Val.tup

theorem batched_nil (n : Nat) (strict : Bool) : batchedEnd n strict [] = .ok () ∧ batchedOut n strict [] = [] := by
  cases strict <;> exact ⟨rfl, rfl⟩

theorem batched_full {n : Nat} (strict : Bool) {c : List Val} (cs : List (List Val)) (h : c.length = n) :
    batchedEnd n strict (c :: cs) = batchedEnd n strict cs
      ∧ batchedOut n strict (c :: cs) = .tup c :: batchedOut n strict cs := by
  cases strict <;> simp [batchedEnd, batchedOut, h]

theorem batched_short {n : Nat} (strict : Bool) {c : List Val} (h : c.length ≠ n) :
    batchedEnd n strict [c] = (if strict then .error .valueError else .ok ())
      ∧ batchedOut n strict [c] = if strict then [] else [.tup c] := by
  cases strict <;> simp [batchedEnd, batchedOut, h]

theorem batchedLoop_run {s : Nat} (hD : D s) (n : Nat) (hn : 1 ≤ n) (strict : Bool) :
    ∀ (k : Nat) (items : List Val) (fuel : Nat) (σ : St), σ.cons = .run 0 .exhaust → σ.items s = items →
      items.length ≤ k → k < fuel →
      Ends F D (Std.batchedLoop n strict s fuel) σ (batchedEnd n strict (ListSpec.chunksN n k items))
        (batchedOut n strict (ListSpec.chunksN n k items)) := by
  have hnil : ∀ (k fuel : Nat) (σ : St), σ.items s = [] →
      Ends F D (Std.batchedLoop n strict s (fuel + 1)) σ (batchedEnd n strict (ListSpec.chunksN n k []))
        (batchedOut n strict (ListSpec.chunksN n k [])) := by
    intro k fuel σ hs
    have h := collect_run (F := F) hD n [] [] σ hs
    rw [List.take_nil, decide_eq_false (Nat.not_le_of_gt hn : ¬ n ≤ ([] : List Val).length)] at h
    rw [batchedLoop_succ, chunksN_nil, (batched_nil n strict).1, (batched_nil n strict).2]
    exact h.andThen (Run.pure _ _).ends
  intro k
  induction k with
  | zero =>
    intro items fuel σ _ hs hk hf
    obtain _ | fuel := fuel
    · exact absurd hf (Nat.not_lt_zero _)
    · obtain rfl : items = [] := List.eq_nil_of_length_eq_zero (Nat.le_zero.mp hk)
      exact hnil 0 fuel σ hs
  | succ k ih =>
    intro items fuel σ hc hs hk hf
    obtain _ | fuel := fuel
    · exact absurd hf (Nat.not_lt_zero _)
    · by_cases hemp : items = []
      · subst hemp
        exact hnil (k + 1) fuel σ hs
      have h := collect_run (F := F) hD n items [] σ hs
      rw [List.nil_append] at h
      rw [batchedLoop_succ]
      refine h.andThen ?_
      by_cases hfull : n ≤ items.length
      · have hlen : (items.take n).length = n := by rw [List.length_take]; omega
        rw [decide_eq_true hfull, chunksN_full k hemp, (batched_full strict _ hlen).1, (batched_full strict _ hlen).2]
        exact .yield (ih (items.drop n) fuel (σ.set s (items.drop n)) hc (σ.set_same s _)
          (by rw [List.length_drop]; omega) (Nat.lt_of_succ_lt_succ hf)) hc
      · have hlen : items.length ≠ n := by omega
        have hne : items.isEmpty = false := by
          cases items with
          | nil => exact absurd rfl hemp
          | cons _ _ => rfl
        rw [decide_eq_false hfull, List.take_of_length_le (by omega), chunksN_short hk hemp (by omega),
          (batched_short strict hlen).1, (batched_short strict hlen).2, hne]
        cases strict
        · exact (Run.yieldV (σ := σ.set s (items.drop n)) _ hc).ends
        · exact (Run.raise _ _).ends

theorem batched_run {s : Nat} (hD : D s) (n : Nat) (hn : 1 ≤ n) (strict : Bool) (items : List Val) (fuel : Nat)
    (σ : St) (hc : σ.cons = .run 0 .exhaust) (hs : σ.items s = items) (hf : items.length < fuel) :
    Ends F D (Std.batched n strict s fuel) σ (batchedEnd n strict (ListSpec.chunks n items))
      (batchedOut n strict (ListSpec.chunks n items)) := by
  rw [Std.batched, if_neg (Nat.not_lt.mpr hn)]
  exact batchedLoop_run hD n hn strict items.length items fuel σ hc hs (Nat.le_refl _) hf

/-! ## zip, map, strict zip -/

/-- every source of `l` has delivered one item -/
def St.tails (σ : St) (l : List Nat) : St :=
  { σ with items := fun t => if t ∈ l then (σ.items t).tail else σ.items t }

theorem St.tails_nil (σ : St) : σ.tails [] = σ := by
  cases σ; simp [St.tails]

theorem St.tails_mem (σ : St) {l : List Nat} {s : Nat} (h : s ∈ l) : (σ.tails l).items s = (σ.items s).tail :=
  if_pos h

theorem St.set_tails {σ : St} {s : Nat} {rest : List Nat} {x : Val} {xs : List Val} (h : σ.items s = x :: xs)
    (hs : s ∉ rest) : (σ.set s xs).tails rest = σ.tails (s :: rest) := by
  simp only [St.tails, St.set, St.mk.injEq, true_and]
  funext t
  by_cases hts : t = s
  · subst hts; simp [hs, h]
  · simp [hts]

theorem St.map_set_notin (σ : St) {s : Nat} {rest : List Nat} (xs : List Val) (hs : s ∉ rest) :
    rest.map (σ.set s xs).items = rest.map σ.items :=
  List.map_congr_left fun t ht => σ.set_ne xs (show t ≠ s from fun h => hs (h ▸ ht))

theorem St.map_tails (σ : St) (l : List Nat) : l.map (σ.tails l).items = (l.map σ.items).map List.tail := by
  rw [List.map_map]
  exact List.map_congr_left fun t ht => σ.tails_mem ht

theorem minLen_spec {ls : List (List Val)} (hne : ls ≠ []) :
    (∀ l ∈ ls, ListSpec.minLen ls ≤ l.length) ∧ (∃ l ∈ ls, l.length = ListSpec.minLen ls) := by
  unfold ListSpec.minLen
  cases h : (ls.map List.length).min? with
  | none => simp [List.min?_eq_none_iff] at h; exact absurd h hne
  | some a =>
    obtain ⟨hm, hle⟩ := List.min?_eq_some_iff.mp h
    simp only [Option.getD_some]
    refine ⟨fun l hl => hle _ (List.mem_map.mpr ⟨l, hl, rfl⟩), ?_⟩
    obtain ⟨l, hl, rfl⟩ := List.mem_map.mp hm
    exact ⟨l, hl, rfl⟩

theorem maxLen_spec {ls : List (List Val)} (hne : ls ≠ []) :
    (∀ l ∈ ls, l.length ≤ ListSpec.maxLen ls) ∧ (∃ l ∈ ls, l.length = ListSpec.maxLen ls) := by
  unfold ListSpec.maxLen
  cases h : (ls.map List.length).max? with
  | none => simp [List.max?_eq_none_iff] at h; exact absurd h hne
  | some a =>
    obtain ⟨hm, hle⟩ := List.max?_eq_some_iff.mp h
    simp only [Option.getD_some]
    refine ⟨fun l hl => hle _ (List.mem_map.mpr ⟨l, hl, rfl⟩), ?_⟩
    obtain ⟨l, hl, rfl⟩ := List.mem_map.mp hm
    exact ⟨l, hl, rfl⟩

theorem zipRow_some (fillv : Val) :
    ∀ (l : List Nat) (acc : List Val) (σ : St), l.Nodup → (∀ s ∈ l, D s) → (∀ s ∈ l, σ.items s ≠ []) →
      Run F D (Std.zipRow l acc) σ (.ok (some (acc ++ ListSpec.column fillv (l.map σ.items)))) [] (σ.tails l) := by
  intro l
  induction l with
  | nil =>
    intro acc σ _ _ _
    rw [St.tails_nil, Std.zipRow]
    simpa [ListSpec.column] using Run.pure (some acc) σ
  | cons s rest ih =>
    intro acc σ hnd hD hne
    obtain ⟨hs_notin, hnd'⟩ := List.nodup_cons.mp hnd
    cases hI : σ.items s with
    | nil => exact absurd hI (hne s List.mem_cons_self)
    | cons x xs =>
      have h := ih (acc ++ [x]) (σ.set s xs) hnd' (fun t ht => hD t (List.mem_cons_of_mem _ ht))
        (fun t ht => by
          rw [σ.set_ne xs (show t ≠ s from fun h => hs_notin (h ▸ ht))]
          exact hne t (List.mem_cons_of_mem _ ht))
      rw [St.set_tails hI hs_notin, σ.map_set_notin xs hs_notin] at h
      rw [Std.zipRow]
      refine (Run.pull_cons (hD s List.mem_cons_self) hI).bind ?_
      simpa [ListSpec.column, hI] using h

/-- the strict row is the plain row with the index of the source that ended added to the failure -/
theorem zipRow_eq_strict : ∀ (l : List Nat) (i : Nat) (acc : List Val),
    Std.zipRow l acc = (fun r => r.toOption) <$> Std.zipRowStrict l i acc := by
  intro l
  induction l with
  | nil => intro i acc; rfl
  | cons s rest ih =>
    intro i acc
    funext w
    rw [map_apply, Std.zipRow, Std.zipRowStrict, bind_apply, bind_apply]
    rcases pull s w with ⟨_ | _ | x, w1⟩
    · rfl
    · rfl
    · simp only [ih (i + 1), map_apply]

theorem zipRowStrict_some (l : List Nat) (i : Nat) (acc : List Val) (σ : St) (hnd : l.Nodup)
    (hD : ∀ s ∈ l, D s) (hne : ∀ s ∈ l, σ.items s ≠ []) :
    Run F D (Std.zipRowStrict l i acc) σ (.ok (.ok (acc ++ ListSpec.column .none (l.map σ.items)))) []
      (σ.tails l) := by
  have h := zipRow_some (F := F) .none l acc σ hnd hD hne
  rw [zipRow_eq_strict l i acc] at h
  refine Run.of_map (f := fun r : Except Nat (List Val) => r.toOption) (fun r hr => ?_) h
  cases r <;> simp_all [Except.toOption]

theorem zipRowStrict_none :
    ∀ (l : List Nat) (i : Nat) (acc : List Val) (σ : St), (∀ s ∈ l, D s) → (∃ s ∈ l, σ.items s = []) →
      ∃ j σ', i ≤ j ∧ Run F D (Std.zipRowStrict l i acc) σ (.ok (.error j)) [] σ' := by
  intro l
  induction l with
  | nil => intro i acc σ _ hex; obtain ⟨s, hs, _⟩ := hex; exact absurd hs List.not_mem_nil
  | cons s rest ih =>
    intro i acc σ hD hex
    cases hI : σ.items s with
    | nil => exact ⟨i, σ, Nat.le_refl _, (Run.pull_nil (hD s List.mem_cons_self) hI).bind (Run.pure _ _)⟩
    | cons x xs =>
      obtain ⟨j, σ', hj, h⟩ := ih (i + 1) (acc ++ [x]) (σ.set s xs) (fun t ht => hD t (List.mem_cons_of_mem _ ht)) (by
        obtain ⟨t, ht, hIt⟩ := hex
        rcases List.mem_cons.mp ht with rfl | ht
        · rw [hI] at hIt; exact absurd hIt (List.cons_ne_nil _ _)
        · by_cases hts : t = s
          · subst hts; rw [hI] at hIt; exact absurd hIt (List.cons_ne_nil _ _)
          · exact ⟨t, ht, by rw [σ.set_ne xs hts]; exact hIt⟩)
      exact ⟨j, σ', Nat.le_of_succ_le hj, (Run.pull_cons (hD s List.mem_cons_self) hI).bind h⟩

theorem zipRow_none (l : List Nat) (acc : List Val) (σ : St) (hD : ∀ s ∈ l, D s)
    (hex : ∃ s ∈ l, σ.items s = []) : Ends F D (Std.zipRow l acc) σ (.ok none) [] := by
  obtain ⟨j, σ', _, h⟩ := zipRowStrict_none (F := F) l 0 acc σ hD hex
  rw [zipRow_eq_strict l 0 acc]
  exact ⟨σ', h.map _⟩

theorem zipLoop_run (srcs : List Nat) (hnd : srcs.Nodup) (hD : ∀ s ∈ srcs, D s)
    (k : List Val → M Unit) (g : List Val → Val)
    (hk : ∀ row σ, σ.cons = .run 0 .exhaust → Run F D (k row) σ (.ok ()) [g row] σ) :
    ∀ (n fuel : Nat) (σ : St), σ.cons = .run 0 .exhaust → (∀ s ∈ srcs, n ≤ (σ.items s).length) →
      (∃ s ∈ srcs, (σ.items s).length = n) → n < fuel →
      Ends F D (Std.zipLoop srcs k fuel) σ (.ok ()) ((ListSpec.rowsN .none n (srcs.map σ.items)).map g) := by
  intro n
  induction n with
  | zero =>
    intro fuel σ _ _ hex hf
    obtain _ | fuel := fuel
    · exact absurd hf (Nat.not_lt_zero _)
    · obtain ⟨s, hs, hl⟩ := hex
      obtain ⟨_, h⟩ := zipRow_none srcs [] σ hD ⟨s, hs, List.length_eq_zero_iff.mp hl⟩
      exact Run.ends (h.bind (Run.pure _ _))
  | succ n ih =>
    intro fuel σ hc hle hex hf
    obtain _ | fuel := fuel
    · exact absurd hf (Nat.not_lt_zero _)
    · have h := ih fuel (σ.tails srcs) hc
        (fun s hs => by have := hle s hs; rw [σ.tails_mem hs, List.length_tail]; omega)
        (by obtain ⟨s, hs, hl⟩ := hex; exact ⟨s, hs, by rw [σ.tails_mem hs, List.length_tail]; omega⟩)
        (Nat.lt_of_succ_lt_succ hf)
      rw [σ.map_tails] at h
      exact (zipRow_some .none srcs [] σ hnd hD
        (fun s hs h => by have := hle s hs; rw [h] at this; exact absurd this (Nat.not_succ_le_zero _))).andThen
        ((hk _ (σ.tails srcs) hc).andThen h)


/-- `zip` and `map`: nothing for no sources, else rows handed to `k` up to the shortest input -/
theorem zipLoop_min (srcs : List Nat) (hnd : srcs.Nodup) (hD : ∀ s ∈ srcs, D s)
    (k : List Val → M Unit) (g : List Val → Val)
    (hk : ∀ row σ, σ.cons = .run 0 .exhaust → Run F D (k row) σ (.ok ()) [g row] σ)
    (fuel : Nat) (σ : St) (hc : σ.cons = .run 0 .exhaust) (hf : ListSpec.minLen (srcs.map σ.items) < fuel) :
    Ends F D (if srcs.isEmpty then pure () else Std.zipLoop srcs k fuel) σ (.ok ())
      ((ListSpec.zipRows (srcs.map σ.items)).map g) := by
  by_cases hne : srcs = []
  · subst hne
    exact (Run.pure _ _).ends
  · obtain ⟨h1, l, hl, h2⟩ := minLen_spec (ls := srcs.map σ.items) (by simpa using hne)
    obtain ⟨s, hs, rfl⟩ := List.mem_map.mp hl
    rw [if_neg (by simpa using hne)]
    exact zipLoop_run srcs hnd hD k g hk _ fuel σ hc
      (fun t ht => h1 _ (List.mem_map.mpr ⟨t, ht, rfl⟩)) ⟨s, hs, h2⟩ hf

theorem rowsN_pair : ∀ (a b : List Val),
    ListSpec.rowsN .none (min a.length b.length) [a, b] = (a.zip b).map (fun p => [p.1, p.2]) := by
  intro a
  induction a with
  | nil => intro b; simp [ListSpec.rowsN]
  | cons x xs ih =>
    intro b
    cases b with
    | nil => simp [ListSpec.rowsN]
    | cons y ys =>
      have h : min (x :: xs).length (y :: ys).length = min xs.length ys.length + 1 := by
        simp only [List.length_cons]; omega
      rw [h]
      simp [ListSpec.rowsN, ListSpec.column, ih]

/-- for two inputs the specification of `zip` is core `List.zip` -/
theorem zipRows_pair (a b : List Val) :
    ListSpec.zipRows [a, b] = (a.zip b).map (fun p => [p.1, p.2]) := by
  have h : ListSpec.minLen [a, b] = min a.length b.length := by
    simp [ListSpec.minLen, List.min?_cons]
  rw [ListSpec.zipRows, h, rowsN_pair]

theorem checkRestEmpty_run :
    ∀ (l : List Nat) (σ : St), (∀ s ∈ l, D s) →
      Ends F D (Std.checkRestEmpty l) σ
        (if l.all (fun s => (σ.items s).length == 0) then .ok () else .error .valueError) [] := by
  intro l
  induction l with
  | nil => intro σ _; exact (Run.pure _ _).ends
  | cons s rest ih =>
    intro σ hD
    cases hI : σ.items s with
    | nil =>
      have e : (s :: rest).all (fun s => (σ.items s).length == 0)
          = rest.all (fun s => (σ.items s).length == 0) := by simp [hI]
      rw [e]
      exact (Run.pull_nil (hD s List.mem_cons_self) hI).andThen
        (ih σ fun t ht => hD t (List.mem_cons_of_mem _ ht))
    | cons x xs =>
      have e : (s :: rest).all (fun s => (σ.items s).length == 0) = false := by simp [hI]
      rw [e]
      exact (Run.pull_cons (hD s List.mem_cons_self) hI).andThen (Run.raise _ _).ends

theorem zipStrictLoop_run (srcs : List Nat) (hnd : srcs.Nodup) (hD : ∀ s ∈ srcs, D s) :
    ∀ (n fuel : Nat) (σ : St), σ.cons = .run 0 .exhaust → (∀ s ∈ srcs, n ≤ (σ.items s).length) →
      (∃ s ∈ srcs, (σ.items s).length = n) → n < fuel →
      Ends F D (Std.zipStrictLoop srcs fuel) σ
        (if srcs.all (fun s => (σ.items s).length == n) then .ok () else .error .valueError)
        ((ListSpec.rowsN .none n (srcs.map σ.items)).map Val.tup) := by
  intro n
  induction n with
  | zero =>
    intro fuel σ _ _ hex hf
    obtain _ | fuel := fuel
    · exact absurd hf (Nat.not_lt_zero _)
    · obtain ⟨t, ht, hlt⟩ := hex
      have hIt := List.length_eq_zero_iff.mp hlt
      cases srcs with
      | nil => exact absurd ht List.not_mem_nil
      | cons s0 rest =>
        have hD' : ∀ s ∈ rest, D s := fun s hs => hD s (List.mem_cons_of_mem _ hs)
        cases hI : σ.items s0 with
        | nil =>
          have e : (s0 :: rest).all (fun s => (σ.items s).length == 0)
              = rest.all (fun s => (σ.items s).length == 0) := by simp [hI]
          rw [e]
          have h0 : Run F D (Std.zipRowStrict (s0 :: rest) 0 []) σ (.ok (.error 0)) [] σ :=
            (Run.pull_nil (hD s0 List.mem_cons_self) hI).bind (Run.pure _ _)
          exact h0.andThen (checkRestEmpty_run rest σ hD')
        | cons x xs =>
          have e : (s0 :: rest).all (fun s => (σ.items s).length == 0) = false := by simp [hI]
          rw [e]
          have hts : t ≠ s0 := fun h => by rw [h, hI] at hIt; exact List.cons_ne_nil _ _ hIt
          obtain ⟨j, σ', hj, h⟩ := zipRowStrict_none (F := F) rest 1 [x] (σ.set s0 xs) hD'
            ⟨t, (List.mem_cons.mp ht).resolve_left hts, by rw [σ.set_ne xs hts]; exact hIt⟩
          obtain _ | j := j
          · exact absurd hj (Nat.not_succ_le_zero _)
          · have h1 : Run F D (Std.zipRowStrict (s0 :: rest) 0 []) σ (.ok (.error (j + 1))) [] σ' :=
              (Run.pull_cons (hD s0 List.mem_cons_self) hI).bind h
            exact Run.ends (h1.bind (Run.raise _ _))
  | succ n ih =>
    intro fuel σ hc hle hex hf
    obtain _ | fuel := fuel
    · exact absurd hf (Nat.not_lt_zero _)
    · have h := ih fuel (σ.tails srcs) hc
        (fun s hs => by have := hle s hs; rw [σ.tails_mem hs, List.length_tail]; omega)
        (by obtain ⟨s, hs, hl⟩ := hex; exact ⟨s, hs, by rw [σ.tails_mem hs, List.length_tail]; omega⟩)
        (Nat.lt_of_succ_lt_succ hf)
      have hall : srcs.all (fun s => ((σ.tails srcs).items s).length == n)
          = srcs.all (fun s => (σ.items s).length == n + 1) := by
        apply all_congr_mem
        intro s hs
        have := hle s hs
        rw [σ.tails_mem hs, List.length_tail, Bool.eq_iff_iff, beq_iff_eq, beq_iff_eq]
        omega
      rw [σ.map_tails, hall] at h
      exact (zipRowStrict_some srcs 0 [] σ hnd hD
        (fun s hs h => by have := hle s hs; rw [h] at this; exact absurd this (Nat.not_succ_le_zero _))).andThen
        (.yield h hc)


theorem zipStrict_run (srcs : List Nat) (hnd : srcs.Nodup) (hD : ∀ s ∈ srcs, D s) (fuel : Nat) (σ : St)
    (hc : σ.cons = .run 0 .exhaust) (hf : ListSpec.minLen (srcs.map σ.items) < fuel) :
    Ends F D (Std.zipStrict srcs fuel) σ
      (if ListSpec.sameLen (srcs.map σ.items) then .ok () else .error .valueError)
      (ListSpec.zip (srcs.map σ.items)) := by
  by_cases hne : srcs = []
  · subst hne
    exact (Run.pure _ _).ends
  · obtain ⟨h1, l, hl, h2⟩ := minLen_spec (ls := srcs.map σ.items) (by simpa using hne)
    obtain ⟨s, hs, rfl⟩ := List.mem_map.mp hl
    rw [Std.zipStrict, if_neg (by simpa using hne), ListSpec.sameLen, List.all_map]
    exact zipStrictLoop_run srcs hnd hD _ fuel σ hc (fun t ht => h1 _ (List.mem_map.mpr ⟨t, ht, rfl⟩))
      ⟨s, hs, h2⟩ hf

/-! ## chain -/

theorem outs_id (items : List Val) : outs (fun _ => true) (fun x => [x]) items = items := by
  simpa using outs_map id items

theorem leftover_true (items : List Val) : leftover (fun _ => true) items = [] := by
  induction items with
  | nil => rfl
  | cons x xs ih => simpa [leftover] using ih

theorem passThrough_run {s : Nat} (hD : D s) (items : List Val) (fuel : Nat) (σ : St)
    (hc : σ.cons = .run 0 .exhaust) (hs : σ.items s = items) (hf : items.length < fuel) :
    Run F D (forEach s (fun x => do yieldV x; pure true) fuel) σ (.ok ()) items (σ.set s []) := by
  have h := forEach_run (F := F) hD (fun x => do yieldV x; pure true) (fun _ => true) (fun x => [x]) items fuel σ
    (fun x _ σ hc => (Run.yieldV _ hc).bind (Run.pure _ _)) hc hs hf
  rwa [outs_id, leftover_true] at h

theorem chain_run (fuel : Nat) :
    ∀ (srcs : List Nat) (σ : St), σ.cons = .run 0 .exhaust → srcs.Nodup → (∀ s ∈ srcs, D s) →
      (∀ s ∈ srcs, (σ.items s).length < fuel) →
      Ends F D (Std.chain srcs fuel) σ (.ok ()) (srcs.map σ.items).flatten := by
  intro srcs
  induction srcs with
  | nil => intro σ _ _ _ _; exact (Run.pure _ _).ends
  | cons s rest ih =>
    intro σ hc hnd hD hf
    obtain ⟨hs_notin, hnd'⟩ := List.nodup_cons.mp hnd
    have h := ih (σ.set s []) hc hnd' (fun t ht => hD t (List.mem_cons_of_mem _ ht))
      (fun t ht => by
        rw [σ.set_ne [] (show t ≠ s from fun h => hs_notin (h ▸ ht))]
        exact hf t (List.mem_cons_of_mem _ ht))
    rw [σ.map_set_notin [] hs_notin] at h
    exact (passThrough_run (hD s List.mem_cons_self) _ fuel σ hc rfl (hf s List.mem_cons_self)).andThen h

/-! ## dropwhile -/

theorem dropwhile_started_run {s : Nat} (hD : D s) (f : Nat) :
    ∀ (items : List Val) (fuel : Nat) (σ : St), σ.cons = .run 0 .exhaust → σ.items s = items →
      items.length < fuel → Ends F D (Std.dropwhileLoop f s true fuel) σ (.ok ()) items := by
  intro items
  induction items with
  | nil =>
    intro fuel σ _ hs hf
    obtain _ | fuel := fuel
    · exact absurd hf (Nat.not_lt_zero _)
    · exact (Run.pull_nil hD hs).andThen (Run.pure _ _).ends
  | cons x xs ih =>
    intro fuel σ hc hs hf
    obtain _ | fuel := fuel
    · exact absurd hf (Nat.not_lt_zero _)
    · exact (Run.pull_cons hD hs).andThen
        (.yield (ih fuel (σ.set s xs) hc (σ.set_same s xs) (Nat.lt_of_succ_lt_succ hf)) hc)

theorem dropwhileLoop_run {s : Nat} (hD : D s) (f : Nat) (q : List Val → Val) (hq : ∀ n a, F f n a = .ok (q a)) :
    ∀ (items : List Val) (fuel : Nat) (σ : St), σ.cons = .run 0 .exhaust → σ.items s = items →
      items.length < fuel →
      Ends F D (Std.dropwhileLoop f s false fuel) σ (.ok ()) (ListSpec.dropwhile q items) := by
  intro items
  induction items with
  | nil =>
    intro fuel σ _ hs hf
    obtain _ | fuel := fuel
    · exact absurd hf (Nat.not_lt_zero _)
    · exact (Run.pull_nil hD hs).andThen (Run.pure _ _).ends
  | cons x xs ih =>
    intro fuel σ hc hs hf
    obtain _ | fuel := fuel
    · exact absurd hf (Nat.not_lt_zero _)
    · refine (Run.pull_cons hD hs).andThen ((Run.call hq [x] _).andThen ?_)
      have hf' := Nat.lt_of_succ_lt_succ hf
      cases hp : (q [x]).truthy with
      | true =>
        simpa [ListSpec.dropwhile, List.dropWhile, hp] using ih fuel (σ.set s xs) hc (σ.set_same s xs) hf'
      | false =>
        simpa [ListSpec.dropwhile, List.dropWhile, hp] using
          Ends.yield (v := x) (f := fun _ => Std.dropwhileLoop f s true fuel)
            (dropwhile_started_run hD f xs fuel (σ.set s xs) hc (σ.set_same s xs) hf') hc

/-! ## islice -/

/-- the elements of `l` whose index, counted from `k`, is a multiple of `step` -/
def stride (step : Nat) (k : Nat) (l : List Val) : List Val :=
  ((l.zipIdx k).filter (fun p => p.2 % step == 0)).map (fun p => p.1)

theorem stride_nil (step k : Nat) : stride step k [] = [] := rfl

theorem stride_cons_hit {step k : Nat} (h : k % step = 0) (x : Val) (l : List Val) :
    stride step k (x :: l) = x :: stride step (k + 1) l := by
  simp [stride, List.zipIdx_cons, h]

theorem stride_cons_miss {step k : Nat} (h : ¬ k % step = 0) (x : Val) (l : List Val) :
    stride step k (x :: l) = stride step (k + 1) l := by
  simp [stride, List.zipIdx_cons, h]

theorem stride_cons (step k : Nat) (x : Val) (l : List Val) :
    stride step k (x :: l) = if (k % step == 0) = true then x :: stride step (k + 1) l else stride step (k + 1) l := by
  split <;> rename_i h
  · exact stride_cons_hit (beq_iff_eq.mp h) x l
  · exact stride_cons_miss (fun h' => h (beq_iff_eq.mpr h')) x l

theorem stride_shift (step : Nat) : ∀ (l : List Val) (k : Nat), stride step (k + step) l = stride step k l := by
  intro l
  induction l with
  | nil => intro k; rfl
  | cons x xs ih =>
    intro k
    have e : (k + step) % step = k % step := Nat.add_mod_right k step
    have e2 : k + step + 1 = (k + 1) + step := by omega
    by_cases h : k % step = 0
    · rw [stride_cons_hit (by rw [e]; exact h), stride_cons_hit h, e2, ih]
    · rw [stride_cons_miss (by rw [e]; exact h), stride_cons_miss h, e2, ih]

theorem stride_skip (step : Nat) : ∀ (m : Nat) (l : List Val) (k : Nat),
    (∀ j, j < m → ¬ (k + j) % step = 0) → stride step k l = stride step (k + m) (l.drop m) := by
  intro m
  induction m with
  | zero => intro l k _; simp
  | succ m ih =>
    intro l k h
    cases l with
    | nil => simp [stride_nil]
    | cons x xs =>
      rw [stride_cons_miss (by simpa using h 0 (by omega))]
      rw [ih xs (k + 1) (fun j hj => by have := h (j + 1) (by omega); rwa [show k + 1 + j = k + (j + 1) by omega])]
      simp [show k + 1 + m = k + (m + 1) by omega]

/-- the key recurrence: after an element that is kept, the next `step - 1` are skipped -/
theorem stride_step {step : Nat} (hstep : 1 ≤ step) (x : Val) (l : List Val) :
    stride step 0 (x :: l) = x :: stride step 0 (l.drop (step - 1)) := by
  rw [stride_cons_hit (by simp)]
  rw [stride_skip step (step - 1) l (0 + 1) (fun j hj => by
    have h1 : 0 + 1 + j < step := by omega
    rw [Nat.mod_eq_of_lt h1]; omega)]
  have : 0 + 1 + (step - 1) = 0 + step := by omega
  rw [this, stride_shift]


theorem skipTo_run {s : Nat} (hD : D s) :
    ∀ (d : Nat) (items : List Val) (cnt : Nat) (σ : St), σ.items s = items →
      Run F D (Std.skipTo s d cnt) σ (.ok (cnt + min d items.length, decide (d ≤ items.length))) []
        (σ.set s (items.drop d)) := by
  intro d
  induction d with
  | zero =>
    intro items cnt σ hs
    rw [Std.skipTo]
    simpa [σ.set_self hs] using Run.pure (cnt, true) σ
  | succ d ih =>
    intro items cnt σ hs
    rw [Std.skipTo]
    cases items with
    | nil => simpa [σ.set_self hs] using (Run.pull_nil hD hs).bind (Run.pure (cnt, false) σ)
    | cons x xs =>
      refine (Run.pull_cons hD hs).bind ?_
      have h := ih xs (cnt + 1) (σ.set s xs) (σ.set_same s xs)
      have e1 : cnt + 1 + min d xs.length = cnt + min (d + 1) (xs.length + 1) := by omega
      rw [e1] at h
      simpa using h


/-- `l` cut at the absolute index `stop`, when its head has the absolute index `next` -/
def cutAt (stop : Option Nat) (next : Nat) (l : List Val) : List Val :=
  match stop with
  | some st => l.take (st - next)
  | none => l

/-- the index of the next item `islice_next` will return, after the one at `next` -/
def nextAfter (stop : Option Nat) (step next : Nat) : Nat :=
  match stop with
  | some st => if next + step > st then st else next + step
  | none => next + step

theorem nextAfter_gt {stop : Option Nat} {step next : Nat} (hstep : 1 ≤ step)
    (hstop : ∀ st, stop = some st → ¬ st ≤ next) : next + 1 ≤ nextAfter stop step next := by
  cases stop with
  | none => simp only [nextAfter]; omega
  | some st => have := hstop st rfl; simp only [nextAfter]; split <;> omega

theorem stride_cutAt_cons {step : Nat} (hstep : 1 ≤ step) (stop : Option Nat) (next : Nat) (x : Val)
    (rest : List Val) (hstop : ∀ st, stop = some st → ¬ st ≤ next) :
    stride step 0 (cutAt stop next (x :: rest))
      = x :: stride step 0 (cutAt stop (nextAfter stop step next)
          (rest.drop (nextAfter stop step next - (next + 1)))) := by
  cases stop with
  | none =>
    simp only [cutAt, nextAfter]
    rw [stride_step hstep, show next + step - (next + 1) = step - 1 by omega]
  | some st =>
    have := hstop st rfl
    simp only [cutAt, nextAfter]
    rw [show st - next = (st - next - 1) + 1 by omega, List.take_succ_cons, stride_step hstep, List.drop_take]
    by_cases hcap : next + step > st
    · rw [if_pos hcap, show st - next - 1 - (step - 1) = 0 by omega, show st - st = 0 by omega]
      simp
    · rw [if_neg hcap, show st - next - 1 - (step - 1) = st - (next + step) by omega,
        show next + step - (next + 1) = step - 1 by omega]

/-- has the loop reached `stop` when it has consumed `cnt` items? -/
def reached (stop : Option Nat) (cnt : Nat) : Bool :=
  match stop with
  | some st => decide (st ≤ cnt)
  | none => false

theorem cutAt_reached {stop : Option Nat} {next : Nat} (h : reached stop next = true) (l : List Val) :
    cutAt stop next l = [] := by
  cases stop with
  | none => exact absurd h Bool.false_ne_true
  | some st => simp only [cutAt, Nat.sub_eq_zero_of_le (of_decide_eq_true h), List.take_zero]

theorem cutAt_nil (stop : Option Nat) (next : Nat) : cutAt stop next [] = [] := by
  cases stop <;> simp [cutAt]

theorem isliceLoop_succ (s : Nat) (stop : Option Nat) (step cnt next fuel : Nat) :
    Std.isliceLoop s stop step cnt next (fuel + 1) = (do
      let (cnt, ok) ← Std.skipTo s (next - cnt) cnt
      if !ok then pure ()
      else if reached stop cnt then pure ()
      else
        match ← pull s with
        | none => pure ()
        | some x => do
          yieldV x
          Std.isliceLoop s stop step (cnt + 1) (nextAfter stop step next) fuel) := by
  cases stop <;> rfl

/-- one round of `isliceLoop`, given what the recursive call does on a shorter rest -/
theorem isliceLoop_step {s : Nat} (hD : D s) (stop : Option Nat) (step : Nat) (hstep : 1 ≤ step)
    (items : List Val) (cnt next fuel : Nat) (σ : St) (hc : σ.cons = .run 0 .exhaust)
    (hs : σ.items s = items) (hcn : cnt ≤ next)
    (hrec : ∀ (rest : List Val) (cnt' next' : Nat) (σ' : St), σ'.cons = .run 0 .exhaust → σ'.items s = rest →
      rest.length < items.length → cnt' ≤ next' →
      Ends F D (Std.isliceLoop s stop step cnt' next' fuel) σ' (.ok ())
        (stride step 0 (cutAt stop next' (rest.drop (next' - cnt'))))) :
    Ends F D (Std.isliceLoop s stop step cnt next (fuel + 1)) σ (.ok ())
      (stride step 0 (cutAt stop next (items.drop (next - cnt)))) := by
  rw [isliceLoop_succ]
  refine (skipTo_run hD (next - cnt) items cnt σ hs).andThen ?_
  by_cases hd : next - cnt ≤ items.length
  · rw [show cnt + min (next - cnt) items.length = next by omega]
    simp only [decide_eq_true hd, Bool.not_true, Bool.false_eq_true, if_false]
    cases hr : reached stop next with
    | true =>
      rw [cutAt_reached hr, stride_nil]
      exact (Run.pure _ _).ends
    | false =>
      have hstop : ∀ st, stop = some st → ¬ st ≤ next := by
        intro st h; subst h; exact of_decide_eq_false hr
      cases hrem : items.drop (next - cnt) with
      | nil =>
        rw [cutAt_nil, stride_nil]
        exact (Run.pull_nil hD (σ.set_same s _)).andThen (Run.pure _ _).ends
      | cons x rest =>
        have hlen : rest.length < items.length := by
          have := congrArg List.length hrem
          simp only [List.length_drop, List.length_cons] at this
          omega
        rw [stride_cutAt_cons hstep stop next x rest hstop]
        exact (Run.pull_cons hD (σ.set_same s _)).andThen (.yield
          (hrec rest (next + 1) (nextAfter stop step next) _ hc (St.set_same _ s rest) hlen
            (nextAfter_gt hstep hstop)) hc)
  · rw [List.drop_of_length_le (by omega), cutAt_nil, stride_nil]
    simp only [decide_eq_false hd, Bool.not_false, if_true]
    exact (Run.pure _ _).ends

theorem isliceLoop_run {s : Nat} (hD : D s) (stop : Option Nat) (step : Nat) (hstep : 1 ≤ step) :
    ∀ (k : Nat) (items : List Val) (cnt next fuel : Nat) (σ : St), σ.cons = .run 0 .exhaust →
      σ.items s = items → items.length ≤ k → k < fuel → cnt ≤ next →
      Ends F D (Std.isliceLoop s stop step cnt next fuel) σ (.ok ())
        (stride step 0 (cutAt stop next (items.drop (next - cnt)))) := by
  intro k
  induction k with
  | zero =>
    intro items cnt next fuel σ hc hs hk hf hcn
    obtain _ | fuel := fuel
    · exact absurd hf (Nat.not_lt_zero _)
    · exact isliceLoop_step hD stop step hstep items cnt next fuel σ hc hs hcn
        (fun rest _ _ _ _ _ hlt _ => by omega)
  | succ k ih =>
    intro items cnt next fuel σ hc hs hk hf hcn
    obtain _ | fuel := fuel
    · exact absurd hf (Nat.not_lt_zero _)
    · exact isliceLoop_step hD stop step hstep items cnt next fuel σ hc hs hcn
        (fun rest cnt' next' σ' hc' hs' hlt hcn' => ih rest cnt' next' fuel σ' hc' hs' (by omega) (by omega) hcn')

theorem islice_run {s : Nat} (hD : D s) (start : Nat) (stop : Option Nat) (step : Nat) (hstep : 1 ≤ step)
    (items : List Val) (fuel : Nat) (σ : St) (hc : σ.cons = .run 0 .exhaust) (hs : σ.items s = items)
    (hf : items.length < fuel) :
    Ends F D (Std.islice s start stop step fuel) σ (.ok ()) (ListSpec.islice start stop step items) := by
  have h := isliceLoop_run (F := F) hD stop step hstep items.length items 0 start fuel σ hc hs (Nat.le_refl _) hf
    (Nat.zero_le _)
  have e : stride step 0 (cutAt stop start (items.drop (start - 0))) = ListSpec.islice start stop step items := by
    cases stop with
    | none => simp [cutAt, stride, ListSpec.islice]
    | some st => simp [cutAt, stride, ListSpec.islice, List.drop_take]
  rwa [e] at h

/-! ### asyncstdlib's `islice`: its own loop `Impl.idxLoop` (skip `start`, then count up to a limit), not
a twin of CPython's `cnt`/`next` loop, so it gets its own run -/

theorem Ends.yield_when {β : Type} {c : Prop} [Decidable c] {v : Val} {k : M β} {σ : St} {r : Except Exc β}
    {zs : List Val} (h : Ends F D k σ r zs) (hc : σ.cons = .run 0 .exhaust) :
    Ends F D (if c then yieldV v >>= fun _ => k else k) σ r (if c then v :: zs else zs) := by
  split
  · exact .yield h hc
  · exact h

theorem idxLoop_succ (s step : Nat) (lim : Option Nat) (idx fuel : Nat) :
    Impl.idxLoop s step lim idx (fuel + 1) = pull s >>= fun r =>
      match r with
      | none => pure ()
      | some x =>
        if (idx % step == 0) = true
        then yieldV x >>= fun _ => if reached lim idx = true then pure () else Impl.idxLoop s step lim (idx + 1) fuel
        else if reached lim idx = true then pure () else Impl.idxLoop s step lim (idx + 1) fuel := by
  cases lim <;> rfl

theorem cutAt_idx_last {lim : Option Nat} {idx : Nat} (x : Val) (xs : List Val)
    (hle : ∀ l, lim = some l → idx ≤ l) (hr : reached lim idx = true) :
    cutAt (lim.map (· + 1)) idx (x :: xs) = [x] := by
  cases lim with
  | none => exact absurd hr Bool.false_ne_true
  | some l =>
    have := hle l rfl
    have := of_decide_eq_true hr
    simp only [cutAt, Option.map_some, show l + 1 - idx = 1 by omega, List.take_succ_cons, List.take_zero]

theorem cutAt_idx_next {lim : Option Nat} {idx : Nat} (x : Val) (xs : List Val)
    (hle : ∀ l, lim = some l → idx ≤ l) (hr : reached lim idx = false) :
    cutAt (lim.map (· + 1)) idx (x :: xs) = x :: cutAt (lim.map (· + 1)) (idx + 1) xs
      ∧ ∀ l, lim = some l → idx + 1 ≤ l := by
  cases lim with
  | none => exact ⟨rfl, fun _ h => nomatch h⟩
  | some l =>
    have := hle l rfl
    have : ¬ l ≤ idx := of_decide_eq_false hr
    refine ⟨?_, fun l' hl' => by cases hl'; omega⟩
    simp only [cutAt, Option.map_some, show l + 1 - idx = (l + 1 - (idx + 1)) + 1 by omega, List.take_succ_cons]

theorem idxLoop_run {s : Nat} (hD : D s) (step : Nat) (lim : Option Nat) :
    ∀ (items : List Val) (idx fuel : Nat) (σ : St), σ.cons = .run 0 .exhaust → σ.items s = items →
      items.length < fuel → (∀ l, lim = some l → idx ≤ l) →
      Ends F D (Impl.idxLoop s step lim idx fuel) σ (.ok ())
        (stride step idx (cutAt (lim.map (· + 1)) idx items)) := by
  intro items
  induction items with
  | nil =>
    intro idx fuel σ _ hs hf _
    obtain _ | fuel := fuel
    · exact absurd hf (Nat.not_lt_zero _)
    · rw [cutAt_nil, stride_nil]
      exact (Run.pull_nil hD hs).andThen (Run.pure _ _).ends
  | cons x xs ih =>
    intro idx fuel σ hc hs hf hle
    obtain _ | fuel := fuel
    · exact absurd hf (Nat.not_lt_zero _)
    · rw [idxLoop_succ]
      refine (Run.pull_cons hD hs).andThen ?_
      cases hr : reached lim idx with
      | true =>
        rw [cutAt_idx_last x xs hle hr, stride_cons, stride_nil]
        exact .yield_when (Run.pure _ _).ends hc
      | false =>
        obtain ⟨e, hle'⟩ := cutAt_idx_next x xs hle hr
        rw [e, stride_cons]
        exact .yield_when (ih (idx + 1) fuel (σ.set s xs) hc (σ.set_same s xs) (Nat.lt_of_succ_lt_succ hf)
          hle') hc

/-- `islice` always consumes the first `start` items; the flag says whether the source got that far -/
theorem skipStart_run {s : Nat} (hD : D s) (start : Nat) (items : List Val) (σ : St) (hs : σ.items s = items)
    (k : Bool → M Unit) (r : Except Exc Unit) (ys : List Val)
    (hk : Ends F D (k (decide (start ≤ items.length))) (σ.set s (items.drop start)) r ys) :
    Ends F D (if start > 0 then (do let r ← Std.skipTo s start 0; pure r.2) >>= k else pure true >>= k) σ r ys := by
  by_cases h0 : start > 0
  · rw [if_pos h0]
    exact Run.andThen (Run.bind (skipTo_run hD start items 0 σ hs) (Run.pure _ _)) hk
  · obtain rfl : start = 0 := by omega
    rw [if_neg h0]
    refine Run.andThen (Run.pure true σ) ?_
    simpa [σ.set_self hs] using hk

/-- asyncstdlib's `islice` is a scope around a body that yields the slice -/
theorem implIslice_run {s : Nat} (hD : D s) (start : Nat) (stop : Option Nat) (step : Nat)
    (items : List Val) (fuel : Nat) (σ : St) (hc : σ.cons = .run 0 .exhaust) (hs : σ.items s = items)
    (hf : items.length < fuel) :
    ∃ body, Impl.islice s start stop step fuel = scopedIter s body
      ∧ Ends F D body σ (.ok ()) (ListSpec.islice start stop step items) := by
  refine ⟨_, rfl, skipStart_run hD start items σ hs _ _ _ ?_⟩
  have hdl : (items.drop start).length < fuel := by rw [List.length_drop]; omega
  by_cases hok : start ≤ items.length
  · simp only [decide_eq_true hok, Bool.not_true, Bool.false_eq_true, if_false]
    cases stop with
    | none =>
      have h := idxLoop_run (F := F) hD step none (items.drop start) 0 fuel (σ.set s (items.drop start)) hc
        (σ.set_same s _) hdl (fun _ h => nomatch h)
      have e : stride step 0 (cutAt (none.map (· + 1)) 0 (items.drop start))
          = ListSpec.islice start none step items := by
        simp [ListSpec.islice, stride, cutAt]
      rw [e] at h
      exact h
    | some st =>
      by_cases hst : st ≤ start
      · have e : ListSpec.islice start (some st) step items = [] := by
          simp [ListSpec.islice, List.drop_take, show st - start = 0 by omega]
        rw [e]
        simpa [hst] using (Run.pure () (σ.set s (items.drop start))).ends
      · have h := idxLoop_run (F := F) hD step (some (st - start - 1)) (items.drop start) 0 fuel
          (σ.set s (items.drop start)) hc (σ.set_same s _) hdl (fun _ _ => Nat.zero_le _)
        have e : stride step 0 (cutAt ((some (st - start - 1)).map (· + 1)) 0 (items.drop start))
            = ListSpec.islice start (some st) step items := by
          simp [ListSpec.islice, stride, cutAt, List.drop_take, show st - start - 1 + 1 = st - start by omega]
        rw [e] at h
        simpa [hst] using h
  · have e : ListSpec.islice start stop step items = [] := by
      have hdrop : items.drop start = [] := List.drop_of_length_le (by omega)
      cases stop <;> simp [ListSpec.islice, List.drop_take, hdrop]
    rw [e]
    simp only [decide_eq_false hok, Bool.not_false, if_true]
    exact (Run.pure _ _).ends


/-! ## zip_longest -/

theorem St.tails_cons_nil {σ : St} {s : Nat} (l : List Nat) (h : σ.items s = []) : σ.tails (s :: l) = σ.tails l := by
  simp only [St.tails, St.mk.injEq, true_and]
  funext t
  by_cases hts : t = s
  · subst hts; simp [h]
  · simp [hts]

/-- the sources still marked active that turn out to have ended in this row -/
def ended (I : Nat → List Val) (l : List (Nat × Bool)) : Nat :=
  l.countP (fun p => p.2 && (I p.1).isEmpty)

/-- the marks after a row -/
def remark (I : Nat → List Val) (l : List (Nat × Bool)) : List (Nat × Bool) :=
  l.map (fun p => (p.1, p.2 && !(I p.1).isEmpty))

theorem countP_split (I : Nat → List Val) (l : List (Nat × Bool)) :
    l.countP (fun p => p.2 && (I p.1).isEmpty) + l.countP (fun p => p.2 && !(I p.1).isEmpty)
      = l.countP (fun p => p.2) := by
  induction l with
  | nil => rfl
  | cons p rest ih =>
    simp only [List.countP_cons]
    cases p.2 <;> cases (I p.1).isEmpty <;> simp <;> omega

theorem ended_add_remark (I : Nat → List Val) (l : List (Nat × Bool)) :
    ended I l + (remark I l).countP (fun p => p.2) = l.countP (fun p => p.2) := by
  have h := countP_split I l
  simpa [ended, remark, List.countP_map, Function.comp_def] using h

theorem ended_all_empty (I : Nat → List Val) (l : List (Nat × Bool)) (h : ∀ p ∈ l, I p.1 = []) :
    ended I l = l.countP (fun p => p.2) := by
  induction l with
  | nil => rfl
  | cons p rest ih =>
    have ih' := ih (fun p hp => h p (by simp [hp]))
    have hp := h p (by simp)
    simp only [ended] at ih' ⊢
    simp [List.countP_cons, hp, ih']


theorem ended_cons (I : Nat → List Val) (s : Nat) (b : Bool) (rest : List (Nat × Bool)) :
    ended I ((s, b) :: rest) = ended I rest + if (b && (I s).isEmpty) = true then 1 else 0 :=
  List.countP_cons ..

/-- `I` is what the sources of `l` hold on entry; it stays fixed while the state moves on -/
theorem longestRow_some (fillv : Val) (I : Nat → List Val) :
    ∀ (l : List (Nat × Bool)) (acc : List Val) (done : List (Nat × Bool)) (na : Nat) (σ : St),
      (l.map Prod.fst).Nodup → (∀ p ∈ l, D p.1) → (∀ p ∈ l, σ.items p.1 = I p.1) →
      (∀ p ∈ l, p.2 = false → I p.1 = []) → ended I l < na →
      Run F D (Std.longestRow fillv l acc done na) σ
        (.ok (some (acc ++ ListSpec.column fillv (l.map (fun p => I p.1)), done ++ remark I l, na - ended I l)))
        [] (σ.tails (l.map Prod.fst)) := by
  intro l
  induction l with
  | nil =>
    intro acc done na σ _ _ _ _ _
    simp only [Std.longestRow, List.map_nil, St.tails_nil, remark, ListSpec.column, List.append_nil, ended,
      List.countP_nil, Nat.sub_zero]
    exact Run.pure _ _
  | cons p rest ih =>
    intro acc done na σ hnd hD hag hfl hna
    obtain ⟨s, b⟩ := p
    obtain ⟨hs_notin, hnd'⟩ := List.nodup_cons.mp hnd
    have hσ : σ.items s = I s := hag (s, b) List.mem_cons_self
    have hD' : ∀ p ∈ rest, D p.1 := fun p hp => hD p (List.mem_cons_of_mem _ hp)
    have hfl' : ∀ p ∈ rest, p.2 = false → I p.1 = [] := fun p hp => hfl p (List.mem_cons_of_mem _ hp)
    have hag' : ∀ p ∈ rest, σ.items p.1 = I p.1 := fun p hp => hag p (List.mem_cons_of_mem _ hp)
    rw [ended_cons] at hna ⊢
    rw [List.map_cons, List.map_cons, remark, List.map_cons]
    cases b with
    | false =>
      have hI : I s = [] := hfl (s, false) List.mem_cons_self rfl
      have h := ih (acc ++ [fillv]) (done ++ [(s, false)]) na σ hnd' hD' hag' hfl' hna
      rw [List.append_assoc, List.append_assoc] at h
      rw [Std.longestRow, St.tails_cons_nil _ (hσ.trans hI), hI]
      exact h
    | true =>
      rw [Std.longestRow]
      cases hI : I s with
      | nil =>
        rw [hI] at hna
        have h := ih (acc ++ [fillv]) (done ++ [(s, false)]) (na - 1) σ hnd' hD' hag' hfl'
          (Nat.lt_sub_of_add_lt hna)
        rw [List.append_assoc, List.append_assoc, Nat.sub_sub, Nat.add_comm] at h
        rw [St.tails_cons_nil _ (hσ.trans hI)]
        refine (Run.pull_nil (hD _ List.mem_cons_self) (hσ.trans hI)).bind ?_
        rw [if_neg (Nat.sub_ne_zero_of_lt (Nat.lt_of_le_of_lt (Nat.le_add_left 1 _) hna))]
        exact h
      | cons x xs =>
        rw [hI] at hna
        have h := ih (acc ++ [x]) (done ++ [(s, true)]) na (σ.set s xs) hnd' hD'
          (fun p hp => by
            rw [σ.set_ne xs (show p.1 ≠ s from fun h => hs_notin (List.mem_map.mpr ⟨p, hp, h⟩))]
            exact hag' p hp)
          hfl' hna
        rw [List.append_assoc, List.append_assoc] at h
        rw [← St.set_tails (hσ.trans hI) hs_notin]
        exact (Run.pull_cons (hD _ List.mem_cons_self) (hσ.trans hI)).bind h

theorem longestRow_none (fillv : Val) (I : Nat → List Val) :
    ∀ (l : List (Nat × Bool)) (acc : List Val) (done : List (Nat × Bool)) (na : Nat) (σ : St),
      (l.map Prod.fst).Nodup → (∀ p ∈ l, D p.1) → (∀ p ∈ l, σ.items p.1 = I p.1) →
      1 ≤ ended I l → na ≤ ended I l →
      Ends F D (Std.longestRow fillv l acc done na) σ (.ok none) [] := by
  intro l
  induction l with
  | nil => intro acc done na σ _ _ _ h1 _; exact absurd h1 (Nat.not_succ_le_zero _)
  | cons p rest ih =>
    intro acc done na σ hnd hD hag h1 hna
    obtain ⟨s, b⟩ := p
    obtain ⟨hs_notin, hnd'⟩ := List.nodup_cons.mp hnd
    have hσ : σ.items s = I s := hag (s, b) List.mem_cons_self
    have hD' : ∀ p ∈ rest, D p.1 := fun p hp => hD p (List.mem_cons_of_mem _ hp)
    have hag' : ∀ p ∈ rest, σ.items p.1 = I p.1 := fun p hp => hag p (List.mem_cons_of_mem _ hp)
    rw [ended_cons] at hna h1
    cases b with
    | false =>
      rw [Std.longestRow]
      exact ih (acc ++ [fillv]) (done ++ [(s, false)]) na σ hnd' hD' hag' h1 hna
    | true =>
      rw [Std.longestRow]
      cases hI : I s with
      | nil =>
        rw [hI] at hna
        refine (Run.pull_nil (hD _ List.mem_cons_self) (hσ.trans hI)).andThen ?_
        by_cases hz : na - 1 = 0
        · rw [if_pos hz]
          exact (Run.pure _ _).ends
        · rw [if_neg hz]
          have hna' : na - 1 ≤ ended I rest := Nat.sub_le_of_le_add hna
          exact ih (acc ++ [fillv]) (done ++ [(s, false)]) (na - 1) σ hnd' hD' hag'
            (Nat.le_trans (Nat.pos_of_ne_zero hz) hna') hna'
      | cons x xs =>
        rw [hI] at hna h1
        exact (Run.pull_cons (hD _ List.mem_cons_self) (hσ.trans hI)).andThen
          (ih (acc ++ [x]) (done ++ [(s, true)]) na (σ.set s xs) hnd' hD'
            (fun p hp => by
              rw [σ.set_ne xs (show p.1 ≠ s from fun h => hs_notin (List.mem_map.mpr ⟨p, hp, h⟩))]
              exact hag' p hp)
            h1 hna)

theorem zipLongestLoop_run (fillv : Val) (srcs : List Nat) (hnd : srcs.Nodup) (hD : ∀ s ∈ srcs, D s) :
    ∀ (n : Nat) (st : List (Nat × Bool)) (na fuel : Nat) (σ : St), σ.cons = .run 0 .exhaust →
      st.map Prod.fst = srcs → (∀ p ∈ st, p.2 = false → σ.items p.1 = []) → na = st.countP (fun p => p.2) →
      1 ≤ na → (∀ s ∈ srcs, (σ.items s).length ≤ n) → (∃ s ∈ srcs, (σ.items s).length = n) → n < fuel →
      Ends F D (Std.zipLongestLoop fillv st na fuel) σ (.ok ())
        ((ListSpec.rowsN fillv n (srcs.map σ.items)).map Val.tup) := by
  intro n
  induction n with
  | zero =>
    intro st na fuel σ _ hst _ hna hna1 hle _ hf
    obtain _ | fuel := fuel
    · exact absurd hf (Nat.not_lt_zero _)
    · have hmem : ∀ p ∈ st, p.1 ∈ srcs := fun p hp => hst ▸ List.mem_map.mpr ⟨p, hp, rfl⟩
      have hend := ended_all_empty σ.items st fun p hp =>
        List.length_eq_zero_iff.mp (Nat.le_zero.mp (hle p.1 (hmem p hp)))
      obtain ⟨_, h⟩ := longestRow_none (F := F) fillv σ.items st [] [] na σ (by rw [hst]; exact hnd)
        (fun p hp => hD _ (hmem p hp)) (fun _ _ => rfl) (by omega) (by omega)
      exact Run.ends (h.bind (Run.pure _ _))
  | succ n ih =>
    intro st na fuel σ hc hst hfl hna hna1 hle hex hf
    obtain _ | fuel := fuel
    · exact absurd hf (Nat.not_lt_zero _)
    · have hmem : ∀ p ∈ st, p.1 ∈ srcs := fun p hp => hst ▸ List.mem_map.mpr ⟨p, hp, rfl⟩
      -- a source that still has items keeps the row going and stays active
      obtain ⟨s0, hs0, hl0⟩ := hex
      have hI0 : σ.items s0 ≠ [] := by intro h; rw [h] at hl0; exact absurd hl0 (Nat.succ_ne_zero n).symm
      obtain ⟨p0, hp0, hp0s⟩ : ∃ p ∈ st, p.1 = s0 := by
        rw [← hst] at hs0
        obtain ⟨p, hp, h⟩ := List.mem_map.mp hs0
        exact ⟨p, hp, h⟩
      have hb0 : p0.2 = true := by
        cases hb : p0.2 with
        | true => rfl
        | false => exact absurd (hfl p0 hp0 hb) (by rw [hp0s]; exact hI0)
      have hpos : 1 ≤ (remark σ.items st).countP (fun p => p.2) := by
        apply List.countP_pos_iff.mpr
        refine ⟨(p0.1, p0.2 && !(σ.items p0.1).isEmpty), List.mem_map.mpr ⟨p0, hp0, rfl⟩, ?_⟩
        have : (σ.items p0.1).isEmpty = false := by
          rw [hp0s]; cases h : σ.items s0 with
          | nil => exact absurd h hI0
          | cons _ _ => rfl
        simp [hb0, this]
      have hsum := ended_add_remark σ.items st
      have hst' : (remark σ.items st).map Prod.fst = srcs := by
        rw [← hst]; simp [remark, List.map_map, Function.comp_def]
      have hcol : st.map (fun p => σ.items p.1) = srcs.map σ.items := by
        rw [← hst]; simp [List.map_map, Function.comp_def]
      have h := ih (remark σ.items st) (na - ended σ.items st) fuel (σ.tails srcs) hc hst'
        (fun p hp hb => by
          obtain ⟨p', hp', rfl⟩ := List.mem_map.mp hp
          rw [σ.tails_mem (hmem p' hp')]
          simp only at hb ⊢
          cases hb' : p'.2 with
          | false => rw [hfl p' hp' hb']; rfl
          | true =>
            rw [hb'] at hb
            cases hI : σ.items p'.1 with
            | nil => rfl
            | cons _ _ => rw [hI] at hb; simp at hb)
        (by omega) (by omega)
        (fun s hs => by have := hle s hs; rw [σ.tails_mem hs, List.length_tail]; omega)
        ⟨s0, hs0, by rw [σ.tails_mem hs0, List.length_tail]; omega⟩
        (Nat.lt_of_succ_lt_succ hf)
      have hrow := longestRow_some (F := F) fillv σ.items st [] [] na σ (by rw [hst]; exact hnd)
        (fun p hp => hD _ (hmem p hp)) (fun _ _ => rfl) hfl (by omega)
      rw [hst, hcol] at hrow
      rw [σ.map_tails] at h
      exact hrow.andThen (.yield h hc)

theorem zipLongest_run (fillv : Val) (srcs : List Nat) (hnd : srcs.Nodup) (hD : ∀ s ∈ srcs, D s)
    (fuel : Nat) (σ : St) (hc : σ.cons = .run 0 .exhaust) (hf : ListSpec.maxLen (srcs.map σ.items) < fuel) :
    Ends F D (Std.zipLongest fillv srcs fuel) σ (.ok ()) (ListSpec.zipLongest fillv (srcs.map σ.items)) := by
  by_cases hne : srcs = []
  · subst hne
    exact (Run.pure _ _).ends
  · obtain ⟨h1, l, hl, h2⟩ := maxLen_spec (ls := srcs.map σ.items) (by simpa using hne)
    obtain ⟨s, hs, rfl⟩ := List.mem_map.mp hl
    have hlen : 1 ≤ srcs.length := by
      cases srcs with
      | nil => exact absurd rfl hne
      | cons _ _ => simp
    have h := zipLongestLoop_run (F := F) fillv srcs hnd hD _ (srcs.map (·, true)) srcs.length fuel σ hc
      (by simp [List.map_map, Function.comp_def]) (by simp)
      (by simp [List.countP_map, Function.comp_def]) hlen
      (fun t ht => h1 _ (List.mem_map.mpr ⟨t, ht, rfl⟩)) ⟨s, hs, h2⟩ hf
    simpa [Std.zipLongest, hne, ListSpec.zipLongest] using h

end AsyncVerif.V1
