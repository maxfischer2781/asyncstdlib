import AsyncVerif.Proofs.Core
/-!
# Release lemmas (C04): what `closeSrc` / `closeAll` / scoping guarantee about the final world
-/
namespace AsyncVerif

/-- C04's predicate on one source: closed, or run to exhaustion (async generators also finish by
    failing). Only async iterators that can be closed are constrained. -/
def Released (src : Src) : Prop :=
  match src.kind with
  | .aobj => 0 < src.closes ∨ src.status = .exhausted
  | .agen => src.status = .closed ∨ src.status = .exhausted ∨ src.status = .failed
  | _ => True

theorem closeStep_released (x : Src) : Released (closeStep x) := by
  rcases x with ⟨k, sc, st, c⟩
  cases k
  case aobj => exact Or.inl (Nat.succ_pos c)
  case agen => cases st <;> simp [Released, closeStep]
  all_goals cases st <;> exact trivial

theorem closeSrc_srcs_other (s t : Nat) (w : World) (h : t ≠ s) :
    (closeSrc s w).2.srcs t = w.srcs t := by
  obtain ⟨r, e⟩ := closeSrc_eq s w
  rw [e]; exact w.setSrc_srcs_ne _ h

theorem closeSrc_releases (s : Nat) (w : World) : Released ((closeSrc s w).2.srcs s) := by
  obtain ⟨r, e⟩ := closeSrc_eq s w
  rw [e]; exact (w.setSrc_srcs_self s _).symm ▸ closeStep_released _

theorem closeSrc_preserves (s t : Nat) (w : World) (h : Released (w.srcs t)) :
    Released ((closeSrc s w).2.srcs t) := by
  by_cases hts : t = s
  · subst hts; exact closeSrc_releases t w
  · rw [closeSrc_srcs_other s t w hts]; exact h

theorem closeAll_cons_apply (s : Nat) (rest : List Nat) (w : World) :
    closeAll (s :: rest) w = closeAll rest (closeSrc s w).2 := by
  obtain ⟨r, e⟩ := closeSrc_eq s w
  rw [closeAll, bind_apply, e]

theorem closeAll_preserves (l : List Nat) (t : Nat) (w : World) (h : Released (w.srcs t)) :
    Released ((closeAll l w).2.srcs t) := by
  induction l generalizing w with
  | nil => exact h
  | cons s rest ih => rw [closeAll_cons_apply]; exact ih _ (closeSrc_preserves s t w h)

theorem closeAll_releases (l : List Nat) (w : World) : ∀ s ∈ l, Released ((closeAll l w).2.srcs s) := by
  induction l generalizing w with
  | nil => exact nofun
  | cons a rest ih =>
    intro s hs
    rw [closeAll_cons_apply]
    rcases List.mem_cons.mp hs with rfl | h
    · exact closeAll_preserves rest s _ (closeSrc_releases s w)
    · exact ih _ s h

theorem tryFinally_final {α : Type} (body : M α) (fin : M Unit) (hq : Quiet fin) (w : World)
    (h : (tryFinally body fin w).1 ≠ .error .outOfFuel) :
    (tryFinally body fin w).2 = (fin (body w).2).2 ∧ (body w).1 ≠ .error .outOfFuel := by
  rw [tryFinally_eq, (hq _).1] at h ⊢
  split at h
  · rename_i hf; exact absurd ((isFuelOut_iff _).mp hf) h
  · rename_i hf; rw [if_neg hf]; exact ⟨rfl, h⟩

theorem scopedIter_released {α : Type} (s : Nat) (body : M α) (w : World)
    (h : (scopedIter s body w).1 ≠ .error .outOfFuel) :
    Released ((scopedIter s body w).2.srcs s) := by
  obtain ⟨hw, _⟩ := tryFinally_final body (closeSrc s) (closeSrc_quiet s) w h
  unfold scopedIter
  rw [hw]; exact closeSrc_releases s _

theorem tryFinally_closeAll_released {α : Type} (srcs : List Nat) (body : M α) (w : World)
    (h : (tryFinally body (closeAll srcs) w).1 ≠ .error .outOfFuel) :
    ∀ s ∈ srcs, Released ((tryFinally body (closeAll srcs) w).2.srcs s) := by
  obtain ⟨hw, _⟩ := tryFinally_final body (closeAll srcs) (closeAll_quiet srcs) w h
  rw [hw]; exact closeAll_releases srcs _

end AsyncVerif
