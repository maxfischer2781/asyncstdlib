import AsyncVerif.Proofs.CachedPropertyMono
/-!
# cached_property — sequential histories refine the specification (`Spec`, `specStep`)

Closed form of a sequential await (`sched_start_*`, `drive_getter`, `afterRun`) and the simulation
`Sim` between quiescent machine states and specification states.
-/
namespace AsyncVerif.CachedProperty

theorem update_update {α : Type} (f : Nat → α) (a : Nat) (b c : α) :
    (fun x => if x = a then b else if x = a then c else f x) = fun x => if x = a then b else f x := by
  funext x; split <;> simp [*]

theorem setPc_setPc (s : State) (t : Nat) (a b : Pc) : setPc (setPc s t a) t b = setPc s t b := by
  simp only [setPc]
  congr 1
  funext t'
  split <;> rfl

theorem setPc_self (s : State) (t : Nat) (a : Pc) (h : s.pc t = a) : setPc s t a = s := by
  cases s
  simp only [setPc] at *
  congr 1
  funext t'
  split
  · rename_i e; rw [e, h]
  · rfl

theorem sched_done (cfg : Cfg) (s : State) (t : Nat) (res : Res) (h : s.pc t = .done res) :
    sched cfg s t = (s, .noop) := by
  simp [sched, schedFuel, schedN, micro, h]

theorem drive_done (cfg : Cfg) (t : Nat) (res : Res) : ∀ (n : Nat) (s : State), s.pc t = .done res →
    drive cfg s t n = s := by
  intro n
  induction n with
  | zero => intro s h; simp [drive, sched_done cfg s t res h]
  | succ n ih => intro s h; simp only [drive, sched_done cfg s t res h]; exact ih s h

/-- a task inside getter run r with k suspensions to go, scheduled k+1 times, completes the run -/
theorem drive_getter (cfg : Cfg) (t p r : Nat) : ∀ (k : Nat) (s : State), s.pc t = .getter p r k →
    drive cfg s t k = (complete cfg (setPc s t (.getter p r 0)) t p r).1 := by
  intro k
  induction k with
  | zero =>
    intro s h
    rw [setPc_self s t _ h]
    cases hok : cfg.ok r <;> simp [drive, sched, schedFuel, schedN, micro, h, complete, hok]
  | succ k ih =>
    intro s h
    have : sched cfg s t = (setPc s t (.getter p r k), .suspended r) := by
      simp [sched, schedFuel, schedN, micro, h]
    simp only [drive, this]
    rw [ih _ (by simp [setPc]), setPc_setPc]

theorem State.ext' {s s' : State} (h1 : ∀ i, s.slot i = s'.slot i) (h2 : s.nextP = s'.nextP)
    (h3 : ∀ p, s.phInst p = s'.phInst p) (h4 : ∀ p, s.lock p = s'.lock p) (h5 : s.nTasks = s'.nTasks)
    (h6 : ∀ t, s.pc t = s'.pc t) (h7 : ∀ t, s.tinst t = s'.tinst t) (h8 : ∀ t, s.thandle t = s'.thandle t)
    (h9 : s.nRuns = s'.nRuns) (h10 : ∀ r, s.run r = s'.run r) (h11 : ∀ i, s.dels i = s'.dels i) : s = s' := by
  cases s; cases s'
  simp only [State.mk.injEq]
  exact ⟨funext h1, h2, funext h3, funext h4, h5, funext h6, funext h7, funext h8, h9, funext h10, funext h11⟩

/-- task t takes q's lock (where there is a lock type) and starts getter run `s.nRuns` for q -/
def begun (cfg : Cfg) (s : State) (t q : Nat) : State :=
  startRunSt cfg { s with lock := if cfg.lock then (setLock s q (some t)).lock else s.lock } t q

theorem schedN_succ (cfg : Cfg) (n : Nat) (s : State) (t : Nat) :
    schedN cfg (n + 1) s t = match micro cfg s t with
      | (s1, some o) => (s1, o)
      | (s1, none) => schedN cfg n s1 t := rfl

theorem startRunSt_acquired (cfg : Cfg) (s : State) (t q : Nat) (x : Pc) :
    startRunSt cfg (setPc (if cfg.lock then setLock s q (some t) else s) t x) t q = begun cfg s t q := by
  unfold begun
  cases cfg.lock <;> simp only [setPc, if_true, if_false, Bool.false_eq_true] <;>
    (congr 1; funext t'; split <;> rfl)

/-- from the first line of `q._await_impl()` with the slot holding q and q's lock free: the getter
    run begins and reaches its first suspension or its end -/
theorem schedN_entered_self (cfg : Cfg) (s : State) (t q : Nat) (n : Nat)
    (hpc : s.pc t = .entered q) (hs : s.slot (s.phInst q) = some (.ph q)) (hl : s.lock q = none) :
    schedN cfg (n + 4) s t =
      match cfg.susp s.nRuns with
      | 0 => ((complete cfg (setPc (begun cfg s t q) t (.getter q s.nRuns 0)) t q s.nRuns).1,
              if cfg.ok s.nRuns then .ret s.nRuns else .raised s.nRuns)
      | k + 1 => (setPc (begun cfg s t q) t (.getter q s.nRuns k), .suspended s.nRuns) := by
  rw [schedN_succ, micro_entered_self cfg s t q hpc hs hl]
  simp only
  rw [schedN_succ, micro_holding_self cfg _ t q (by simp [setPc]) (by cases cfg.lock <;> exact hs), startRunSt_acquired]
  simp only
  have hpc' : (begun cfg s t q).pc t = .getter q s.nRuns (cfg.susp s.nRuns) := by simp [begun, setPc]
  rw [schedN_succ]
  cases hsu : cfg.susp s.nRuns with
  | zero =>
    rw [hsu] at hpc'
    rw [setPc_self _ t _ hpc', micro_getter0 cfg _ t q s.nRuns hpc']
    have := complete_snd cfg (begun cfg s t q) t q s.nRuns
    generalize complete cfg (begun cfg s t q) t q s.nRuns = c at this
    obtain ⟨c1, c2⟩ := c
    simp only at this ⊢
    rw [this]
  | succ k =>
    rw [hsu] at hpc'
    rw [micro_getter_succ cfg _ t q s.nRuns k hpc']

/-- the state after a sequential await that had to run the getter: run `s.nRuns` for placeholder q -/
def afterRun (cfg : Cfg) (s : State) (t q : Nat) : State :=
  (complete cfg (setPc (begun cfg s t q) t (.getter q s.nRuns 0)) t q s.nRuns).1

theorem resultOf_afterRun (cfg : Cfg) (s : State) (t q : Nat) :
    resultOf (afterRun cfg s t q) t = if cfg.ok s.nRuns then .ret s.nRuns else .raised s.nRuns := by
  cases hok : cfg.ok s.nRuns <;> simp [afterRun, complete, hok, resultOf, setPc]

/-- driving the await to completion from the first line of `q._await_impl()` (slot holds q, lock free) -/
theorem drive_from_sched (cfg : Cfg) (s sE : State) (t q : Nat) (hn : sE.nRuns = s.nRuns)
    (hsched : sched cfg s t = match cfg.susp s.nRuns with
      | 0 => (afterRun cfg sE t q, if cfg.ok s.nRuns then .ret s.nRuns else .raised s.nRuns)
      | k + 1 => (setPc (begun cfg sE t q) t (.getter q s.nRuns k), .suspended s.nRuns)) :
    drive cfg s t (cfg.susp s.nRuns) = afterRun cfg sE t q := by
  cases hsu : cfg.susp s.nRuns with
  | zero => simp only [hsu] at hsched; simp [drive, hsched]
  | succ k =>
    simp only [hsu] at hsched
    simp only [drive, hsched]
    rw [drive_getter cfg t q s.nRuns k _ (by simp [setPc]), setPc_setPc, afterRun, hn]

theorem sched_start_self (cfg : Cfg) (s : State) (t p : Nat) (hpc : s.pc t = .start (.ph p))
    (hs : s.slot (s.phInst p) = some (.ph p)) (hl : s.lock p = none) :
    sched cfg s t = match cfg.susp s.nRuns with
      | 0 => (afterRun cfg (setPc s t (.entered p)) t p, if cfg.ok s.nRuns then .ret s.nRuns else .raised s.nRuns)
      | k + 1 => (setPc (begun cfg (setPc s t (.entered p)) t p) t (.getter p s.nRuns k), .suspended s.nRuns) := by
  unfold sched schedFuel
  rw [schedN_succ, micro_start_ph cfg s t p hpc]
  simp only
  rw [schedN_entered_self cfg (setPc s t (.entered p)) t p 3 (by simp [setPc]) (by simpa [setPc] using hs)
    (by simpa [setPc] using hl)]
  rfl

theorem sched_start_other (cfg : Cfg) (s : State) (t p q : Nat) (hpc : s.pc t = .start (.ph p))
    (hs : s.slot (s.phInst p) = some (.ph q)) (hne : q ≠ p) (hq : s.phInst q = s.phInst p) (hl : s.lock q = none) :
    sched cfg s t = match cfg.susp s.nRuns with
      | 0 => (afterRun cfg (setPc s t (.entered q)) t q, if cfg.ok s.nRuns then .ret s.nRuns else .raised s.nRuns)
      | k + 1 => (setPc (begun cfg (setPc s t (.entered q)) t q) t (.getter q s.nRuns k), .suspended s.nRuns) := by
  unfold sched schedFuel
  rw [schedN_succ, micro_start_ph cfg s t p hpc]
  simp only
  rw [schedN_succ, micro_entered_other cfg (setPc s t (.entered p)) t p (by simp [setPc]) hs (by simpa using hne)]
  simp only [awaitStored]
  rw [setPc_setPc]
  rw [schedN_entered_self cfg (setPc s t (.entered q)) t q 2 (by simp [setPc]) (by simp only [setPc]; rw [hq]; exact hs)
    (by simpa [setPc] using hl)]
  rfl

theorem sched_start_none (cfg : Cfg) (s : State) (t p : Nat) (hpc : s.pc t = .start (.ph p))
    (hs : s.slot (s.phInst p) = none) (hp : p < s.nextP) :
    sched cfg s t = match cfg.susp s.nRuns with
      | 0 => (afterRun cfg (setPc (newPh s (s.phInst p)) t (.entered s.nextP)) t s.nextP,
              if cfg.ok s.nRuns then .ret s.nRuns else .raised s.nRuns)
      | k + 1 => (setPc (begun cfg (setPc (newPh s (s.phInst p)) t (.entered s.nextP)) t s.nextP) t
                  (.getter s.nextP s.nRuns k), .suspended s.nRuns) := by
  unfold sched schedFuel
  rw [schedN_succ, micro_start_ph cfg s t p hpc]
  simp only
  rw [schedN_succ, micro_entered_none cfg (setPc s t (.entered p)) t p (by simp [setPc]) hs hp]
  show schedN cfg 6 (setPc (setPc (newPh s (s.phInst p)) t (.entered p)) t (.entered s.nextP)) t = _
  rw [setPc_setPc]
  rw [schedN_entered_self cfg (setPc (newPh s (s.phInst p)) t (.entered s.nextP)) t s.nextP 2 (by simp [setPc])
    (by simp [setPc, newPh]) (by simp [setPc, newPh])]
  rfl

theorem sched_start_val (cfg : Cfg) (s : State) (t p v : Nat) (hpc : s.pc t = .start (.ph p))
    (hs : s.slot (s.phInst p) = some (.val v)) :
    sched cfg s t = (setPc s t (.done (.ok v)), .ret v) := by
  unfold sched schedFuel
  rw [schedN_succ, micro_start_ph cfg s t p hpc]
  simp only
  rw [schedN_succ, micro_entered_other cfg (setPc s t (.entered p)) t p (by simp [setPc]) hs (by simp)]
  simp only [awaitStored]
  rw [setPc_setPc]

theorem sched_start_handle_val (cfg : Cfg) (s : State) (t v : Nat) (hpc : s.pc t = .start (.val v)) :
    sched cfg s t = (setPc s t (.done (.ok v)), .ret v) := by
  simp [sched, schedFuel, schedN, micro, hpc]

def absSlot : Option Stored → Entry
  | none => .none
  | some (.ph _) => .touched
  | some (.val v) => .cached v

def absPc (s : State) : Pc → SHandle
  | .start (.val v) => .fixed v
  | .start (.ph p) => .late (s.phInst p)
  | _ => .used

/-- quiescent machine state ↔ specification state -/
structure Sim (cfg : Cfg) (s : State) (σ : Spec) : Prop where
  inv : Inv cfg s
  quiet : ∀ t, s.pc t = .unborn ∨ (∃ h, s.pc t = .start h) ∨ (∃ res, s.pc t = .done res)
  runs : σ.nRuns = s.nRuns
  tasks : σ.nTasks = s.nTasks
  cache : ∀ i, σ.cache i = absSlot (s.slot i)
  handle : ∀ t, σ.handle t = absPc s (s.pc t)

theorem Sim.free {cfg : Cfg} {s : State} {σ : Spec} (h : Sim cfg s σ) (p : Nat) : s.lock p = none := by
  cases hl : s.lock p with
  | none => rfl
  | some t =>
    exfalso
    rcases h.inv.lock_owner p t hl with hh | ⟨r, k, hh⟩ <;>
      rcases h.quiet t with h1 | ⟨x, h1⟩ | ⟨x, h1⟩ <;> rw [h1] at hh <;> cases hh

theorem absPc_frame {cfg : Cfg} {s : State} (h : Inv cfg s) (s' : State)
    (hph : ∀ p, p < s.nextP → s'.phInst p = s.phInst p) (t : Nat) : absPc s (s.pc t) = absPc s' (s.pc t) := by
  cases hpc : s.pc t with
  | start x =>
    cases x with
    | ph p => simp only [absPc]; rw [hph p (h.pc_start t p hpc).1]
    | val v => rfl
  | _ => rfl

theorem drive_inv (cfg : Cfg) (t : Nat) : ∀ (n : Nat) (s : State), Inv cfg s → Inv cfg (drive cfg s t n) := by
  intro n
  induction n with
  | zero => intro s h; exact schedN_inv cfg _ s t h
  | succ n ih => intro s h; exact ih _ (schedN_inv cfg _ s t h)

theorem drive_finished (cfg : Cfg) (s : State) (t : Nat) (res : Res) (n : Nat)
    (h : ((sched cfg s t).1).pc t = .done res) : drive cfg s t n = (sched cfg s t).1 := by
  cases n with
  | zero => rfl
  | succ n => exact drive_done cfg t res n _ h

theorem init_sim (cfg : Cfg) : Sim cfg State.init Spec.init := by
  refine ⟨init_inv cfg, ?_, rfl, rfl, ?_, ?_⟩ <;> intro x <;> simp [State.init, Spec.init, absSlot, absPc]

theorem afterRun_proj (cfg : Cfg) (s : State) (t q : Nat) :
    (afterRun cfg s t q).slot = (if cfg.ok s.nRuns then
        (fun j => if j = s.phInst q then some (.val s.nRuns) else s.slot j) else s.slot) ∧
    (∀ t', (afterRun cfg s t q).pc t' = if t' = t then
        .done (if cfg.ok s.nRuns then .ok s.nRuns else .failed s.nRuns) else s.pc t') ∧
    (afterRun cfg s t q).nRuns = s.nRuns + 1 ∧ (afterRun cfg s t q).phInst = s.phInst ∧
    (afterRun cfg s t q).nTasks = s.nTasks := by
  obtain ⟨lk, e⟩ := complete_fst cfg (setPc (begun cfg s t q) t (.getter q s.nRuns 0)) t q s.nRuns
  unfold afterRun; rw [e]
  refine ⟨rfl, fun t' => ?_, rfl, rfl, rfl⟩
  show (if t' = t then _ else if t' = t then _ else if t' = t then _ else s.pc t') = _
  split <;> simp [*]

theorem afterRun_run_inst (cfg : Cfg) (s : State) (t q : Nat) :
    ((afterRun cfg s t q).run s.nRuns).inst = s.phInst q :=
  ((complete_mono cfg _ t q s.nRuns).run_inst s.nRuns (Nat.lt_succ_self _)).trans (by simp [setPc, begun])

theorem sim_served (cfg : Cfg) (s : State) (σ : Spec) (t v : Nat) (h : Sim cfg s σ) {x : Stored}
    (hpc : s.pc t = .start x) (hs : sched cfg s t = (setPc s t (.done (.ok v)), .ret v)) :
    awaitNow cfg s t = (setPc s t (.done (.ok v)), .ret v) ∧ Sim cfg (setPc s t (.done (.ok v))) (σ.useTask t) := by
  have hd : drive cfg s t (cfg.susp s.nRuns) = setPc s t (.done (.ok v)) := by
    rw [drive_finished cfg s t (.ok v) _ (by rw [hs]; simp [setPc]), hs]
  have hinv : Inv cfg (setPc s t (.done (.ok v))) := by rw [← hd]; exact drive_inv cfg t _ s h.inv
  obtain ⟨h1, h2, h3, h4, h5, h6⟩ := h
  refine ⟨by simp only [awaitNow, hpc, hd, resultOf, setPc, if_true], hinv, ?_, h3, h4, h5, ?_⟩
  · intro t'; simp only [setPc]; grind
  · intro t'; simp only [setPc, Spec.useTask, absPc]; grind [absPc]

/-- `sE` is `s` with task `t` at the first line of `q._await_impl()`, `q` being the placeholder in the
    slot of instance `i` — the one that was there, or a new one if the slot was empty -/
structure Entered (s sE : State) (t i q : Nat) : Prop where
  pc : ∀ t', t' ≠ t → sE.pc t' = s.pc t'
  slot : ∀ j, j ≠ i → sE.slot j = s.slot j
  slot_self : sE.slot i = some (.ph q)
  ph_self : sE.phInst q = i
  ph : ∀ p', p' < s.nextP → sE.phInst p' = s.phInst p'
  nRuns : sE.nRuns = s.nRuns
  nTasks : sE.nTasks = s.nTasks

theorem Entered.same {s : State} {i q : Nat} (t : Nat) (hs : s.slot i = some (.ph q)) (hq : s.phInst q = i) :
    Entered s (setPc s t (.entered q)) t i q :=
  ⟨fun t' ht => by simp [setPc, ht], fun _ _ => rfl, hs, hq, fun _ _ => rfl, rfl, rfl⟩

theorem Entered.fresh {s : State} {i : Nat} (t : Nat) :
    Entered s (setPc (newPh s i) t (.entered s.nextP)) t i s.nextP :=
  ⟨fun t' ht => by simp [setPc, newPh, ht], fun j hj => by simp [setPc, newPh, hj], by simp [setPc, newPh],
    by simp [setPc, newPh], fun p' hp' => by simp [setPc, newPh, Nat.ne_of_lt hp'], rfl, rfl⟩

theorem sim_run (cfg : Cfg) (s sE : State) (σ : Spec) (t q i : Nat) (h : Sim cfg s σ)
    (hx : ∃ x, s.pc t = .start x) (hlate : σ.handle t = .late i)
    (hnv : ∀ v, s.slot i ≠ some (.val v)) (e : Entered s sE t i q)
    (hinv : Inv cfg (afterRun cfg sE t q)) :
    Sim cfg (afterRun cfg sE t q) ((σ.useTask t).await cfg i).1 ∧
    ((σ.useTask t).await cfg i).2 = (if cfg.ok s.nRuns then .ret s.nRuns else .raised s.nRuns) := by
  obtain ⟨h1, h2, h3, h4, h5, h6⟩ := h
  obtain ⟨e_pc, e_slot, e_sloti, e_phq, e_ph, e_nr, e_nt⟩ := e
  obtain ⟨p1, p2, p3, p4, p5⟩ := afterRun_proj cfg sE t q
  have hc : ∀ v, (σ.useTask t).cache i ≠ .cached v := by
    intro v; simp only [Spec.useTask]; rw [h5 i]
    cases hsl : s.slot i with
    | none => simp [absSlot]
    | some x => cases x with
      | ph _ => simp [absSlot]
      | val w => exact absurd hsl (hnv w)
  cases hok : cfg.ok s.nRuns <;>
  · have hok' : cfg.ok sE.nRuns = cfg.ok s.nRuns := by rw [e_nr]
    simp only [hok, hok', e_nr] at p1 p2 ⊢
    unfold Spec.await
    split
    · rename_i v hv; exact absurd hv (hc v)
    · simp only [Spec.useTask, h3, hok, Bool.false_eq_true, if_false, if_true, and_true]
      refine ⟨hinv, ?_, ?_, ?_, ?_, ?_⟩
      · intro t'; rw [p2 t']; grind
      · rw [p3, e_nr]
      · rw [p5, e_nt]; exact h4
      · intro j; rw [p1]; simp only [Spec.setCache]; grind [absSlot]
      · intro t'
        rw [p2 t']
        by_cases ht : t' = t
        · simp [ht, absPc, Spec.setCache]
        · simp only [ht, if_false, Spec.setCache]
          rw [e_pc t' ht, h6 t']
          exact absPc_frame h1 _ (fun p hp => by rw [p4, e_ph p hp]) t'

/-- the run case, once the first `sched` has been computed -/
theorem awaitNow_run (cfg : Cfg) (s sE : State) (σ : Spec) (t p q : Nat) (h : Sim cfg s σ)
    (hpc : s.pc t = .start (.ph p)) (hnv : ∀ v, s.slot (s.phInst p) ≠ some (.val v))
    (hsched : sched cfg s t = match cfg.susp s.nRuns with
      | 0 => (afterRun cfg sE t q, if cfg.ok s.nRuns then .ret s.nRuns else .raised s.nRuns)
      | k + 1 => (setPc (begun cfg sE t q) t (.getter q s.nRuns k), .suspended s.nRuns))
    (e : Entered s sE t (s.phInst p) q) :
    Sim cfg (awaitNow cfg s t).1 (specStep cfg σ (.awaitTaken t)).1 ∧
    (awaitNow cfg s t).2 = (specStep cfg σ (.awaitTaken t)).2 := by
  have hd := drive_from_sched cfg s sE t q e.nRuns hsched
  have hlate : σ.handle t = .late (s.phInst p) := by rw [h.handle t, hpc]; rfl
  have hinv : Inv cfg (afterRun cfg sE t q) := by rw [← hd]; exact drive_inv cfg t _ s h.inv
  have := sim_run cfg s sE σ t q (s.phInst p) h ⟨_, hpc⟩ hlate hnv e hinv
  simp only [awaitNow, hpc, hd, specStep, hlate, resultOf_afterRun, e.nRuns]
  exact ⟨this.1, this.2.symm⟩

theorem awaitNow_sim (cfg : Cfg) (s : State) (σ : Spec) (t : Nat) (h : Sim cfg s σ) :
    Sim cfg (awaitNow cfg s t).1 (specStep cfg σ (.awaitTaken t)).1 ∧
    (awaitNow cfg s t).2 = (specStep cfg σ (.awaitTaken t)).2 := by
  have hh := h.handle t
  cases hpc : s.pc t with
  | start x =>
    cases x with
    | val v =>
      obtain ⟨e, hsim⟩ := sim_served cfg s σ t v h hpc (sched_start_handle_val cfg s t v hpc)
      rw [hpc] at hh
      rw [e]; simp only [specStep, hh, absPc]
      exact ⟨hsim, trivial⟩
    | ph p =>
      rw [hpc] at hh
      cases hsl : s.slot (s.phInst p) with
      | none =>
        exact awaitNow_run cfg s _ σ t p s.nextP h hpc (by intro v; rw [hsl]; simp)
          (sched_start_none cfg s t p hpc hsl (h.inv.pc_start t p hpc).1) (.fresh t)
      | some x =>
        cases x with
        | val v =>
          obtain ⟨e, hsim⟩ := sim_served cfg s σ t v h hpc (sched_start_val cfg s t p v hpc hsl)
          have hc : σ.cache (s.phInst p) = .cached v := by rw [h.cache, hsl]; rfl
          rw [e]; simp only [specStep, hh, absPc, Spec.await, Spec.useTask, hc]
          exact ⟨hsim, trivial⟩
        | ph q =>
          have hq := (h.inv.slot_ph _ q hsl).2
          by_cases hqp : q = p
          · subst hqp
            exact awaitNow_run cfg s _ σ t q q h hpc (by intro v; rw [hsl]; simp)
              (sched_start_self cfg s t q hpc hsl (h.free q)) (.same t hsl hq)
          · exact awaitNow_run cfg s _ σ t p q h hpc (by intro v; rw [hsl]; simp)
              (sched_start_other cfg s t p q hpc hsl hqp hq (h.free q)) (.same t hsl hq)
  | _ => rw [hpc] at hh; simp only [awaitNow, hpc, specStep, hh, absPc]; exact ⟨h, trivial⟩

theorem spawn_sim (cfg : Cfg) (s : State) (σ : Spec) (i : Nat) (h : Sim cfg s σ) :
    Sim cfg (step cfg s (.spawn i)).1 (specStep cfg σ (.take i)).1 := by
  have hinv := step_inv cfg s (.spawn i) h.inv
  obtain ⟨h1, h2, h3, h4, h5, h6⟩ := h
  have hc := h5 i
  cases hsl : s.slot i with
  | none =>
    rw [hsl] at hc
    simp only [step, access, hsl, specStep, hc, absSlot] at hinv ⊢
    refine ⟨hinv, ?_, h3, ?_, ?_, ?_⟩
    · intro t; simp only [addTask, newPh]; grind
    · simp [addTask, newPh, Spec.newTask, Spec.setCache, h4]
    · intro j; simp only [addTask, newPh, Spec.newTask, Spec.setCache]; grind [absSlot]
    · intro t
      simp only [addTask, newPh, Spec.newTask, Spec.setCache, h4]
      by_cases ht : t = s.nTasks
      · simp [ht, absPc]
      · simp only [ht, if_false]; rw [h6 t]
        exact absPc_frame h1 _ (fun p hp => by simp [addTask, newPh, Nat.ne_of_lt hp]) t
  | some x =>
    cases x with
    | ph q =>
      rw [hsl] at hc
      have hq := (h1.slot_ph i q hsl).2
      simp only [step, access, hsl, specStep, hc, absSlot] at hinv ⊢
      refine ⟨hinv, ?_, h3, ?_, ?_, ?_⟩
      · intro t; simp only [addTask]; grind
      · simp [addTask, Spec.newTask, Spec.setCache, h4]
      · intro j; simp only [addTask, Spec.newTask, Spec.setCache]; grind [absSlot]
      · intro t
        simp only [addTask, Spec.newTask, Spec.setCache, h4]
        by_cases ht : t = s.nTasks
        · simp [ht, absPc, hq]
        · simp only [ht, if_false]; rw [h6 t]
          exact absPc_frame h1 _ (fun _ _ => rfl) t
    | val v =>
      rw [hsl] at hc
      simp only [step, access, hsl, specStep, hc, absSlot] at hinv ⊢
      refine ⟨hinv, ?_, h3, ?_, ?_, ?_⟩
      · intro t; simp only [addTask]; grind
      · simp [addTask, Spec.newTask, h4]
      · intro j; simp only [addTask, Spec.newTask]; exact h5 j
      · intro t
        simp only [addTask, Spec.newTask, h4]
        by_cases ht : t = s.nTasks
        · simp [ht, absPc]
        · simp only [ht, if_false]; rw [h6 t]
          exact absPc_frame h1 _ (fun _ _ => rfl) t

theorem del_sim (cfg : Cfg) (s : State) (σ : Spec) (i : Nat) (h : Sim cfg s σ) :
    Sim cfg (seqStep cfg s (.del i)).1 (specStep cfg σ (.del i)).1 ∧
    (seqStep cfg s (.del i)).2 = (specStep cfg σ (.del i)).2 := by
  have hinv := step_inv cfg s (.del i) h.inv
  obtain ⟨h1, h2, h3, h4, h5, h6⟩ := h
  have hc := h5 i
  cases hsl : s.slot i with
  | none =>
    rw [hsl] at hc
    simp only [seqStep, step, hsl, specStep, hc, absSlot]
    exact ⟨⟨h1, h2, h3, h4, h5, h6⟩, trivial⟩
  | some x =>
    rw [hsl] at hc
    simp only [step, hsl] at hinv
    have hne : σ.cache i ≠ .none := by rw [hc]; cases x <;> simp [absSlot]
    simp only [seqStep, step, hsl, specStep]
    refine ⟨⟨hinv, h2, h3, h4, ?_, ?_⟩, trivial⟩
    · intro j; simp only [delSlot, Spec.setCache]; grind [absSlot]
    · intro t; simp only [delSlot, Spec.setCache]; rw [h6 t]
      exact absPc_frame h1 _ (fun _ _ => rfl) t

theorem Spec.ext' {σ σ' : Spec} (h1 : ∀ i, σ.cache i = σ'.cache i) (h2 : σ.nRuns = σ'.nRuns)
    (h3 : σ.nTasks = σ'.nTasks) (h4 : ∀ t, σ.handle t = σ'.handle t) : σ = σ' := by
  cases σ; cases σ'
  simp only [Spec.mk.injEq]
  exact ⟨funext h1, h2, h3, funext h4⟩

/-- in the specification `await instance.attr` is "take the attribute, then await what was taken" -/
theorem spec_await_eq (cfg : Cfg) (σ : Spec) (i : Nat) :
    specStep cfg σ (.await i) = specStep cfg (specStep cfg σ (.take i)).1 (.awaitTaken σ.nTasks) := by
  -- `take` writes the cache entry of `i` and the handle of the new task, `awaitTaken` writes both again
  cases hc : σ.cache i <;> cases hok : cfg.ok σ.nRuns <;>
    simp [specStep, Spec.await, hc, hok, Spec.newTask, Spec.useTask, Spec.setCache, update_update] <;>
    exact (update_update σ.handle σ.nTasks _ _).symm

theorem seqStep_sim (cfg : Cfg) (s : State) (σ : Spec) (op : SOp) (h : Sim cfg s σ) :
    Sim cfg (seqStep cfg s op).1 (specStep cfg σ op).1 ∧ (seqStep cfg s op).2 = (specStep cfg σ op).2 := by
  cases op with
  | await i =>
    rw [spec_await_eq, h.tasks]
    exact awaitNow_sim cfg _ _ s.nTasks (spawn_sim cfg s σ i h)
  | take i =>
    refine ⟨spawn_sim cfg s σ i h, ?_⟩
    simp only [seqStep, specStep]; split <;> rfl
  | awaitTaken t => exact awaitNow_sim cfg s σ t h
  | del i => exact del_sim cfg s σ i h

theorem seq_refines (cfg : Cfg) (ops : List SOp) : ∀ (s : State) (σ : Spec), Sim cfg s σ →
    seqOuts cfg s ops = specOuts cfg σ ops := by
  induction ops with
  | nil => intro s σ _; rfl
  | cons op ops ih =>
    intro s σ h
    obtain ⟨h1, h2⟩ := seqStep_sim cfg s σ op h
    simp only [seqOuts, specOuts, h2, ih _ _ h1]

end AsyncVerif.CachedProperty
