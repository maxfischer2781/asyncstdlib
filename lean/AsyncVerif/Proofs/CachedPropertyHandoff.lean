import AsyncVerif.Machines.CachedPropertyHandoff
import AsyncVerif.Proofs.CachedPropertyMono
/-!
# cached_property under a hand-off lock — invariant of reachable states and helper lemmas
(used by Properties/C12Handoff.lean)

The base component of the hand-off machine moves by steps of the plain machine (or not at all), so
the plain invariant `Inv` is inherited; on top of it: tasks inside `__aexit__` sit at a finished or
`entered` continuation, the last returned run's value is in the slot, and (with a lock) the number
of getter starts since the last `del` is bounded by the number of failures since then plus one.
Then: `hexec_plain` (no release suspensions: the plain machine), `hstep_not_stuck`, and `hexec_proj`
(without `del` and cancellation: the plain machine on the schedule with the steps inside `__aexit__`
erased).
-/
namespace AsyncVerif.CachedPropertyHandoff
open AsyncVerif.CachedProperty

/-- a plain step that neither starts nor ends a getter run and deletes nothing -/
structure Quiet (b b' : State) : Prop where
  slot : ∀ i, b'.slot i = b.slot i ∨ (b.slot i = none ∧ b'.slot i = some (.ph b.nextP))
  getter : ∀ t p r k, b.pc t = .getter p r k → ∃ k', b'.pc t = .getter p r k'
  dels : b'.dels = b.dels
  nruns : b'.nRuns = b.nRuns
  run : b'.run = b.run

theorem Quiet.refl (b : State) : Quiet b b :=
  ⟨fun _ => .inl rfl, fun _ _ _ k h => ⟨k, h⟩, rfl, rfl, rfl⟩

theorem access_quiet (s : State) (i : Nat) : Quiet s (access s i).1 := by
  rcases access_cases s i with ⟨x, _, he⟩ | ⟨hn, he⟩ <;> rw [he]
  · exact Quiet.refl s
  · refine ⟨fun j => ?_, fun _ _ _ k h => ⟨k, h⟩, rfl, rfl, rfl⟩
    by_cases e : j = i
    · exact .inr ⟨e ▸ hn, by simp [newPh, e]⟩
    · exact .inl (by simp [newPh, e])

theorem Quiet.move {b b1 : State} (h : Quiet b b1) {t : Nat} {x : Pc} (lk : Nat → Option Nat)
    (hx : ∀ p r k, b.pc t = .getter p r k → ∃ k', x = .getter p r k') :
    Quiet b (setPc { b1 with lock := lk } t x) :=
  { h with
    getter := fun t' p r k hk => by
      by_cases e : t' = t
      · obtain ⟨k', rfl⟩ := hx p r k (e ▸ hk)
        exact ⟨k', by simp [setPc, e]⟩
      · simpa [setPc, e] using h.getter t' p r k hk }

/-- every micro-step except "a getter run starts" and "the getter run ends" is quiet -/
theorem micro_quiet (cfg : Cfg) (s : State) (t : Nat)
    (h1 : ∀ p, s.pc t = .holding p → (instanceValue s p).2 ≠ .ph p)
    (h2 : ∀ p r, s.pc t ≠ .getter p r 0) : Quiet s (micro cfg s t).1 :=
  micro_ind cfg s t (Quiet.refl s) (fun p _ => access_quiet s _) (fun _ lk _ h hx => h.move lk hx)
    (fun p hp he _ => absurd he (h1 p hp)) (fun p r hp => absurd hp (h2 p r))

theorem instanceValue_self_slot {s : State} {p : Nat} (hp : p < s.nextP) (he : (instanceValue s p).2 = .ph p) :
    s.slot (s.phInst p) = some (.ph p) := by
  unfold instanceValue at he
  rcases access_cases s (s.phInst p) with ⟨x, hx, e⟩ | ⟨hn, e⟩ <;> rw [e] at he
  · rw [hx, show x = .ph p from he]
  · simp only [Stored.ph.injEq] at he; omega

theorem complete_runs (cfg : Cfg) (s : State) (t p r : Nat) :
    (complete cfg s t p r).1.dels = s.dels ∧ (complete cfg s t p r).1.nRuns = s.nRuns ∧
    (complete cfg s t p r).1.run =
      fun r' => if r' = r then { s.run r with st := if cfg.ok r then .returned else .raised } else s.run r' := by
  obtain ⟨lk, e⟩ := complete_fst cfg s t p r
  rw [e]; exact ⟨rfl, rfl, rfl⟩

theorem complete_slot_ok (cfg : Cfg) (s : State) (t p r : Nat) (hok : cfg.ok r = true) :
    (complete cfg s t p r).1.slot = fun i' => if i' = s.phInst p then some (.val r) else s.slot i' := by
  obtain ⟨lk, e⟩ := complete_fst cfg s t p r
  rw [e]; exact if_pos hok

theorem complete_slot_fail (cfg : Cfg) (s : State) (t p r : Nat) (hok : cfg.ok r = false) :
    (complete cfg s t p r).1.slot = s.slot := by
  obtain ⟨lk, e⟩ := complete_fst cfg s t p r
  rw [e]; exact if_neg (by simp [hok])

theorem complete_pc (cfg : Cfg) (s : State) (t p r : Nat) :
    (complete cfg s t p r).1.pc = fun t' => if t' = t then .done (if cfg.ok r then .ok r else .failed r) else s.pc t' := by
  obtain ⟨lk, e⟩ := complete_fst cfg s t p r
  rw [e]

/-- with a lock: starts since the last `del` ≤ failures since the last `del` + 1, and no start is
    "in credit" while the slot is empty or holds a placeholder for which no getter is running -/
structure Once (b : State) (st fl : Nat → Nat) : Prop where
  le : ∀ i, st i ≤ fl i + 1
  none : ∀ i, b.slot i = none → st i ≤ fl i
  ph : ∀ i p, b.slot i = some (.ph p) → (∀ t r k, b.pc t ≠ .getter p r k) → st i ≤ fl i

/-- the last run that returned since the last `del` has its value in the slot -/
def LastOk (b : State) (lo : Nat → Option Nat) : Prop := ∀ i r, lo i = some r → b.slot i = some (.val r)

theorem once_quiet {b b' : State} {st fl : Nat → Nat} (h : Once b st fl) (q : Quiet b b') : Once b' st fl := by
  obtain ⟨a1, a2, a3⟩ := h
  obtain ⟨q1, q2, q3⟩ := q
  constructor
  · exact a1
  · intro i hi; rcases q1 i with e | ⟨e, e'⟩
    · exact a2 i (by rw [← e]; exact hi)
    · rw [e'] at hi; cases hi
  · intro i p hi hno; rcases q1 i with e | ⟨e, e'⟩
    · refine a3 i p (by rw [← e]; exact hi) ?_
      intro t r k hk; obtain ⟨k', hk'⟩ := q2 t p r k hk; exact hno t r k' hk'
    · exact a2 i e

theorem lastOk_quiet {b b' : State} {lo : Nat → Option Nat} (h : LastOk b lo) (q : Quiet b b') : LastOk b' lo := by
  intro i r hr
  have := h i r hr
  rcases q.slot i with e | ⟨e, _⟩
  · rw [e]; exact this
  · rw [e] at this; cases this

theorem once_start {b b' : State} {st fl : Nat → Nat} (t p r0 k0 : Nat) (h : Once b st fl)
    (hsl : b.slot (b.phInst p) = some (.ph p)) (hno : ∀ t' r k, b.pc t' ≠ .getter p r k)
    (ht : ∀ p' r k, b.pc t ≠ .getter p' r k)
    (hs : b'.slot = b.slot) (hp : b'.pc = fun t' => if t' = t then .getter p r0 k0 else b.pc t') :
    Once b' (bump st (b.phInst p)) fl := by
  obtain ⟨a1, a2, a3⟩ := h
  constructor
  · intro i; simp only [bump]; split
    · rename_i e; subst e
      have := a3 _ p hsl hno; omega
    · exact a1 i
  · intro i hi; rw [hs] at hi
    have hne : i ≠ b.phInst p := by intro e; subst e; rw [hsl] at hi; cases hi
    simp only [bump, hne, if_false]; exact a2 i hi
  · intro i p1 hi hno'
    rw [hs] at hi
    by_cases e : i = b.phInst p
    · subst e; rw [hsl] at hi; cases hi
      exact absurd (by rw [hp]; simp) (hno' t r0 k0)
    · simp only [bump, e, if_false]
      refine a3 i p1 hi ?_
      intro t' r k hk
      have hne : t' ≠ t := by intro e'; subst e'; exact ht _ _ _ hk
      exact hno' t' r k (by rw [hp]; simp only [hne, if_false]; exact hk)

theorem once_ok {b b' : State} {st fl : Nat → Nat} (t p r : Nat) (x : Res) (h : Once b st fl)
    (hpc : b.pc t = .getter p r 0)
    (hph : ∀ i p, b.slot i = some (.ph p) → b.phInst p = i)
    (hs : b'.slot = fun i' => if i' = b.phInst p then some (.val r) else b.slot i')
    (hp : b'.pc = fun t' => if t' = t then .done x else b.pc t') : Once b' st fl := by
  obtain ⟨a1, a2, a3⟩ := h
  constructor
  · exact a1
  · intro i hi; rw [hs] at hi; simp only at hi
    split at hi
    · cases hi
    · exact a2 i hi
  · intro i p1 hi hno'
    rw [hs] at hi; simp only at hi
    split at hi
    · cases hi
    · rename_i e
      have hpp : p1 ≠ p := by intro e'; subst e'; exact e (hph i _ hi).symm
      refine a3 i p1 hi ?_
      intro t' r' k hk
      have hne : t' ≠ t := by intro e'; subst e'; rw [hpc] at hk; cases hk; exact hpp rfl
      exact hno' t' r' k (by rw [hp]; simp only [hne, if_false]; exact hk)

theorem once_fail {b b' : State} {st fl : Nat → Nat} (t p r k : Nat) (x : Res) (h : Once b st fl)
    (hpc : b.pc t = .getter p r k)
    (hph : ∀ i p, b.slot i = some (.ph p) → b.phInst p = i)
    (hs : b'.slot = b.slot)
    (hp : b'.pc = fun t' => if t' = t then .done x else b.pc t') : Once b' st (bump fl (b.phInst p)) := by
  obtain ⟨a1, a2, a3⟩ := h
  constructor
  · intro i; have := a1 i; simp only [bump]; split
    · rename_i e; subst e; omega
    · omega
  · intro i hi; rw [hs] at hi; have := a2 i hi; simp only [bump]; split
    · rename_i e; subst e; omega
    · omega
  · intro i p1 hi hno'
    rw [hs] at hi
    by_cases e : i = b.phInst p
    · subst e; have := a1 (b.phInst p); simp only [bump, if_true]; omega
    · have hpp : p1 ≠ p := by intro e'; subst e'; exact e (hph i _ hi).symm
      simp only [bump, e, if_false]
      refine a3 i p1 hi ?_
      intro t' r' k' hk
      have hne : t' ≠ t := by intro e'; subst e'; rw [hpc] at hk; cases hk; exact hpp rfl
      exact hno' t' r' k' (by rw [hp]; simp only [hne, if_false]; exact hk)

theorem once_del {b : State} {st fl : Nat → Nat} (i : Nat) (h : Once b st fl) :
    Once (delSlot b i) (setAt st i 0) (setAt fl i 0) := by
  obtain ⟨a1, a2, a3⟩ := h
  constructor <;> simp only [delSlot, setAt] <;> grind

theorem lastOk_del {b : State} {lo : Nat → Option Nat} (i : Nat) (h : LastOk b lo) :
    LastOk (delSlot b i) (setAt lo i none) := by
  intro j r; have := h j r; simp only [delSlot, setAt]; grind

theorem lastOk_ok {b b' : State} {lo : Nat → Option Nat} (j r : Nat) (h : LastOk b lo)
    (hs : b'.slot = fun i' => if i' = j then some (.val r) else b.slot i') : LastOk b' (setAt lo j (some r)) := by
  intro i r'; have := h i r'; simp only [hs, setAt]; grind

theorem lastOk_same {b b' : State} {lo : Nat → Option Nat} (h : LastOk b lo) (hs : b'.slot = b.slot) : LastOk b' lo := by
  intro i r hr; rw [hs]; exact h i r hr

/-- number of getter runs among the first n that satisfy P -/
def countRuns (b : State) (P : Run → Bool) : Nat → Nat
  | 0 => 0
  | n + 1 => countRuns b P n + (if P (b.run n) then 1 else 0)

/-- the run was called with instance i -/
def onInst (i : Nat) (r : Run) : Bool := decide (r.inst = i)

/-- the run was called with instance i and raised or was cancelled -/
def failedOn (i : Nat) (r : Run) : Bool := decide (r.inst = i) && (decide (r.st = .raised) || decide (r.st = .cancelled))

theorem countRuns_congr (b b' : State) (P : Run → Bool) (n : Nat) (h : ∀ r, r < n → P (b'.run r) = P (b.run r)) :
    countRuns b' P n = countRuns b P n := by
  induction n with
  | zero => rfl
  | succ n ih =>
    simp only [countRuns]
    rw [ih (fun r hr => h r (by omega)), h n (by omega)]

theorem countRuns_flip (b b' : State) (P : Run → Bool) (n r : Nat) (hr : r < n)
    (h : ∀ r', r' ≠ r → r' < n → P (b'.run r') = P (b.run r')) (h0 : P (b.run r) = false) (h1 : P (b'.run r) = true) :
    countRuns b' P n = countRuns b P n + 1 := by
  induction n with
  | zero => omega
  | succ n ih =>
    simp only [countRuns]
    by_cases e : r = n
    · subst e
      rw [countRuns_congr b b' P r (fun r' hr' => h r' (by omega) (by omega)), h0, h1]; simp
    · rw [ih (by omega) (fun r' hne hr' => h r' hne (by omega)), h n (fun e' => e e'.symm) (by omega)]; omega

/-- on an instance whose attribute was never deleted the ghost counters count the run records -/
def Counts (b : State) (st fl : Nat → Nat) : Prop :=
  ∀ i, b.dels i = 0 → st i = countRuns b (onInst i) b.nRuns ∧ fl i = countRuns b (failedOn i) b.nRuns

theorem counts_quiet {b b' : State} {st fl : Nat → Nat} (h : Counts b st fl) (q : Quiet b b') : Counts b' st fl := by
  intro i hd
  rw [q.dels] at hd
  obtain ⟨e1, e2⟩ := h i hd
  rw [q.nruns, countRuns_congr b b' _ _ (fun r _ => by rw [q.run]), countRuns_congr b b' _ _ (fun r _ => by rw [q.run])]
  exact ⟨e1, e2⟩

theorem counts_start {b b' : State} {st fl : Nat → Nat} (j p t : Nat) (h : Counts b st fl)
    (hd : b'.dels = b.dels) (hn : b'.nRuns = b.nRuns + 1)
    (hr : b'.run = fun r' => if r' = b.nRuns then ⟨j, p, t, .running⟩ else b.run r') : Counts b' (bump st j) fl := by
  intro i hd0
  rw [hd] at hd0
  obtain ⟨e1, e2⟩ := h i hd0
  have hc : ∀ P, countRuns b' P b.nRuns = countRuns b P b.nRuns := fun P =>
    countRuns_congr b b' P _ (fun r hlt => by rw [hr]; simp only; rw [if_neg (by omega)])
  have hnew : b'.run b.nRuns = ⟨j, p, t, .running⟩ := by rw [hr]; simp
  rw [hn]; simp only [countRuns, hc, hnew, onInst, failedOn, bump]
  refine ⟨?_, by simpa using e2⟩
  by_cases e : i = j
  · subst e; simp [e1]
  · have : ¬ j = i := fun e' => e e'.symm
    simp [e, this, e1]

theorem counts_returned {b b' : State} {st fl : Nat → Nat} (r : Nat) (h : Counts b st fl)
    (hd : b'.dels = b.dels) (hn : b'.nRuns = b.nRuns)
    (hr : b'.run = fun r' => if r' = r then { b.run r with st := .returned } else b.run r')
    (hrun : (b.run r).st = .running) : Counts b' st fl := by
  intro i hd0
  rw [hd] at hd0
  obtain ⟨e1, e2⟩ := h i hd0
  rw [hn, countRuns_congr b b' (onInst i), countRuns_congr b b' (failedOn i)]
  · exact ⟨e1, e2⟩
  · intro r' _; rw [hr]; simp only; split
    · rename_i e; subst e; simp [failedOn, hrun]
    · rfl
  · intro r' _; rw [hr]; simp only; split
    · rename_i e; subst e; simp [onInst]
    · rfl

theorem counts_failed {b b' : State} {st fl : Nat → Nat} (r j : Nat) (x : RunSt) (h : Counts b st fl)
    (hd : b'.dels = b.dels) (hn : b'.nRuns = b.nRuns)
    (hr : b'.run = fun r' => if r' = r then { b.run r with st := x } else b.run r')
    (hx : x = .raised ∨ x = .cancelled) (hlt : r < b.nRuns)
    (hrun : (b.run r).st = .running) (hj : (b.run r).inst = j) : Counts b' st (bump fl j) := by
  intro i hd0
  rw [hd] at hd0
  obtain ⟨e1, e2⟩ := h i hd0
  have hother : ∀ r', r' ≠ r → b'.run r' = b.run r' := by intro r' hne; rw [hr]; simp [hne]
  have hself : b'.run r = { b.run r with st := x } := by rw [hr]; simp
  rw [hn, countRuns_congr b b' (onInst i)]
  · refine ⟨e1, ?_⟩
    by_cases e : i = j
    · subst e
      rw [countRuns_flip b b' (failedOn i) _ r hlt (fun r' hne _ => by rw [hother r' hne])
        (by simp [failedOn, hrun]) (by rw [hself]; rcases hx with hx | hx <;> simp [failedOn, hj, hx])]
      simp [bump, e2]
    · rw [countRuns_congr b b' (failedOn i)]
      · simp [bump, e, e2]
      · intro r' _
        by_cases e' : r' = r
        · subst e'; rw [hself]
          have : ¬ j = i := fun e'' => e e''.symm
          simp [failedOn, hj, this]
        · rw [hother r' e']
  · intro r' _
    by_cases e' : r' = r
    · subst e'; rw [hself]; simp [onInst]
    · rw [hother r' e']

theorem counts_del {b : State} {st fl : Nat → Nat} (i : Nat) (h : Counts b st fl) :
    Counts (delSlot b i) (setAt st i 0) (setAt fl i 0) := by
  intro j hd
  simp only [delSlot] at hd
  by_cases e : j = i
  · simp [e] at hd
  · simp only [e, if_false] at hd
    obtain ⟨e1, e2⟩ := h j hd
    simp only [setAt, e, if_false]
    rw [countRuns_congr b (delSlot b i) _ _ (fun _ _ => rfl), countRuns_congr b (delSlot b i) _ _ (fun _ _ => rfl)]
    exact ⟨e1, e2⟩

theorem hmicro_unl_succ (hc : HCfg) (s : HState) (t k : Nat) (st : Option (Nat × Nat))
    (hu : s.unl t = some ⟨k + 1, st⟩) : hmicro hc s t = (setUnl s t (some ⟨k, st⟩), some .handoff) := by
  unfold hmicro; rw [hu]

theorem hmicro_unl_zero (hc : HCfg) (s : HState) (t : Nat) (st : Option (Nat × Nat))
    (hu : s.unl t = some ⟨0, st⟩) : hmicro hc s t = finishExit s t st := by
  unfold hmicro; rw [hu]

theorem hmicro_other (hc : HCfg) (s : HState) (t : Nat) (hu : s.unl t = none)
    (h1 : ∀ p, s.base.pc t ≠ .holding p) (h2 : ∀ p r, s.base.pc t ≠ .getter p r 0) :
    hmicro hc s t = ({ s with base := (micro hc.cfg s.base t).1 }, (micro hc.cfg s.base t).2.map .base) := by
  unfold hmicro; rw [hu]; simp only

theorem hmicro_start (hc : HCfg) (s : HState) (t p : Nat) (hu : s.unl t = none)
    (hpc : s.base.pc t = .holding p) (he : (instanceValue s.base p).2 = .ph p) :
    hmicro hc s t = ({ s with base := (micro hc.cfg s.base t).1, starts := bump s.starts (s.base.phInst p) },
      (micro hc.cfg s.base t).2.map .base) := by
  unfold hmicro; rw [hu]; simp only [hpc, he, if_true]

theorem hmicro_leave (hc : HCfg) (s : HState) (t p : Nat) (hu : s.unl t = none)
    (hpc : s.base.pc t = .holding p) (he : (instanceValue s.base p).2 ≠ .ph p) :
    hmicro hc s t = exitLock hc { s with base := (micro hc.cfg s.base t).1 } t none := by
  unfold hmicro; rw [hu]; simp only [hpc, he, if_false]

theorem hmicro_ok (hc : HCfg) (s : HState) (t p r : Nat) (hu : s.unl t = none)
    (hpc : s.base.pc t = .getter p r 0) (hok : hc.cfg.ok r = true) (hs : hc.lateStore = false) :
    hmicro hc s t = exitLock hc { s with base := (micro hc.cfg s.base t).1,
                                         lastOk := setAt s.lastOk (s.base.phInst p) (some r) } t none := by
  unfold hmicro; rw [hu]; simp [hpc, hok, hs]

theorem hmicro_fail (hc : HCfg) (s : HState) (t p r : Nat) (hu : s.unl t = none)
    (hpc : s.base.pc t = .getter p r 0) (hok : hc.cfg.ok r = false) :
    hmicro hc s t = exitLock hc { s with base := (micro hc.cfg s.base t).1,
                                         fails := bump s.fails (s.base.phInst p) } t none := by
  unfold hmicro; rw [hu]; simp [hpc, hok]

/-- the result a finished continuation delivers, as `finishExit` computes it -/
def contOut (b : State) (t : Nat) : Option Out :=
  match b.pc t with
  | .done res => some (resOut res)
  | _ => none

theorem finishExit_none (s : HState) (t : Nat) :
    finishExit s t none = (setUnl s t none, (contOut s.base t).map .base) := by
  unfold finishExit contOut; simp only; split <;> simp [*]

/-- leaving the lock: a hand-off lock suspends the task inside `__aexit__`, any other lets it go on
    at its continuation -/
theorem exitLock_cases (hc : HCfg) (s : HState) (t : Nat) :
    (hc.cfg.lock = true ∧ hc.handoff ≠ 0 ∧
      exitLock hc s t none = (setUnl s t (some ⟨hc.handoff - 1, none⟩), some .handoff)) ∨
    exitLock hc s t none = (setUnl s t none, (contOut s.base t).map .base) := by
  unfold exitLock; split
  · rename_i h
    simp only [Bool.and_eq_true, decide_eq_true_eq] at h
    exact .inl ⟨h.1, by omega, rfl⟩
  · exact .inr (finishExit_none s t)

/-- task t sits at a continuation: finished, or at the first line of some `_await_impl` -/
def AtCont (b : State) (t : Nat) : Prop := (∃ res, b.pc t = .done res) ∨ (∃ p, b.pc t = .entered p)

structure HInv (hc : HCfg) (s : HState) : Prop where
  inv : Inv hc.cfg s.base
  nopend : ∀ t u, s.unl t = some u → u.store = none
  unl_pc : ∀ t u, s.unl t = some u → AtCont s.base t
  unl_none : (hc.cfg.lock = false ∨ hc.handoff = 0) → ∀ t, s.unl t = none
  last : LastOk s.base s.lastOk
  once : hc.cfg.lock = true → Once s.base s.starts s.fails
  counts : Counts s.base s.starts s.fails

theorem hinv_setUnl {hc : HCfg} {s : HState} (h : HInv hc s) (t : Nat) (u : Option Unl)
    (hu : ∀ u', u = some u' → u'.store = none ∧ AtCont s.base t ∧ hc.cfg.lock = true ∧ hc.handoff ≠ 0) :
    HInv hc (setUnl s t u) := by
  obtain ⟨h1, h2, h3, h4, h5, h6, h7⟩ := h
  constructor
  · exact h1
  · intro t' u'; simp only [setUnl]; split
    · intro e; exact (hu u' e).1
    · exact h2 t' u'
  · intro t' u'; simp only [setUnl]; split
    · rename_i e; subst e; intro e; exact (hu u' e).2.1
    · exact h3 t' u'
  · intro hh t'; simp only [setUnl]; split
    · cases u with
      | none => rfl
      | some u' => have := hu u' rfl; rcases hh with hh | hh <;> simp_all
    · exact h4 hh t'
  · exact h5
  · exact h6
  · exact h7

/-- replace the base by the result of a step of task t (which is not inside `__aexit__`) -/
theorem hinv_base {hc : HCfg} {s : HState} (h : HInv hc s) (t : Nat) (b' : State) (lo' : Nat → Option Nat)
    (st' fl' : Nat → Nat) (hu : s.unl t = none) (hinv : Inv hc.cfg b')
    (hfr : ∀ t', t' ≠ t → b'.pc t' = s.base.pc t') (hl : LastOk b' lo')
    (ho : hc.cfg.lock = true → Once b' st' fl') (hcn : Counts b' st' fl') :
    HInv hc { s with base := b', lastOk := lo', starts := st', fails := fl' } := by
  obtain ⟨h1, h2, h3, h4, h5, h6, h7⟩ := h
  refine ⟨hinv, h2, ?_, h4, hl, ho, hcn⟩
  intro t' u' hu'
  have hne : t' ≠ t := by intro e; subst e; rw [hu] at hu'; cases hu'
  have := h3 t' u' hu'
  simp only [AtCont] at this ⊢
  rw [hfr t' hne]; exact this

theorem hinv_quiet {hc : HCfg} {s : HState} (h : HInv hc s) (t : Nat) {b' : State} (hu : s.unl t = none)
    (hinv : Inv hc.cfg b') (hfr : ∀ t', t' ≠ t → b'.pc t' = s.base.pc t') (q : Quiet s.base b') :
    HInv hc { s with base := b' } :=
  hinv_base h t b' _ _ _ hu hinv hfr (lastOk_quiet h.last q) (fun hl => once_quiet (h.once hl) q)
    (counts_quiet h.counts q)

theorem exitLock_inv {hc : HCfg} {s : HState} (h : HInv hc s) (t : Nat) (hc' : AtCont s.base t) :
    HInv hc (exitLock hc s t none).1 := by
  rcases exitLock_cases hc s t with ⟨hl, hh, e⟩ | e <;> rw [e]
  · exact hinv_setUnl h t _ (by intro u' hu'; cases hu'; exact ⟨rfl, hc', hl, hh⟩)
  · exact hinv_setUnl h t none (by intro u' hu'; cases hu')

theorem micro_leave_cont (cfg : Cfg) (s : State) (t p : Nat) (hpc : s.pc t = .holding p)
    (he : (instanceValue s p).2 ≠ .ph p) : AtCont (micro cfg s t).1 t := by
  unfold micro; rw [hpc]; simp only
  generalize instanceValue s p = r at he
  obtain ⟨s1, x⟩ := r
  simp only at he ⊢
  rw [if_neg he]
  cases x with
  | val v => exact Or.inl ⟨.ok v, by simp [awaitStored, setPc]⟩
  | ph p' => exact Or.inr ⟨p', by simp [awaitStored, setPc]⟩

theorem unl_some_handoff {hc : HCfg} {s : HState} (h : HInv hc s) (t : Nat) (u : Unl) (hu : s.unl t = some u) :
    hc.cfg.lock = true ∧ hc.handoff ≠ 0 := by
  refine ⟨?_, ?_⟩
  · cases hl : hc.cfg.lock
    · have := h.unl_none (Or.inl hl) t; rw [hu] at this; cases this
    · rfl
  · intro hh; have := h.unl_none (Or.inr hh) t; rw [hu] at this; cases this

theorem hinv_unl_step {hc : HCfg} {s : HState} (h : HInv hc s) {t : Nat} {u : Unl} (hu : s.unl t = some u)
    (u' : Option Unl) (hst : ∀ u'', u' = some u'' → u''.store = none) : HInv hc (setUnl s t u') :=
  hinv_setUnl h t u' fun u'' e => ⟨hst u'' e, h.unl_pc t _ hu, unl_some_handoff h t _ hu⟩

theorem hmicro_unl {hc : HCfg} {s : HState} (h : HInv hc s) {t : Nat} {u : Unl} (hu : s.unl t = some u) :
    (∃ k, hmicro hc s t = (setUnl s t (some ⟨k, none⟩), some .handoff)) ∨
    hmicro hc s t = (setUnl s t none, (contOut s.base t).map .base) := by
  obtain ⟨k, st⟩ := u
  obtain rfl : st = none := h.nopend t _ hu
  cases k with
  | zero => exact .inr (by rw [hmicro_unl_zero hc s t _ hu, finishExit_none])
  | succ k => exact .inl ⟨k, hmicro_unl_succ hc s t k _ hu⟩

theorem no_getter_of_holding {cfg : Cfg} {b : State} (h : Inv cfg b) (hl : cfg.lock = true) (t p : Nat)
    (hpc : b.pc t = .holding p) : ∀ t' r k, b.pc t' ≠ .getter p r k := by
  intro t' r k hk
  have e1 := h.owner_getter hl p t' r k hk
  have e2 := h.owner_holding hl p t hpc
  rw [e1] at e2
  have : t' = t := Option.some.inj e2
  subst this
  rw [hpc] at hk; cases hk

theorem hmicro_other_inv {hc : HCfg} {s : HState} (t : Nat) (h : HInv hc s) (hu : s.unl t = none)
    (h1 : ∀ p, s.base.pc t ≠ .holding p) (h2 : ∀ p r, s.base.pc t ≠ .getter p r 0) : HInv hc (hmicro hc s t).1 := by
  rw [hmicro_other hc s t hu h1 h2]
  exact hinv_quiet h t hu (micro_inv hc.cfg s.base t h.inv) (micro_frame hc.cfg s.base t)
    (micro_quiet hc.cfg s.base t (fun p hp => absurd hp (h1 p)) h2)

theorem hmicro_inv (hc : HCfg) (hs : hc.lateStore = false) (s : HState) (t : Nat) (h : HInv hc s) :
    HInv hc (hmicro hc s t).1 := by
  cases hu : s.unl t with
  | some u =>
    rcases hmicro_unl h hu with ⟨k, e⟩ | e <;> rw [e]
    · exact hinv_unl_step h hu _ (by intro _ e; cases e; rfl)
    · exact hinv_unl_step h hu none (by intro _ e; cases e)
  | none =>
    have hmi := micro_inv hc.cfg s.base t h.inv
    have hfr := micro_frame hc.cfg s.base t
    cases hpc : s.base.pc t with
    | holding p =>
      by_cases he : (instanceValue s.base p).2 = .ph p
      · have hsl := instanceValue_self_slot (h.inv.pc_holding t p hpc).1 he
        rw [hmicro_start hc s t p hu hpc he]
        rw [micro_holding_self hc.cfg s.base t p hpc hsl] at hmi hfr ⊢
        exact hinv_base h t _ _ _ _ hu hmi hfr (lastOk_same h.last rfl)
          (fun hl => once_start t p _ _ (h.once hl) hsl (no_getter_of_holding h.inv hl t p hpc) (by simp [hpc])
            rfl rfl)
          (counts_start _ p t h.counts rfl rfl rfl)
      · rw [hmicro_leave hc s t p hu hpc he]
        exact exitLock_inv (hinv_quiet h t hu hmi hfr (micro_quiet hc.cfg s.base t
            (fun p' hp' => by rw [hpc] at hp'; cases hp'; exact he) (by simp [hpc])))
          t (micro_leave_cont hc.cfg s.base t p hpc he)
    | getter p r k =>
      cases k with
      | succ k =>
        exact hmicro_other_inv t h hu (by simp [hpc]) (by simp [hpc])
      | zero =>
        have em := micro_getter0 hc.cfg s.base t p r hpc
        have hpc' := complete_pc hc.cfg s.base t p r
        have hcr := complete_runs hc.cfg s.base t p r
        have hcont : AtCont (complete hc.cfg s.base t p r).1 t := .inl ⟨_, by rw [hpc']; exact if_pos rfl⟩
        obtain ⟨hgl, hgr⟩ := h.inv.getter_run t p r 0 hpc
        rw [em] at hmi hfr
        cases hok : hc.cfg.ok r with
        | true =>
          rw [hmicro_ok hc s t p r hu hpc hok hs, em]
          have hsl := complete_slot_ok hc.cfg s.base t p r hok
          exact exitLock_inv (hinv_base h t _ _ _ _ hu hmi hfr (lastOk_ok _ r h.last hsl)
            (fun hl => once_ok t p r _ (h.once hl) hpc (fun i p hi => (h.inv.slot_ph i p hi).2) hsl hpc')
            (counts_returned r h.counts hcr.1 hcr.2.1 (by rw [hcr.2.2, hok]; rfl) (by rw [hgr]))) t hcont
        | false =>
          rw [hmicro_fail hc s t p r hu hpc hok, em]
          have hsl := complete_slot_fail hc.cfg s.base t p r hok
          exact exitLock_inv (hinv_base h t _ _ _ _ hu hmi hfr (lastOk_same h.last hsl)
            (fun hl => once_fail t p r 0 _ (h.once hl) hpc (fun i p hi => (h.inv.slot_ph i p hi).2) hsl hpc')
            (counts_failed r _ .raised h.counts hcr.1 hcr.2.1 (by rw [hcr.2.2, hok]; rfl) (Or.inl rfl) hgl (by rw [hgr])
              (by rw [hgr]))) t hcont
    | _ =>
      exact hmicro_other_inv t h hu (by simp [hpc]) (by simp [hpc])

theorem hschedN_ind (hc : HCfg) (t : Nat) {P : HState → Prop} (h : ∀ s, P s → P (hmicro hc s t).1) :
    ∀ (n : Nat) (s : HState), P s → P (hschedN hc n s t).1 := by
  intro n
  induction n with
  | zero => intro s hs; exact hs
  | succ n ih =>
    intro s hs
    unfold hschedN
    have hm := h s hs
    generalize hmicro hc s t = r at hm
    obtain ⟨s1, o⟩ := r
    cases o with
    | some o => exact hm
    | none => exact ih s1 hm

theorem hschedN_inv (hc : HCfg) (hs : hc.lateStore = false) (n : Nat) (s : HState) (t : Nat) (h : HInv hc s) :
    HInv hc (hschedN hc n s t).1 :=
  hschedN_ind hc t (fun s' h' => hmicro_inv hc hs s' t h') n s h

theorem cancelled_inv (cfg : Cfg) (s : State) (t : Nat) (h : Inv cfg s) (hc : AtCont s t) :
    Inv cfg (setPc s t (.done .cancelled)) := by
  have hidle : s.pc t ≠ .unborn ∧ ∀ p, ¬ (s.pc t).owns p := by
    rcases hc with ⟨res, hc⟩ | ⟨p, hc⟩ <;> simp [hc, Pc.owns]
  exact h.setPc_idle hidle.1 hidle.2 (by simp [Pc.owns]) (by simp [Pc.ph?]) (by simp) (by simp)

theorem setPc_done_quiet (s : State) (t : Nat) (x : Res) (hn : ∀ p r k, s.pc t ≠ .getter p r k) :
    Quiet s (setPc s t (.done x)) :=
  (Quiet.refl s).move s.lock fun p r k e => absurd e (hn p r k)

theorem cancel_frame (cfg : Cfg) (s : State) (t t' : Nat) (hne : t' ≠ t) : (cancel cfg s t).1.pc t' = s.pc t' := by
  unfold cancel; split
  · simp [setPc, hne]
  · simp [setPc, hne]
  · simp only [setPc, hne, if_false, setRunSt]; rw [release_pc]
  · rfl

theorem cancel_getter_pc (cfg : Cfg) (s : State) (t p r k : Nat) (hpc : s.pc t = .getter p r k) :
    (cancel cfg s t).1.pc = fun t' => if t' = t then .done .cancelled else s.pc t' := by
  simp only [cancel, hpc, setPc, setRunSt]; rw [release_pc]

theorem cancel_getter_runs (cfg : Cfg) (s : State) (t p r k : Nat) (hpc : s.pc t = .getter p r k) :
    (cancel cfg s t).1.dels = s.dels ∧ (cancel cfg s t).1.nRuns = s.nRuns ∧
    (cancel cfg s t).1.run = fun r' => if r' = r then { s.run r with st := .cancelled } else s.run r' := by
  cases hl : cfg.lock <;> simp [cancel, hpc, setPc, setRunSt, release, hl, setLock]

theorem cancel_quiet (cfg : Cfg) (s : State) (t : Nat) (hn : ∀ p r k, s.pc t ≠ .getter p r k) :
    Quiet s (cancel cfg s t).1 := by
  unfold cancel; split
  · exact setPc_done_quiet s t _ hn
  · exact setPc_done_quiet s t _ hn
  · rename_i p r k hpc; exact absurd hpc (hn p r k)
  · exact Quiet.refl s

theorem hcancel_unl (hc : HCfg) (s : HState) (t : Nat) (u : Unl) (hu : s.unl t = some u) :
    hcancel hc s t = (setUnl { s with base := setPc s.base t (.done .cancelled) } t none, .base .cancelled) := by
  unfold hcancel; rw [hu]

theorem hcancel_getter (hc : HCfg) (s : HState) (t p r k : Nat) (hu : s.unl t = none)
    (hpc : s.base.pc t = .getter p r k) :
    (hcancel hc s t).1 = setUnl { s with base := (cancel hc.cfg s.base t).1, fails := bump s.fails (s.base.phInst p) } t none ∨
    (hc.cfg.lock = true ∧ hc.handoff ≠ 0 ∧
     (hcancel hc s t).1 = setUnl { s with base := (cancel hc.cfg s.base t).1, fails := bump s.fails (s.base.phInst p) } t
        (some ⟨hc.handoff - 1, none⟩)) := by
  unfold hcancel; rw [hu]; simp only [hpc]
  split
  · rename_i h
    simp only [Bool.and_eq_true, decide_eq_true_eq] at h
    exact Or.inr ⟨h.1, by omega, rfl⟩
  · left
    simp only [setUnl]
    congr 1
    funext t'; split
    · rename_i e; subst e; exact hu
    · rfl

theorem hcancel_other (hc : HCfg) (s : HState) (t : Nat) (hu : s.unl t = none)
    (hn : ∀ p r k, s.base.pc t ≠ .getter p r k) :
    hcancel hc s t = ({ s with base := (cancel hc.cfg s.base t).1 }, .base (cancel hc.cfg s.base t).2) := by
  unfold hcancel; rw [hu]; simp only

theorem hcancel_inv (hc : HCfg) (s : HState) (t : Nat) (h : HInv hc s) : HInv hc (hcancel hc s t).1 := by
  cases hu : s.unl t with
  | some u =>
    rw [hcancel_unl hc s t u hu]
    have hcont := h.unl_pc t u hu
    have h0 : HInv hc (setUnl s t none) := hinv_setUnl h t none (by intro u' e; cases e)
    have hn : ∀ p r k, s.base.pc t ≠ .getter p r k := by
      intro p r k hk; rcases hcont with ⟨_, e⟩ | ⟨_, e⟩ <;> rw [hk] at e <;> cases e
    exact hinv_quiet h0 t (by simp [setUnl]) (cancelled_inv hc.cfg s.base t h.inv hcont)
      (by intro t' hne; simp [setPc, setUnl, hne]) (setPc_done_quiet s.base t .cancelled hn)
  | none =>
    have hci := cancel_inv hc.cfg s.base t h.inv
    have hfr := cancel_frame hc.cfg s.base t
    by_cases hg : ∃ p r k, s.base.pc t = .getter p r k
    · obtain ⟨p, r, k, hpc⟩ := hg
      have hpc' := cancel_getter_pc hc.cfg s.base t p r k hpc
      have hsl := cancel_slot hc.cfg s.base t
      have hb : HInv hc { s with base := (cancel hc.cfg s.base t).1, fails := bump s.fails (s.base.phInst p) } :=
        hinv_base h t _ _ _ _ hu hci hfr (lastOk_same h.last hsl)
          (fun hl => once_fail t p r k _ (h.once hl) hpc (fun i p hi => (h.inv.slot_ph i p hi).2) hsl hpc')
          (by obtain ⟨d1, d2, d3⟩ := cancel_getter_runs hc.cfg s.base t p r k hpc
              obtain ⟨hgl, hgr⟩ := h.inv.getter_run t p r k hpc
              exact counts_failed r _ .cancelled h.counts d1 d2 d3 (Or.inr rfl) hgl (by rw [hgr]) (by rw [hgr]))
      rcases hcancel_getter hc s t p r k hu hpc with e | ⟨hl, hh, e⟩ <;> rw [e]
      · exact hinv_setUnl hb t none (by intro u' e; cases e)
      · refine hinv_setUnl hb t _ ?_
        intro u' e; cases e
        exact ⟨rfl, Or.inl ⟨.cancelled, by simp [hpc']⟩, hl, hh⟩
    · have hn : ∀ p r k, s.base.pc t ≠ .getter p r k := fun p r k hk => hg ⟨p, r, k, hk⟩
      rw [hcancel_other hc s t hu hn]
      exact hinv_quiet h t hu hci hfr (cancel_quiet hc.cfg s.base t hn)

theorem unl_fresh {hc : HCfg} {s : HState} (h : HInv hc s) : s.unl s.base.nTasks = none := by
  cases hu : s.unl s.base.nTasks with
  | none => rfl
  | some u =>
    have hf := h.inv.fresh_task s.base.nTasks (Nat.le_refl _)
    rcases h.unl_pc _ u hu with ⟨_, e⟩ | ⟨_, e⟩ <;> rw [hf] at e <;> cases e

theorem Quiet.addTask {b b1 : State} (h : Quiet b b1) (hf : b.pc b1.nTasks = .unborn) (i : Nat) (x : Stored) :
    Quiet b (addTask b1 i x) :=
  { h with
    getter := fun t p r k hk => by
      have e : t ≠ b1.nTasks := fun e => by rw [e, hf] at hk; cases hk
      simpa [CachedProperty.addTask, e] using h.getter t p r k hk }

theorem access_nTasks (s : State) (i : Nat) : (access s i).1.nTasks = s.nTasks := by
  rcases access_cases s i with ⟨x, _, he⟩ | ⟨_, he⟩ <;> rw [he] <;> rfl

theorem spawn_quiet (cfg : Cfg) (s : State) (i : Nat) (hf : s.pc s.nTasks = .unborn) :
    Quiet s (step cfg s (.spawn i)).1 :=
  (access_quiet s i).addTask (by rw [access_nTasks]; exact hf) i _

theorem spawn_frame (cfg : Cfg) (s : State) (i t' : Nat) (hne : t' ≠ s.nTasks) :
    (step cfg s (.spawn i)).1.pc t' = s.pc t' := by
  show (if t' = (access s i).1.nTasks then _ else (access s i).1.pc t') = _
  rw [access_nTasks, if_neg hne, access_pc]

theorem respawn_quiet (cfg : Cfg) (s : State) (t : Nat) (hf : s.pc s.nTasks = .unborn) :
    Quiet s (step cfg s (.respawn t)).1 := by
  simp only [step]; split
  · exact (Quiet.refl s).addTask hf _ _
  · exact Quiet.refl s

theorem respawn_frame (cfg : Cfg) (s : State) (t t' : Nat) (hne : t' ≠ s.nTasks) :
    (step cfg s (.respawn t)).1.pc t' = s.pc t' := by
  simp only [step]; split
  · simp [addTask, hne]
  · rfl

theorem hstep_inv (hc : HCfg) (hs : hc.lateStore = false) (s : HState) (op : Op) (h : HInv hc s) :
    HInv hc (hstep hc s op).1 := by
  have hf := h.inv.fresh_task s.base.nTasks (Nat.le_refl _)
  cases op with
  | spawn i =>
    exact hinv_quiet h s.base.nTasks (unl_fresh h) (step_inv hc.cfg s.base _ h.inv) (spawn_frame hc.cfg s.base i)
      (spawn_quiet hc.cfg s.base i hf)
  | respawn t =>
    exact hinv_quiet h s.base.nTasks (unl_fresh h) (step_inv hc.cfg s.base _ h.inv) (respawn_frame hc.cfg s.base t)
      (respawn_quiet hc.cfg s.base t hf)
  | sched t => exact hschedN_inv hc hs _ s t h
  | cancel t => exact hcancel_inv hc s t h
  | del i =>
    simp only [hstep]
    split
    · exact h
    · exact hinv_base h s.base.nTasks _ _ _ _ (unl_fresh h) (del_inv hc.cfg s.base i h.inv)
        (fun _ _ => rfl) (lastOk_del i h.last) (fun hl => once_del i (h.once hl)) (counts_del i h.counts)

theorem hinit_inv (hc : HCfg) : HInv hc HState.init := by
  refine ⟨init_inv hc.cfg, ?_, ?_, ?_, ?_, ?_, ?_⟩
  · intro t u e; cases e
  · intro t u e; cases e
  · intro _ t; rfl
  · intro i r e; cases e
  · intro _; constructor <;> simp [HState.init, State.init]
  · intro i _; exact ⟨rfl, rfl⟩

theorem hexec_inv (hc : HCfg) (hs : hc.lateStore = false) (ops : List Op) :
    ∀ s, HInv hc s → HInv hc (hexec hc s ops) := by
  induction ops with
  | nil => intro s h; exact h
  | cons op ops ih => intro s h; exact ih _ (hstep_inv hc hs s op h)

theorem hreach_inv (hc : HCfg) (hs : hc.lateStore = false) (ops : List Op) : HInv hc (hreach hc ops) :=
  hexec_inv hc hs ops _ (hinit_inv hc)

theorem micro_leave_out (cfg : Cfg) (s : State) (t p : Nat) (hpc : s.pc t = .holding p)
    (he : (instanceValue s p).2 ≠ .ph p) : (micro cfg s t).2 = contOut (micro cfg s t).1 t := by
  unfold micro contOut; rw [hpc]; simp only
  generalize instanceValue s p = r at he
  obtain ⟨s1, x⟩ := r
  simp only at he ⊢
  rw [if_neg he]
  cases x <;> simp [awaitStored, setPc, resOut]

theorem micro_getter0_out (cfg : Cfg) (s : State) (t p r : Nat) (hpc : s.pc t = .getter p r 0) :
    (micro cfg s t).2 = contOut (micro cfg s t).1 t := by
  rw [micro_getter0 cfg s t p r hpc]; unfold contOut; rw [complete_pc]
  cases hok : cfg.ok r <;> simp [complete, hok, resOut]

/-- One micro-step of a task that is not inside `__aexit__`, in terms of the plain micro-step. -/
inductive HMicro (hc : HCfg) (s : HState) (t : Nat) : Prop
  /-- the task goes on as in the plain machine (at most the count of starts moves) -/
  | stays (st' : Nat → Nat)
      (eq : hmicro hc s t =
        ({ s with base := (micro hc.cfg s.base t).1, starts := st' }, (micro hc.cfg s.base t).2.map .base))
  /-- the task leaves the lock — it found a value under it, or its getter run ended — with a
      continuation whose result is what the plain step reports -/
  | leaves (lo' : Nat → Option Nat) (fl' : Nat → Nat)
      (eq : hmicro hc s t =
        exitLock hc { s with base := (micro hc.cfg s.base t).1, lastOk := lo', fails := fl' } t none)
      (out : (micro hc.cfg s.base t).2 = contOut (micro hc.cfg s.base t).1 t)
      (from_ : (∃ p, s.base.pc t = .holding p ∧ (instanceValue s.base p).2 ≠ .ph p) ∨
        ∃ p r, s.base.pc t = .getter p r 0)

theorem hmicro_shape (hc : HCfg) (hs : hc.lateStore = false) (s : HState) (t : Nat) (hu : s.unl t = none) :
    HMicro hc s t := by
  cases hpc : s.base.pc t with
  | holding p =>
    by_cases he : (instanceValue s.base p).2 = .ph p
    · exact .stays _ (hmicro_start hc s t p hu hpc he)
    · exact .leaves s.lastOk s.fails (hmicro_leave hc s t p hu hpc he) (micro_leave_out hc.cfg s.base t p hpc he)
        (.inl ⟨p, hpc, he⟩)
  | getter p r k =>
    cases k with
    | succ k => exact .stays s.starts (hmicro_other hc s t hu (by simp [hpc]) (by simp [hpc]))
    | zero =>
      cases hok : hc.cfg.ok r with
      | true =>
        exact .leaves _ s.fails (hmicro_ok hc s t p r hu hpc hok hs) (micro_getter0_out hc.cfg s.base t p r hpc)
          (.inr ⟨p, r, hpc⟩)
      | false =>
        exact .leaves s.lastOk _ (hmicro_fail hc s t p r hu hpc hok) (micro_getter0_out hc.cfg s.base t p r hpc)
          (.inr ⟨p, r, hpc⟩)
  | _ => exact .stays s.starts (hmicro_other hc s t hu (by simp [hpc]) (by simp [hpc]))

/-- the environments in which `__aexit__` never suspends -/
def HCfg.plain (hc : HCfg) : Prop := (hc.cfg.lock = false ∨ hc.handoff = 0) ∧ hc.lateStore = false

theorem exitLock_plain (hc : HCfg) (hp : hc.plain) (s : HState) (t : Nat) :
    exitLock hc s t none = (setUnl s t none, (contOut s.base t).map .base) := by
  rcases exitLock_cases hc s t with ⟨hl, hh, _⟩ | e
  · rcases hp.1 with e | e
    · rw [hl] at e; cases e
    · exact absurd e hh
  · exact e

theorem setUnl_none_unl (s : HState) (t : Nat) (hu : ∀ t, s.unl t = none) : ∀ t', (setUnl s t none).unl t' = none := by
  intro t'; simp only [setUnl]; split <;> simp [hu]

theorem hmicro_plain (hc : HCfg) (hp : hc.plain) (s : HState) (t : Nat) (hu : ∀ t, s.unl t = none) :
    (hmicro hc s t).1.base = (micro hc.cfg s.base t).1 ∧ (hmicro hc s t).2 = (micro hc.cfg s.base t).2.map .base ∧
    ∀ t', (hmicro hc s t).1.unl t' = none := by
  cases hmicro_shape hc hp.2 s t (hu t) with
  | stays st' e => rw [e]; exact ⟨rfl, rfl, hu⟩
  | leaves lo' fl' e ho _ =>
    rw [e, exitLock_plain hc hp]
    exact ⟨rfl, by simp only; rw [ho], setUnl_none_unl _ t hu⟩

theorem hschedN_plain (hc : HCfg) (hp : hc.plain) (n : Nat) : ∀ (s : HState) (t : Nat), (∀ t, s.unl t = none) →
    (hschedN hc n s t).1.base = (schedN hc.cfg n s.base t).1 ∧ (hschedN hc n s t).2 = .base (schedN hc.cfg n s.base t).2 ∧
    ∀ t', (hschedN hc n s t).1.unl t' = none := by
  induction n with
  | zero => intro s t hu; exact ⟨rfl, rfl, hu⟩
  | succ n ih =>
    intro s t hu
    obtain ⟨e1, e2, e3⟩ := hmicro_plain hc hp s t hu
    unfold hschedN schedN
    generalize hmicro hc s t = r at e1 e2 e3
    obtain ⟨s1, o⟩ := r
    generalize micro hc.cfg s.base t = r' at e1 e2
    obtain ⟨b1, o'⟩ := r'
    simp only at e1 e2 e3
    cases o' with
    | some o' => subst e2; simp only [Option.map]; exact ⟨e1, trivial, e3⟩
    | none =>
      subst e2; simp only [Option.map]
      have := ih s1 t e3
      rw [e1] at this; exact this

theorem hcancel_plain (hc : HCfg) (hp : hc.plain) (s : HState) (t : Nat) (hu : ∀ t, s.unl t = none) :
    (hcancel hc s t).1.base = (cancel hc.cfg s.base t).1 ∧ (hcancel hc s t).2 = .base (cancel hc.cfg s.base t).2 ∧
    ∀ t', (hcancel hc s t).1.unl t' = none := by
  have hno : (hc.cfg.lock && decide (hc.handoff > 0)) = false := by
    rcases hp.1 with e | e <;> simp [e]
  unfold hcancel; rw [hu t]; simp only [hno, Bool.false_eq_true, if_false]
  split <;> exact ⟨rfl, rfl, hu⟩

theorem hstep_plain (hc : HCfg) (hp : hc.plain) (s : HState) (op : Op) (hu : ∀ t, s.unl t = none) :
    (hstep hc s op).1.base = (step hc.cfg s.base op).1 ∧ (hstep hc s op).2 = .base (step hc.cfg s.base op).2 ∧
    ∀ t', (hstep hc s op).1.unl t' = none := by
  cases op with
  | spawn i => exact ⟨rfl, rfl, hu⟩
  | respawn t => exact ⟨rfl, rfl, hu⟩
  | sched t => exact hschedN_plain hc hp _ s t hu
  | cancel t => exact hcancel_plain hc hp s t hu
  | del i =>
    simp only [hstep, step]
    split <;> simp_all

theorem hexec_plain (hc : HCfg) (hp : hc.plain) (ops : List Op) : ∀ (s : HState), (∀ t, s.unl t = none) →
    (hexec hc s ops).base = exec hc.cfg s.base ops ∧ houts hc s ops = (outs hc.cfg s.base ops).map .base ∧
    ∀ t', (hexec hc s ops).unl t' = none := by
  induction ops with
  | nil => intro s hu; exact ⟨rfl, rfl, hu⟩
  | cons op ops ih =>
    intro s hu
    obtain ⟨e1, e2, e3⟩ := hstep_plain hc hp s op hu
    obtain ⟨f1, f2, f3⟩ := ih _ e3
    simp only [hexec, exec, houts, outs, List.map_cons]
    rw [e1] at f1 f2
    exact ⟨f1, by rw [e2, f2], f3⟩

theorem exitLock_base (hc : HCfg) (s : HState) (t : Nat) : (exitLock hc s t none).1.base = s.base := by
  rcases exitLock_cases hc s t with ⟨_, _, e⟩ | e <;> rw [e] <;> rfl

theorem hmicro_base (hc : HCfg) (hs : hc.lateStore = false) (s : HState) (t : Nat) (h : HInv hc s) :
    (s.unl t ≠ none ∧ (hmicro hc s t).1.base = s.base) ∨
    (s.unl t = none ∧ (hmicro hc s t).1.base = (micro hc.cfg s.base t).1) := by
  cases hu : s.unl t with
  | some u =>
    left
    refine ⟨by simp, ?_⟩
    rcases hmicro_unl h hu with ⟨k, e⟩ | e <;> rw [e] <;> rfl
  | none =>
    right
    refine ⟨rfl, ?_⟩
    cases hmicro_shape hc hs s t hu with
    | stays st' e => rw [e]
    | leaves lo' fl' e _ _ => rw [e, exitLock_base]

theorem hschedN_dels (hc : HCfg) (hs : hc.lateStore = false) (n : Nat) (s : HState) (t : Nat) (h : HInv hc s) :
    (hschedN hc n s t).1.base.dels = s.base.dels := by
  refine (hschedN_ind hc t (P := fun s' => HInv hc s' ∧ s'.base.dels = s.base.dels) ?_ n s ⟨h, rfl⟩).2
  intro s' ⟨h', e⟩
  refine ⟨hmicro_inv hc hs s' t h', ?_⟩
  rcases hmicro_base hc hs s' t h' with ⟨_, e'⟩ | ⟨_, e'⟩ <;> rw [e']
  · exact e
  · rw [(micro_mono hc.cfg s'.base t).dels_eq, e]

theorem hcancel_dels (hc : HCfg) (s : HState) (t : Nat) : (hcancel hc s t).1.base.dels = s.base.dels := by
  have hcd : (cancel hc.cfg s.base t).1.dels = s.base.dels :=
    (step_mono hc.cfg s.base (.cancel t) (by intro k; simp)).dels_eq
  unfold hcancel
  split
  · rfl
  · simp only; split
    · split <;> exact hcd
    · exact hcd

theorem hstep_dels (hc : HCfg) (hs : hc.lateStore = false) (s : HState) (op : Op) (i : Nat) (h : HInv hc s)
    (hop : op ≠ .del i) : (hstep hc s op).1.base.dels i = s.base.dels i := by
  cases op with
  | spawn j => exact step_dels hc.cfg s.base (.spawn j) i (by simp)
  | respawn t => exact step_dels hc.cfg s.base (.respawn t) i (by simp)
  | sched t => simp only [hstep, hsched]; rw [hschedN_dels hc hs _ s t h]
  | cancel t => simp only [hstep]; rw [hcancel_dels]
  | del j =>
    have hji : i ≠ j := by intro e; subst e; exact hop rfl
    simp only [hstep]; split
    · rfl
    · simp [delSlot, hji]

theorem hexec_dels (hc : HCfg) (hs : hc.lateStore = false) (i : Nat) (ops : List Op) :
    ∀ s, HInv hc s → (∀ op ∈ ops, op ≠ .del i) → (hexec hc s ops).base.dels i = s.base.dels i := by
  induction ops with
  | nil => intro s _ _; rfl
  | cons op ops ih =>
    intro s h hn
    simp only [hexec]
    rw [ih _ (hstep_inv hc hs s op h) (fun o ho => hn o (List.mem_cons_of_mem _ ho)),
      hstep_dels hc hs s op i h (hn op (List.mem_cons_self ..))]

theorem contOut_not_stuck (b : State) (t : Nat) : contOut b t ≠ some .stuck := by
  unfold contOut; split
  · rename_i res _; cases res <;> simp [resOut]
  · simp

theorem hmicro_out (hc : HCfg) (hs : hc.lateStore = false) (s : HState) (t : Nat) (hu : s.unl t = none) :
    (hmicro hc s t).2 = some .handoff ∨
    ((hmicro hc s t).2 = (micro hc.cfg s.base t).2.map .base ∧ (hmicro hc s t).1.unl t = none) := by
  cases hmicro_shape hc hs s t hu with
  | stays st' e => rw [e]; exact .inr ⟨rfl, hu⟩
  | leaves lo' fl' e ho _ =>
    rw [e]
    rcases exitLock_cases hc _ t with ⟨_, _, e'⟩ | e' <;> rw [e']
    · exact .inl rfl
    · exact .inr ⟨by rw [← ho], by simp [setUnl]⟩

theorem hschedN_not_stuck (hc : HCfg) (hs : hc.lateStore = false) (n : Nat) :
    ∀ (s : HState) (t : Nat), HInv hc s → s.unl t = none → rank s.base t < n →
    (hschedN hc n s t).2 ≠ .base .stuck := by
  induction n with
  | zero => intro s t _ _ hr; omega
  | succ n ih =>
    intro s t h hu hr
    unfold hschedN
    have hm := hmicro_inv hc hs s t h
    have hb := hmicro_base hc hs s t h
    have ho := hmicro_out hc hs s t hu
    have hns := micro_not_stuck hc.cfg s.base t
    have hrk := micro_rank hc.cfg s.base t h.inv
    generalize hmicro hc s t = r at hm hb ho
    obtain ⟨s1, o⟩ := r
    simp only at hm hb ho
    cases o with
    | some o =>
      simp only
      rcases ho with e | ⟨e, _⟩
      · cases e; simp
      · intro e'; subst e'
        cases hmo : (micro hc.cfg s.base t).2 with
        | none => rw [hmo] at e; cases e
        | some x => rw [hmo] at e hns; simp only [Option.map, Option.some.injEq, HOut.base.injEq] at e; subst e; exact hns rfl
    | none =>
      simp only
      rcases ho with e | ⟨e, hu1⟩
      · cases e
      · rcases hb with ⟨hne, _⟩ | ⟨_, hb⟩
        · exact absurd hu hne
        · have hmo : (micro hc.cfg s.base t).2 = none := by
            cases hmo : (micro hc.cfg s.base t).2 with
            | none => rfl
            | some x => rw [hmo] at e; cases e
          have hlt := hrk s1.base (by rw [hb]; exact Prod.ext rfl hmo)
          exact ih s1 t hm hu1 (by omega)

theorem hstep_not_stuck (hc : HCfg) (hs : hc.lateStore = false) (s : HState) (op : Op) (h : HInv hc s) :
    (hstep hc s op).2 ≠ .base .stuck := by
  cases op with
  | spawn i => simp only [hstep, ne_eq, HOut.base.injEq]; exact step_not_stuck hc.cfg s.base _ h.inv
  | respawn t => simp only [hstep, ne_eq, HOut.base.injEq]; exact step_not_stuck hc.cfg s.base _ h.inv
  | sched t =>
    simp only [hstep, hsched]
    cases hu : s.unl t with
    | none => exact hschedN_not_stuck hc hs _ s t h hu (by have := rank_le s.base t; unfold schedFuel; omega)
    | some u =>
      unfold schedFuel hschedN
      rcases hmicro_unl h hu with ⟨k, e⟩ | e <;> rw [e]
      · simp
      · cases hco : contOut s.base t with
        | some x =>
          simp only [Option.map, ne_eq, HOut.base.injEq]
          intro e; subst e; exact contOut_not_stuck s.base t hco
        | none =>
          simp only [Option.map]
          exact hschedN_not_stuck hc hs _ _ t (hinv_unl_step h hu none (by intro _ e; cases e)) (by simp [setUnl])
            (by have := rank_le s.base t; show rank s.base t < 7; omega)
  | cancel t =>
    have hcs : (cancel hc.cfg s.base t).2 ≠ .stuck := step_not_stuck hc.cfg s.base (.cancel t) h.inv
    simp only [hstep, hcancel]
    split
    · simp
    · split
      · split
        · simp
        · simpa using hcs
      · simpa using hcs
  | del i => simp only [hstep]; split <;> simp

/-- the operation only moves a task that is inside `__aexit__` -/
def inExit (s : HState) : Op → Bool
  | .sched t => (s.unl t).isSome
  | _ => false

/-- the schedule without the steps taken inside `__aexit__` -/
def eraseExit (hc : HCfg) : HState → List Op → List Op
  | _, [] => []
  | s, op :: ops =>
    if inExit s op then eraseExit hc (hstep hc s op).1 ops else op :: eraseExit hc (hstep hc s op).1 ops

/-- neither `del` (after one, a task can leave the lock with another placeholder to await, which it
    reads only after the release suspensions) nor `cancel` (thrown at a release suspension it replaces
    the task's result, which the erased schedule cannot reproduce) -/
def plainOp : Op → Bool
  | .del _ => false
  | .cancel _ => false
  | _ => true

structure PInv (hc : HCfg) (s : HState) : Prop extends HInv hc s where
  nodel : ∀ i, s.base.dels i = 0
  unl_done : ∀ t u, s.unl t = some u → ∃ res, s.base.pc t = .done res

/-- without `del`, the re-check under the lock finds this placeholder or a value -/
theorem leave_val (cfg : Cfg) (b : State) (p : Nat) (h : Inv cfg b) (hp : p < b.nextP) (hd : b.dels (b.phInst p) = 0)
    (he : (instanceValue b p).2 ≠ .ph p) : ∃ v, instanceValue b p = (b, .val v) := by
  cases hsl : b.slot (b.phInst p) with
  | none => exact absurd rfl (h.df_none _ p hsl hd hp)
  | some x =>
    cases x with
    | val v => exact ⟨v, instanceValue_of_slot b p _ hsl⟩
    | ph p' =>
      obtain ⟨hp', hi'⟩ := h.slot_ph _ _ hsl
      have : p' = p := h.df_inj p' p hp' hp hi' (by rw [hi']; exact hd)
      subst this
      rw [instanceValue_of_slot b p' _ hsl] at he
      exact absurd rfl he

theorem micro_leave_done (cfg : Cfg) (b : State) (t p : Nat) (h : Inv cfg b) (hpc : b.pc t = .holding p)
    (hd : b.dels (b.phInst p) = 0) (he : (instanceValue b p).2 ≠ .ph p) :
    ∃ res, (micro cfg b t).1.pc t = .done res := by
  obtain ⟨v, hv⟩ := leave_val cfg b p h (h.pc_holding t p hpc).1 hd he
  refine ⟨.ok v, ?_⟩
  simp [micro, hpc, hv, awaitStored, setPc]

theorem exitLock_unl (hc : HCfg) (s : HState) (t t' : Nat) (hne : t' ≠ t) :
    (exitLock hc s t none).1.unl t' = s.unl t' := by
  rcases exitLock_cases hc s t with ⟨_, _, e⟩ | e <;> rw [e] <;> simp [setUnl, hne]

theorem contOut_done (b : State) (t : Nat) (res : Res) (h : b.pc t = .done res) : contOut b t = some (resOut res) := by
  simp [contOut, h]

theorem unl_done_frame {hc : HCfg} {s : HState} (h : PInv hc s) {t : Nat} (hu : s.unl t = none) {b' : State}
    (hfr : ∀ t', t' ≠ t → b'.pc t' = s.base.pc t') (t' : Nat) (u : Unl) (hu' : s.unl t' = some u) :
    ∃ res, b'.pc t' = .done res := by
  have hne : t' ≠ t := by intro e; subst e; rw [hu] at hu'; cases hu'
  rw [hfr t' hne]; exact h.unl_done t' u hu'

theorem hmicro_proj (hc : HCfg) (hs : hc.lateStore = false) (s : HState) (t : Nat) (h : PInv hc s)
    (hu : s.unl t = none) :
    PInv hc (hmicro hc s t).1 ∧ (hmicro hc s t).1.base = (micro hc.cfg s.base t).1 ∧
    ((hmicro hc s t).2 = none ↔ (micro hc.cfg s.base t).2 = none) ∧
    ((hmicro hc s t).2 = none → (hmicro hc s t).1.unl t = none) := by
  have hinv := hmicro_inv hc hs s t h.toHInv
  have hnd : ∀ i, (micro hc.cfg s.base t).1.dels i = 0 := fun i => by
    rw [(micro_mono hc.cfg s.base t).dels_eq]; exact h.nodel i
  have hdone := unl_done_frame h hu (micro_frame hc.cfg s.base t)
  cases hmicro_shape hc hs s t hu with
  | stays st' e => rw [e] at hinv ⊢; exact ⟨⟨hinv, hnd, hdone⟩, rfl, by simp, fun _ => hu⟩
  | leaves lo' fl' e ho hcase =>
    rw [e] at hinv ⊢
    -- without `del` the task leaves the lock finished: it found a value, or its getter run ended
    obtain ⟨res, hres⟩ : ∃ res, (micro hc.cfg s.base t).1.pc t = .done res := by
      rcases hcase with ⟨p, hpc, he⟩ | ⟨p, r, hpc⟩
      · exact micro_leave_done hc.cfg s.base t p h.inv hpc (h.nodel _) he
      · exact ⟨if hc.cfg.ok r then .ok r else .failed r, by rw [micro_getter0 hc.cfg s.base t p r hpc, complete_pc]; simp⟩
    have hout : (micro hc.cfg s.base t).2 ≠ none := by rw [ho, contOut_done _ t res hres]; simp
    generalize hs' : ({ s with base := (micro hc.cfg s.base t).1, lastOk := lo', fails := fl' } : HState) = s' at hinv ⊢
    have hb : s'.base = (micro hc.cfg s.base t).1 := by rw [← hs']
    have hbase : (exitLock hc s' t none).1.base = (micro hc.cfg s.base t).1 := by rw [exitLock_base, hb]
    have hsome : (exitLock hc s' t none).2 ≠ none := by
      rcases exitLock_cases hc s' t with ⟨_, _, e⟩ | e <;> rw [e]
      · simp
      · rw [hb, contOut_done _ t res hres]; simp
    refine ⟨⟨hinv, fun i => by rw [hbase]; exact hnd i, fun t' u hu' => ?_⟩, hbase,
      ⟨fun e => absurd e hsome, fun e => absurd e hout⟩, fun e => absurd e hsome⟩
    rw [hbase]
    by_cases e : t' = t
    · subst e; exact ⟨res, hres⟩
    · rw [exitLock_unl hc s' t t' e, ← hs'] at hu'
      exact hdone t' u hu'

theorem hschedN_proj (hc : HCfg) (hs : hc.lateStore = false) (n : Nat) :
    ∀ (s : HState) (t : Nat), PInv hc s → s.unl t = none →
    PInv hc (hschedN hc n s t).1 ∧ (hschedN hc n s t).1.base = (schedN hc.cfg n s.base t).1 := by
  induction n with
  | zero => intro s t h _; exact ⟨h, rfl⟩
  | succ n ih =>
    intro s t h hu
    obtain ⟨e1, e2, e3, e4⟩ := hmicro_proj hc hs s t h hu
    unfold hschedN schedN
    generalize hmicro hc s t = r at e1 e2 e3 e4
    obtain ⟨s1, o⟩ := r
    generalize micro hc.cfg s.base t = r' at e2 e3
    obtain ⟨b1, o'⟩ := r'
    simp only at e1 e2 e3 e4
    cases o with
    | some o =>
      cases o' with
      | some o' => exact ⟨e1, e2⟩
      | none => exact absurd (e3.2 rfl) (by simp)
    | none =>
      cases o' with
      | some o' => exact absurd (e3.1 rfl) (by simp)
      | none =>
        have := ih s1 t e1 (e4 rfl)
        rw [e2] at this; exact this

theorem hsched_inExit (hc : HCfg) (s : HState) (t : Nat) (u : Unl) (h : PInv hc s) (hu : s.unl t = some u) :
    PInv hc (hsched hc s t).1 ∧ (hsched hc s t).1.base = s.base := by
  obtain ⟨res, hres⟩ := h.unl_done t _ hu
  have hset : ∀ u', (∀ u'', u' = some u'' → u''.store = none) → PInv hc (setUnl s t u') := by
    intro u' hu'
    refine ⟨hinv_unl_step h.toHInv hu u' hu', h.nodel, ?_⟩
    intro t' u''; simp only [setUnl]; split
    · rename_i e; subst e; intro _; exact ⟨res, hres⟩
    · exact h.unl_done t' u''
  unfold hsched schedFuel hschedN
  rcases hmicro_unl h.toHInv hu with ⟨k, e⟩ | e <;> rw [e]
  · exact ⟨hset _ (by intro _ e; cases e; rfl), rfl⟩
  · rw [contOut_done _ t res hres]
    exact ⟨hset none (by intro _ e; cases e), rfl⟩

theorem hstep_proj (hc : HCfg) (hs : hc.lateStore = false) (s : HState) (op : Op) (h : PInv hc s) (hop : plainOp op = true) :
    PInv hc (hstep hc s op).1 ∧
    (hstep hc s op).1.base = if inExit s op then s.base else (step hc.cfg s.base op).1 := by
  have hi := hstep_inv hc hs s op h.toHInv
  have hnd : ∀ i, (hstep hc s op).1.base.dels i = 0 := by
    intro i
    rw [hstep_dels hc hs s op i h.toHInv (by intro e; subst e; simp [plainOp] at hop)]; exact h.nodel i
  cases op with
  | spawn i => exact ⟨⟨hi, hnd, unl_done_frame h (unl_fresh h.toHInv) (spawn_frame hc.cfg s.base i)⟩, rfl⟩
  | respawn t => exact ⟨⟨hi, hnd, unl_done_frame h (unl_fresh h.toHInv) (respawn_frame hc.cfg s.base t)⟩, rfl⟩
  | sched t =>
    cases hu : s.unl t with
    | some u =>
      simp only [inExit, hu, Option.isSome_some, if_true]
      exact hsched_inExit hc s t u h hu
    | none =>
      simp only [inExit, hu, Option.isSome_none, Bool.false_eq_true, if_false]
      exact hschedN_proj hc hs _ s t h hu
  | cancel t => exact absurd hop (by simp [plainOp])
  | del i => exact absurd hop (by simp [plainOp])

theorem hexec_proj (hc : HCfg) (hs : hc.lateStore = false) (ops : List Op) :
    ∀ s, PInv hc s → (∀ op ∈ ops, plainOp op = true) →
    (hexec hc s ops).base = exec hc.cfg s.base (eraseExit hc s ops) := by
  induction ops with
  | nil => intro s _ _; rfl
  | cons op ops ih =>
    intro s h hn
    obtain ⟨h1, e1⟩ := hstep_proj hc hs s op h (hn op (List.mem_cons_self ..))
    have := ih _ h1 (fun o ho => hn o (List.mem_cons_of_mem _ ho))
    simp only [hexec, eraseExit]
    rw [this, e1]
    split
    · rfl
    · rfl

theorem hinit_pinv (hc : HCfg) : PInv hc HState.init :=
  ⟨hinit_inv hc, fun _ => rfl, by intro t u e; cases e⟩

end AsyncVerif.CachedPropertyHandoff
