import AsyncVerif.Proofs.GroupBy
/-!
# groupby against the readable specification `runs` (maximal runs of equal keys)

Two canonical consumers are related to `runs items`:
* the *draining* consumer (`fullOps`): advance the groupby, advance the group until it stops, repeat;
* the *keys-only* consumer: advance the groupby only.

`runs` is a right fold; the machine goes left to right.  `runs_cons` rewrites `runs` as "first item, the rest of its run
(`headRun`), then `runs` of what follows (`afterRun`)", and both consumers are proved by strong induction on the number
of remaining items, one run per step (`afterRun_length_le`).  Everything here is about `stepI`; `stepS` follows by
`run_eq`.
-/
namespace AsyncVerif.GroupBy

/-- values of the leading items of `r` whose key is `k` -/
def headRun (k : Key) (r : List (Val × Key)) : List Val :=
  (r.takeWhile (fun p => decide (p.2 = k))).map (·.1)

/-- what is left of `r` after its leading items with key `k` -/
def afterRun (k : Key) (r : List (Val × Key)) : List (Val × Key) :=
  r.dropWhile (fun p => decide (p.2 = k))

theorem headRun_cons_eq (k : Key) (v : Val) (r : List (Val × Key)) :
    headRun k ((v, k) :: r) = v :: headRun k r := by simp [headRun]

theorem afterRun_cons_eq (k : Key) (v : Val) (r : List (Val × Key)) :
    afterRun k ((v, k) :: r) = afterRun k r := by simp [afterRun]

theorem headRun_cons_ne {k k' : Key} (h : k' ≠ k) (v : Val) (r : List (Val × Key)) :
    headRun k ((v, k') :: r) = [] := by simp [headRun, h]

theorem afterRun_cons_ne {k k' : Key} (h : k' ≠ k) (v : Val) (r : List (Val × Key)) :
    afterRun k ((v, k') :: r) = (v, k') :: r := by simp [afterRun, h]

theorem afterRun_length_le (k : Key) (r : List (Val × Key)) : (afterRun k r).length ≤ r.length :=
  (List.dropWhile_sublist _).length_le

theorem afterRun_head_ne (k : Key) (r : List (Val × Key)) (v' : Val) (k' : Key) (r' : List (Val × Key))
    (h : afterRun k r = (v', k') :: r') : k' ≠ k := by
  have := List.head?_dropWhile_not (fun p : Val × Key => decide (p.2 = k)) r
  rw [show List.dropWhile _ r = _ from h] at this
  exact of_decide_eq_false this

/-- `runs` peels off one maximal run at a time -/
theorem runs_cons (v : Val) (k : Key) (r : List (Val × Key)) :
    runs ((v, k) :: r) = (k, v :: headRun k r) :: runs (afterRun k r) := by
  induction r generalizing v k with
  | nil => rfl
  | cons p r ih =>
    obtain ⟨v', k'⟩ := p
    rw [runs, ih v' k']
    dsimp only
    by_cases hk : k' = k
    · subst hk; rw [headRun_cons_eq, afterRun_cons_eq, if_pos rfl]
    · rw [headRun_cons_ne hk, afterRun_cons_ne hk, if_neg (Ne.symm hk), ih v' k']

theorem run_cons (f : St → Op → St × Out) (s : St) (op : Op) (ops : List Op) :
    run f s (op :: ops) = (f s op).2 :: run f (f s op).1 ops := rfl

theorem scanL_ne {t : Key} {s : St} (h : s.curKey ≠ some t) (l : List (Val × Key)) :
    scanL t l s = ({ s with items := l }, true) := by
  cases l with
  | nil => rw [scanL, if_neg h]
  | cons p r => rw [scanL, if_neg h]

/-- skipping the rest of the current run: `scanL` on a state whose current key is the target -/
theorem scanL_run (k : Key) : ∀ (r : List (Val × Key)) (s : St), s.curKey = some k →
    (afterRun k r = [] → (scanL k r s).2 = false) ∧
    (∀ v' k' r', afterRun k r = (v', k') :: r' →
      scanL k r s = ({ s with items := r', cur := some v', curKey := some k' }, true)) := by
  intro r
  induction r with
  | nil => intro s hk; exact ⟨fun _ => by rw [scanL, if_pos hk], nofun⟩
  | cons p r ih =>
    intro s hk
    obtain ⟨v, k2⟩ := p
    rw [scanL, if_pos hk]
    by_cases h : k2 = k
    · subst h; rw [afterRun_cons_eq]
      exact ih { s with items := r, cur := some v, curKey := some k2 } rfl
    · rw [afterRun_cons_ne h, scanL_ne (fun e => h (Option.some.inj e))]
      exact ⟨nofun, fun v' k' r' e => by cases e; rfl⟩

/-- Advancing the groupby over a buffered item `(v, ck)` with target key `t`: the items of key `t` from
    there on are skipped; the next one, if any, opens a group. -/
theorem adv_buffered (s : St) (v : Val) (ck t : Key) (hc : s.cur = some v) (hk : s.curKey = some ck)
    (ht : s.tgt = some t) :
    (afterRun t ((v, ck) :: s.items) = [] → (advI s).2 = .stop) ∧
    (∀ v' k' r', afterRun t ((v, ck) :: s.items) = (v', k') :: r' →
      advI s = ({ s with items := r', cur := some v', curKey := some k', tgt := some k',
                         grp := some s.groups.length, groups := s.groups ++ [k'] },
                .key k' s.groups.length)) := by
  obtain ⟨r, cur, curKey, tgt, grp, gs⟩ := s
  cases hc; cases hk; cases ht
  have e : advI ⟨r, some v, some ck, some t, grp, gs⟩
      = match scanL t r ⟨r, some v, some ck, some t, none, gs⟩ with
        | (s2, false) => (s2, .stop)
        | (s2, true) => finish s2 := rfl
  rw [e]
  by_cases h : ck = t
  · subst h
    rw [afterRun_cons_eq]
    obtain ⟨h1, h2⟩ := scanL_run ck r ⟨r, some v, some ck, some ck, none, gs⟩ rfl
    refine ⟨fun hr => ?_, fun v' k' r' hr => by rw [h2 v' k' r' hr]; rfl⟩
    have := h1 hr
    revert this
    rcases scanL ck r ⟨r, some v, some ck, some ck, none, gs⟩ with ⟨s2, b⟩
    rintro rfl; rfl
  · rw [afterRun_cons_ne h, scanL_ne (fun e => h (Option.some.inj e))]
    exact ⟨nofun, fun v' k' r' e => by cases e; rfl⟩

theorem adv_init (v : Val) (k : Key) (r : List (Val × Key)) :
    stepI (init ((v, k) :: r)) .adv = (⟨r, some v, some k, some k, some 0, [k]⟩, .key k 0) := rfl

/-! ## the draining consumer -/

/-- advance the groupby, then advance the group until it stops (one more `next` than it has items) -/
def fullOps : Nat → List (Key × List Val) → List Op
  | _, [] => [.adv]
  | g, (_, vs) :: rest => .adv :: (List.replicate (vs.length + 1) (.grpNext g) ++ fullOps (g + 1) rest)

/-- what the draining consumer must see: each run's key with a fresh handle, its items, a stop -/
def fullOuts : Nat → List (Key × List Val) → List Out
  | _, [] => [.stop]
  | g, (k, vs) :: rest => .key k g :: (vs.map .item ++ (.stop :: fullOuts (g + 1) rest))

/-- the state a drained group leaves behind -/
def afterDrain (s : St) (k : Key) (r : List (Val × Key)) : St :=
  match afterRun k r with
  | [] => { s with items := [] }
  | (v', k') :: r' => { s with items := r', cur := some v', curKey := some k' }

/-- draining the current group after its first item was taken -/
theorem drain (k : Key) (g : Nat) (ops : List Op) (tgt : Option Key) (groups : List Key)
    (hgs : groups[g]? = some k) : ∀ r : List (Val × Key),
    run stepI ⟨r, none, some k, tgt, some g, groups⟩
        (List.replicate ((headRun k r).length + 1) (.grpNext g) ++ ops)
      = (headRun k r).map .item
        ++ (.stop :: run stepI (afterDrain ⟨r, none, some k, tgt, some g, groups⟩ k r) ops) := by
  intro r
  induction r with
  | nil => simp [headRun, afterDrain, afterRun, run_cons, stepI, grpNext, step]
  | cons p r ih =>
    obtain ⟨v', k'⟩ := p
    by_cases h : k' = k
    · subst h
      have hstep : stepI ⟨(v', k') :: r, none, some k', tgt, some g, groups⟩ (.grpNext g)
          = (⟨r, none, some k', tgt, some g, groups⟩, .item v') := by
        simp [stepI, grpNext, step, hgs]
      rw [headRun_cons_eq, List.length_cons, List.replicate_succ, List.cons_append, run_cons, hstep, ih]
      simp [afterDrain, afterRun_cons_eq]
    · have hstep : stepI ⟨(v', k') :: r, none, some k, tgt, some g, groups⟩ (.grpNext g)
          = (⟨r, some v', some k', tgt, some g, groups⟩, .stop) := by
        simp [stepI, grpNext, step, hgs, Ne.symm h]
      simp [headRun_cons_ne h, run_cons, hstep, afterDrain, afterRun_cons_ne h]

/-- a group that was just handed out, drained, and everything after it -/
theorem drained_from_group (r : List (Val × Key)) (gs : List Key) (v : Val) (k : Key) :
    run stepI ⟨r, some v, some k, some k, some gs.length, gs ++ [k]⟩
        (List.replicate ((headRun k r).length + 2) (.grpNext gs.length)
          ++ fullOps (gs.length + 1) (runs (afterRun k r)))
      = .item v :: ((headRun k r).map .item
          ++ (.stop :: fullOuts (gs.length + 1) (runs (afterRun k r)))) := by
  induction hn : r.length using Nat.strongRecOn generalizing r gs v k with | _ n ih => ?_
  have hget : (gs ++ [k])[gs.length]? = some k := by simp
  have hstep : stepI ⟨r, some v, some k, some k, some gs.length, gs ++ [k]⟩ (.grpNext gs.length)
      = (⟨r, none, some k, some k, some gs.length, gs ++ [k]⟩, .item v) := by
    simp [stepI, grpNext]
  rw [List.replicate_succ, List.cons_append, run_cons, hstep, drain k gs.length _ _ _ hget]
  congr 3
  -- what follows the drained group
  unfold afterDrain
  cases hr : afterRun k r with
  | nil => rfl
  | cons p r' =>
    obtain ⟨v', k'⟩ := p
    have hne : k' ≠ k := afterRun_head_ne k r v' k' r' hr
    have hlt : r'.length < r.length := by
      have := afterRun_length_le k r
      rw [hr] at this; exact this
    rw [runs_cons, fullOps, fullOuts, run_cons]
    show (advI ⟨r', some v', some k', some k, some gs.length, gs ++ [k]⟩).2
      :: run stepI (advI ⟨r', some v', some k', some k, some gs.length, gs ++ [k]⟩).1 _ = _
    rw [(adv_buffered ⟨r', some v', some k', some k, some gs.length, gs ++ [k]⟩ v' k' k rfl rfl rfl).2
      v' k' r' (afterRun_cons_ne hne v' r')]
    have ih := ih _ (hn ▸ hlt) r' (gs ++ [k]) v' k' rfl
    rw [List.length_append, List.length_singleton] at ih ⊢
    exact congrArg _ ih

/-- stands as `C16_full_consumption` (docstring there) -/
theorem full_consumption (items : List (Val × Key)) :
    run stepI (init items) (fullOps 0 (runs items)) = fullOuts 0 (runs items) := by
  cases items with
  | nil => rfl
  | cons p r =>
    obtain ⟨v, k⟩ := p
    rw [runs_cons, fullOps, fullOuts, run_cons, adv_init, List.length_cons]
    exact congrArg _ (drained_from_group r [] v k)

/-! ## the keys-only consumer -/

/-- what a consumer that only advances the groupby must see: the key of each run, then stop -/
def keyOuts : Nat → List (Key × List Val) → List Out
  | _, [] => [.stop]
  | g, (k, _) :: rest => .key k g :: keyOuts (g + 1) rest

theorem keys_from_group (r : List (Val × Key)) (gs : List Key) (v : Val) (k : Key) (grp : Option Nat) :
    run stepI ⟨r, some v, some k, some k, grp, gs ++ [k]⟩
        (List.replicate ((runs (afterRun k r)).length + 1) .adv)
      = keyOuts (gs.length + 1) (runs (afterRun k r)) := by
  induction hn : r.length using Nat.strongRecOn generalizing r gs v k grp with | _ n ih => ?_
  obtain ⟨h1, h2⟩ := adv_buffered ⟨r, some v, some k, some k, grp, gs ++ [k]⟩ v k k rfl rfl rfl
  rw [afterRun_cons_eq] at h1 h2
  cases hr : afterRun k r with
  | nil => exact congrArg (· :: []) (h1 hr)
  | cons p r' =>
    obtain ⟨v', k'⟩ := p
    have hlt : r'.length < r.length := by
      have := afterRun_length_le k r
      rw [hr] at this; exact this
    rw [runs_cons, List.length_cons, keyOuts, List.replicate_succ, run_cons]
    show (advI _).2 :: run stepI (advI _).1 _ = _
    rw [h2 v' k' r' hr]
    have ih := ih _ (hn ▸ hlt) r' (gs ++ [k]) v' k' (some (gs ++ [k]).length) rfl
    rw [List.length_append, List.length_singleton] at ih ⊢
    exact congrArg _ ih

/-- stands as `C16_keys_only` (docstring there) -/
theorem keys_only (items : List (Val × Key)) :
    run stepI (init items) (List.replicate ((runs items).length + 1) .adv) = keyOuts 0 (runs items) := by
  cases items with
  | nil => rfl
  | cons p r =>
    obtain ⟨v, k⟩ := p
    rw [runs_cons, List.length_cons, keyOuts, List.replicate_succ, run_cons, adv_init]
    exact congrArg _ (keys_from_group r [] v k (some 0))

end AsyncVerif.GroupBy
