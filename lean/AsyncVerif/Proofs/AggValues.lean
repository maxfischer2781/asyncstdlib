import AsyncVerif.Proofs.Core
import AsyncVerif.Impl.Aggregations
import AsyncVerif.Std.AggSpec
/-!
# Value lemmas for the aggregations (C02)

Step lemmas for the primitives in a fault-free world (`pull` on a source that `Feeds` items, `call`
of a pure function), frame facts (what a step leaves unchanged), the loop inductions relating
`Std.*` to `ListSpec.*`, the lifting through `scopedIter`, the pure list facts about the
specifications (first minimal item, stable sort, where a fold fails), and — for every world — the
frame predicate `OnlyConsumes` with its closure lemmas and the loop inductions.

Every loop induction (here and in `Properties/C02.lean`) has the same skeleton: induction on the fuel
(no fuel contradicts the bound), then one round — `pull_nil` ends the loop, `pull_cons` / `pull_key`
deliver the next item to a world that still satisfies the hypotheses, and the induction hypothesis,
with the log of the round moved to its front, is the claim about the rest of the run.
-/
namespace AsyncVerif

open ListSpec

theorem pull_cons {w : World} {s : Nat} {x : Val} {rest : List Val} (h : Feeds w s (x :: rest)) :
    ∃ w', pull s w = (.ok (some x), w') ∧ Feeds w' s rest ∧ w'.fns = w.fns ∧ w'.calls = w.calls
      ∧ w'.cons = w.cons ∧ w'.vis = w.vis ++ [.pull s, .item s x] := by
  have hs := h.script
  have hl := h.live
  simp only [List.map_cons] at hs
  refine ⟨((w.pushVis (.pull s)).setSrc s { (w.srcs s) with script := rest.map Resp.item, status := .running }).pushVis (.item s x),
    by unfold pull; simp only [hl, if_true, hs], ⟨?_, ?_⟩, rfl, rfl, rfl, ?_⟩
  · simp [World.pushVis, World.setSrc]
  · simp [World.pushVis, World.setSrc, Status.live]
  · simp [World.pushVis, World.setSrc]

/-- the end of the source is seen.  The visible log is stated with the (empty) log of the items in the middle, the
    form in which `pullLog s []` and `keyedPullLog s fn kf []` unfold to it. -/
theorem pull_nil {w : World} {s : Nat} (h : Feeds w s []) :
    ∃ w', pull s w = (.ok none, w') ∧ (w'.srcs s).script = [] ∧ w'.vis = w.vis ++ [] ++ endLog s ∧
      (w'.srcs s).status.live = false ∧ (w'.srcs s).kind = (w.srcs s).kind ∧ w'.fns = w.fns ∧ w'.calls = w.calls := by
  have hs : (w.srcs s).script = [] := h.script
  have hstep : pullStep s (w.srcs s) = (.ok none, { w.srcs s with status := .exhausted }, endLog s) := by
    unfold pullStep; rw [if_pos h.live]
    split <;> first | rfl | (rename_i heq; rw [hs] at heq; cases heq)
  refine ⟨w.step s { w.srcs s with status := .exhausted } (endLog s), by rw [pull_eq, hstep], ?_, by rw [List.append_nil]; rfl, ?_, ?_, rfl, rfl⟩ <;>
    simp only [World.step, if_true] <;> first | exact hs | rfl

theorem call_pure {w : World} {f : Nat} {q : List Val → Val} (h : ∀ n, w.fns f n args = .ok (q args)) :
    ∃ w', call f args w = (.ok (q args), w') ∧ w'.srcs = w.srcs ∧ w'.fns = w.fns
      ∧ w'.cons = w.cons ∧ w'.vis = w.vis ++ [.call f args, .ret f (q args)] := by
  refine ⟨({ w with calls := fun i => if i = f then w.calls f + 1 else w.calls i,
                     vis := w.vis ++ [Ev.call f args] } : World).pushVis (.ret f (q args)),
    by unfold call; simp only [h], rfl, rfl, rfl, ?_⟩
  simp [World.pushVis]

theorem keyOf_pure {w : World} {fn : Option Nat} {kf : Val → Val} (h : KeyFn w fn kf) (x : Val) :
    ∃ w', Std.keyOf fn x w = (.ok (kf x), w') ∧ w'.srcs = w.srcs ∧ w'.fns = w.fns ∧ w'.cons = w.cons
      ∧ w'.vis = w.vis ++ keyLog fn kf x := by
  cases fn with
  | none =>
    have : kf x = x := h x
    exact ⟨w, by rw [this]; rfl, rfl, rfl, rfl, (List.append_nil _).symm⟩
  | some f => exact call_pure (q := fun _ => kf x) (fun n => h n x)

theorem Feeds.of_srcs {w w' : World} {s : Nat} {items : List Val} (h : Feeds w s items)
    (e : w'.srcs = w.srcs) : Feeds w' s items := ⟨by rw [e]; exact h.script, by rw [e]; exact h.live⟩

theorem KeyFn.of_fns {w w' : World} {fn : Option Nat} {kf : Val → Val} (h : KeyFn w fn kf)
    (e : w'.fns = w.fns) : KeyFn w' fn kf := by
  cases fn with
  | none => exact h
  | some f => intro n x; rw [e]; exact h n x

theorem PureFn.of_fns {w w' : World} {f : Nat} {q : List Val → Val} (h : PureFn w f q)
    (e : w'.fns = w.fns) : PureFn w' f q := by
  intro n args; rw [e]; exact h n args

theorem pull_kind (s : Nat) (w : World) : ((pull s w).2.srcs s).kind = (w.srcs s).kind := by
  rw [pull_eq]
  exact (congrArg Src.kind (if_pos rfl)).trans (pullStep_kind s _)

theorem pull_key {w : World} {s : Nat} {x : Val} {rest : List Val} {fn : Option Nat} {kf : Val → Val}
    (hf : Feeds w s (x :: rest)) (hk : KeyFn w fn kf) :
    ∃ w1 w2, pull s w = (.ok (some x), w1) ∧ Std.keyOf fn x w1 = (.ok (kf x), w2) ∧ Feeds w2 s rest ∧
      KeyFn w2 fn kf ∧ w2.vis = w.vis ++ ([Ev.pull s, Ev.item s x] ++ keyLog fn kf x) ∧
      (w2.srcs s).kind = (w.srcs s).kind := by
  obtain ⟨w1, hp, hf1, hfn1, -, -, hv1⟩ := pull_cons hf
  obtain ⟨w2, hc, hsr, hfn2, -, hv2⟩ := keyOf_pure (hk.of_fns hfn1) x
  exact ⟨w1, w2, hp, hc, hf1.of_srcs hsr, (hk.of_fns hfn1).of_fns hfn2, by rw [hv2, hv1, List.append_assoc],
    by rw [hsr, ← pull_kind s w, hp]⟩

/-! ## Lifting through `scopedIter`: closing the source changes neither result, visible log nor scripts -/

theorem closeSrc_frame (s : Nat) (w : World) :
    (∀ s', ((closeSrc s w).2.srcs s').script = (w.srcs s').script) ∧ (closeSrc s w).2.fns = w.fns
      ∧ (closeSrc s w).2.calls = w.calls := by
  obtain ⟨r, h⟩ := closeSrc_eq s w
  rw [h]
  refine ⟨fun s' => ?_, rfl, rfl⟩
  dsimp only [World.setSrc]
  split
  · subst_vars; exact closeStep_script _
  · rfl

/-- a model of the form `scopedIter s body` inherits result, remaining script, log and call counters from `body` -/
theorem scopedIter_lift {α : Type} (s : Nat) (body : M α) (w : World) :
    (scopedIter s body w).1 = (body w).1 ∧
    ((scopedIter s body w).2.srcs s).script = ((body w).2.srcs s).script ∧
    (scopedIter s body w).2.vis = (body w).2.vis ∧
    (scopedIter s body w).2.calls = (body w).2.calls := by
  have hq := closeSrc_quiet s (body w).2
  have hf := closeSrc_frame s (body w).2
  unfold scopedIter
  rw [tryFinally_eq, hq.1]
  split
  · exact ⟨rfl, rfl, rfl, rfl⟩
  · exact ⟨rfl, hf.1 s, hq.2.1, hf.2.2⟩

theorem scoped_value {α : Type} {s : Nat} {body : M α} {w : World} {r : Except Exc α} {sc : List Resp} {v : List Ev}
    (h : (body w).1 = r ∧ ((body w).2.srcs s).script = sc ∧ (body w).2.vis = v) :
    (scopedIter s body w).1 = r ∧ ((scopedIter s body w).2.srcs s).script = sc ∧ (scopedIter s body w).2.vis = v := by
  obtain ⟨h1, h2, h3, -⟩ := scopedIter_lift s body w
  rwa [h1, h2, h3]

namespace ListSpec

theorem findIdx_first (p : Val → Bool) : ∀ (pre : List Val) (x : Val) (post : List Val),
    (∀ y ∈ pre, p y = false) → p x = true → (pre ++ x :: post).findIdx p = pre.length
  | [], x, post, _, hx => by simp [List.findIdx_cons, hx]
  | y :: ys, x, post, hpre, hx => by
    simp [List.findIdx_cons, hpre y (by simp), findIdx_first p ys x post (fun z hz => hpre z (by simp [hz])) hx]

theorem findIdx_none (p : Val → Bool) : ∀ (xs : List Val), (∀ y ∈ xs, p y = false) → xs.findIdx p = xs.length
  | [], _ => rfl
  | y :: ys, h => by
    simp [List.findIdx_cons, h y (by simp), findIdx_none p ys (fun z hz => h z (by simp [hz]))]

theorem allConsumed_first_falsy (pre : List Val) (x : Val) (post : List Val)
    (hpre : ∀ y ∈ pre, y.truthy = true) (hx : x.truthy = false) :
    allConsumed (pre ++ x :: post) = pre.length + 1 := by
  unfold allConsumed
  rw [findIdx_first _ pre x post (fun y hy => by simp [hpre y hy]) (by simp [hx])]

theorem allConsumed_all_truthy (items : List Val) (h : ∀ y ∈ items, y.truthy = true) :
    allConsumed items = items.length + 1 := by
  unfold allConsumed
  rw [findIdx_none _ items (fun y hy => by simp [h y hy])]

theorem anyConsumed_first_truthy (pre : List Val) (x : Val) (post : List Val)
    (hpre : ∀ y ∈ pre, y.truthy = false) (hx : x.truthy = true) :
    anyConsumed (pre ++ x :: post) = pre.length + 1 := by
  unfold anyConsumed
  rw [findIdx_first _ pre x post hpre hx]

theorem anyConsumed_all_falsy (items : List Val) (h : ∀ y ∈ items, y.truthy = false) :
    anyConsumed items = items.length + 1 := by
  unfold anyConsumed
  rw [findIdx_none _ items h]

end ListSpec

theorem collectAll_value (s : Nat) : ∀ (fuel : Nat) (items acc : List Val) (w : World),
    Feeds w s items → items.length < fuel →
    (Std.collectAll s acc fuel w).1 = .ok (acc ++ items) ∧
    ((Std.collectAll s acc fuel w).2.srcs s).script = [] ∧
    (Std.collectAll s acc fuel w).2.vis = w.vis ++ pullLog s items ++ endLog s := by
  intro fuel
  induction fuel with
  | zero => intro _ _ _ _ h; exact absurd h (Nat.not_lt_zero _)
  | succ fuel ih =>
    intro items acc w hf hlt
    cases items with
    | nil =>
      obtain ⟨w', hp, hs, hv, -⟩ := pull_nil hf
      simp only [Std.collectAll, bind_apply, hp]
      exact ⟨by rw [List.append_nil]; rfl, hs, hv⟩
    | cons x rest =>
      obtain ⟨w', hp, hf', -, -, -, hv⟩ := pull_cons hf
      have ih := ih rest (acc ++ [x]) w' hf' (Nat.lt_of_succ_lt_succ hlt)
      rw [hv, List.append_assoc w.vis, List.append_assoc acc] at ih
      simp only [Std.collectAll, bind_apply, hp]
      exact ih

theorem liftExc_apply {α : Type} (r : Except Exc α) (w : World) : liftExc r w = (r, w) := by
  cases r <;> rfl

namespace ListSpec

theorem foldAdd_append : ∀ (a b : List Val) (t : Val),
    foldAdd t (a ++ b) = (match foldAdd t a with | .ok t' => foldAdd t' b | .error e => .error e)
  | [], _, _ => rfl
  | x :: xs, b, t => by
    simp only [List.cons_append, foldAdd]
    cases t.add x with
    | ok t1 => exact foldAdd_append xs b t1
    | error e => rfl

theorem foldAdd_eq_foldlM : ∀ (xs : List Val) (t : Val), foldAdd t xs = xs.foldlM Val.add t
  | [], _ => rfl
  | x :: xs, t => by
    simp only [foldAdd, List.foldlM_cons]
    cases t.add x with
    | ok t1 => exact foldAdd_eq_foldlM xs t1
    | error e => rfl

theorem add_error (a b : Val) (e : Exc) (h : a.add b = .error e) : e = .typeError := by
  unfold Val.add at h
  split at h <;> first | (injection h with h; exact h.symm) | simp at h

/-- **the sum fails exactly when some addition of the fold fails** — at the first such position,
    with that addition's error (always `TypeError`) -/
theorem foldAdd_error_iff (e : Exc) : ∀ (xs : List Val) (t : Val),
    foldAdd t xs = .error e ↔
      ∃ pre x post t', xs = pre ++ x :: post ∧ foldAdd t pre = .ok t' ∧ t'.add x = .error e := by
  intro xs t
  constructor
  · induction xs generalizing t with
    | nil => intro h; simp [foldAdd] at h
    | cons x xs ih =>
      intro h
      simp only [foldAdd] at h
      cases hadd : t.add x with
      | error e' =>
        rw [hadd] at h
        exact ⟨[], x, xs, t, rfl, rfl, hadd.trans h⟩
      | ok t1 =>
        rw [hadd] at h
        obtain ⟨pre, y, post, t', h1, h2, h3⟩ := ih t1 h
        exact ⟨x :: pre, y, post, t', by rw [h1]; rfl, by simp only [foldAdd, hadd]; exact h2, h3⟩
  · rintro ⟨pre, x, post, t', h1, h2, h3⟩
    rw [h1, foldAdd_append, h2]
    simp only [foldAdd, h3]

theorem foldAdd_error_typeError (e : Exc) (xs : List Val) (t : Val) (h : foldAdd t xs = .error e) :
    e = .typeError := by
  obtain ⟨_, x, _, t', _, _, h3⟩ := (foldAdd_error_iff e xs t).mp h
  exact add_error t' x e h3

theorem foldAdd_ints : ∀ (ns : List Int) (a : Int),
    foldAdd (.int a) (ns.map Val.int) = .ok (.int (ns.foldl (· + ·) a))
  | [], _ => rfl
  | n :: ns, a => foldAdd_ints ns (a + n)

end ListSpec

theorem sumLoop_error (s : Nat) (x : Val) (post : List Val) (e : Exc) :
    ∀ (fuel : Nat) (pre : List Val) (total t : Val) (w : World),
    Feeds w s (pre ++ x :: post) → foldAdd total pre = .ok t → t.add x = .error e →
    pre.length < fuel →
    (Std.sumLoop s total fuel w).1 = .error e ∧
    ((Std.sumLoop s total fuel w).2.srcs s).script = post.map Resp.item ∧
    (Std.sumLoop s total fuel w).2.vis = w.vis ++ pullLog s (pre ++ [x]) := by
  intro fuel
  induction fuel with
  | zero => intro _ _ _ _ _ _ _ h; exact absurd h (Nat.not_lt_zero _)
  | succ fuel ih =>
    intro pre total t w hf hfold hadd hlt
    cases pre with
    | nil =>
      obtain ⟨w', hp, hf', -, -, -, hv⟩ := pull_cons hf
      cases hfold
      simp [Std.sumLoop, bind_apply, hp, liftExc_apply, hadd, hf'.script, hv, pullLog]
    | cons y pre =>
      obtain ⟨w', hp, hf', -, -, -, hv⟩ := pull_cons hf
      simp only [foldAdd] at hfold
      cases hy : total.add y with
      | error e' => rw [hy] at hfold; cases hfold
      | ok t1 =>
        rw [hy] at hfold
        simpa [Std.sumLoop, bind_apply, hp, liftExc_apply, hy, hv, pullLog] using
          ih pre t1 t w' hf' hfold hadd (Nat.lt_of_succ_lt_succ hlt)

theorem reduceLoop_value (f s : Nat) (q : List Val → Val) : ∀ (fuel : Nat) (items : List Val) (acc : Val) (w : World),
    Feeds w s items → PureFn w f q → items.length < fuel →
    (Std.reduceLoop f s acc fuel w).1 = .ok (items.foldl (fun a x => q [a, x]) acc) ∧
    ((Std.reduceLoop f s acc fuel w).2.srcs s).script = [] ∧
    (Std.reduceLoop f s acc fuel w).2.vis = w.vis ++ reduceLog s f q acc items := by
  intro fuel
  induction fuel with
  | zero => intro _ _ _ _ _ h; exact absurd h (Nat.not_lt_zero _)
  | succ fuel ih =>
    intro items acc w hf hq hlt
    cases items with
    | nil =>
      obtain ⟨w', hp, hs, hv, -⟩ := pull_nil hf
      simp only [Std.reduceLoop, bind_apply, hp]
      exact ⟨rfl, hs, hv.trans (by rw [List.append_nil]; rfl)⟩
    | cons x rest =>
      obtain ⟨w', hp, hf', hfn, -, -, hv⟩ := pull_cons hf
      obtain ⟨w'', hc, hsr, hfn2, -, hv2⟩ := call_pure (args := [acc, x]) (fun n => (hq.of_fns hfn) n _)
      have ih := ih rest (q [acc, x]) w'' (hf'.of_srcs hsr) ((hq.of_fns hfn).of_fns hfn2) (Nat.lt_of_succ_lt_succ hlt)
      rw [hv2, hv, List.append_assoc, List.append_assoc] at ih
      simp only [Std.reduceLoop, bind_apply, hp, hc]
      exact ih

theorem Val.lt_orderable {a b : Val} (ha : a.orderable = true) (hb : b.orderable = true) :
    Val.lt a b = .ok (decide (a.ikey < b.ikey)) := by
  unfold Val.orderable at ha hb
  unfold Val.lt Val.ikey
  cases h1 : a.key? with
  | none => simp [h1] at ha
  | some x =>
    cases h2 : b.key? with
    | none => simp [h2] at hb
    | some y => rfl

namespace ListSpec

theorem firstMinFrom_spec (ik : Val → Int) : ∀ (xs : List Val) (best : Val),
    ∃ pre post, best :: xs = pre ++ firstMinFrom ik best xs :: post ∧
      (∀ y ∈ pre, ik (firstMinFrom ik best xs) < ik y) ∧ (∀ y ∈ post, ik (firstMinFrom ik best xs) ≤ ik y)
  | [], best => ⟨[], [], rfl, nofun, nofun⟩
  | x :: xs, best => by
    unfold firstMinFrom
    split
    · -- `x` takes over: the result is at most `x`, hence strictly below `best`
      rename_i hlt
      obtain ⟨pre, post, hxs, hpre, hpost⟩ := firstMinFrom_spec ik xs x
      refine ⟨best :: pre, post, by rw [hxs]; rfl, ?_, hpost⟩
      have hx : x ∈ pre ++ firstMinFrom ik x xs :: post := hxs ▸ List.mem_cons_self
      have hle : ik (firstMinFrom ik x xs) ≤ ik x := by
        rcases List.mem_append.mp hx with h | h
        · exact Int.le_of_lt (hpre x h)
        · rcases List.mem_cons.mp h with h | h
          · rw [← h]; exact Int.le_refl _
          · exact hpost x h
      intro y hy
      rcases List.mem_cons.mp hy with rfl | h
      · exact Int.lt_of_le_of_lt hle hlt
      · exact hpre y h
    · -- `best` stays: `x` goes right behind it, before or after the result
      rename_i hlt
      obtain ⟨pre, post, hxs, hpre, hpost⟩ := firstMinFrom_spec ik xs best
      cases pre with
      | nil =>
        obtain ⟨hr, rfl⟩ := List.cons.inj hxs
        refine ⟨[], x :: xs, by rw [← hr]; rfl, nofun, ?_⟩
        intro y hy
        rcases List.mem_cons.mp hy with rfl | h
        · rw [← hr]; exact Int.not_lt.mp hlt
        · exact hpost y h
      | cons p pre =>
        obtain ⟨rfl, hxs'⟩ := List.cons.inj hxs
        refine ⟨best :: x :: pre, post, congrArg (best :: x :: ·) hxs', ?_, hpost⟩
        intro y hy
        rcases List.mem_cons.mp hy with rfl | h
        · exact hpre y List.mem_cons_self
        · rcases List.mem_cons.mp h with rfl | h
          · exact Int.lt_of_lt_of_le (hpre best List.mem_cons_self) (Int.not_lt.mp hlt)
          · exact hpre y (List.mem_cons_of_mem _ h)

theorem firstMaxFrom_eq_neg (ik : Val → Int) : ∀ (xs : List Val) (best : Val),
    firstMaxFrom ik best xs = firstMinFrom (fun x => - ik x) best xs := by
  intro xs
  induction xs with
  | nil => intro best; rfl
  | cons x xs ih =>
    intro best
    simp only [firstMaxFrom, firstMinFrom, ih, Int.neg_lt_neg_iff]

/-- **`min` is the first minimal item**: the result is an item of the input at a definite position,
    every earlier item has a strictly larger key, no later item has a smaller key -/
theorem firstMin_spec (ik : Val → Int) (items : List Val) (r : Val) (h : firstMin ik items = some r) :
    ∃ pre post, items = pre ++ r :: post ∧ (∀ y ∈ pre, ik r < ik y) ∧ (∀ y ∈ post, ik r ≤ ik y) := by
  cases items with
  | nil => cases h
  | cons x xs => cases h; exact firstMinFrom_spec ik xs x

/-- **`max` is the first maximal item**: every earlier item has a strictly smaller key, no later
    item has a larger key -/
theorem firstMax_spec (ik : Val → Int) (items : List Val) (r : Val) (h : firstMax ik items = some r) :
    ∃ pre post, items = pre ++ r :: post ∧ (∀ y ∈ pre, ik y < ik r) ∧ (∀ y ∈ post, ik y ≤ ik r) := by
  have h' : firstMin (fun x => - ik x) items = some r := by
    cases items with
    | nil => simp [firstMax] at h
    | cons x xs => simpa [firstMax, firstMin, firstMaxFrom_eq_neg] using h
  obtain ⟨pre, post, h1, h2, h3⟩ := firstMin_spec _ items r h'
  exact ⟨pre, post, h1, fun y hy => by have := h2 y hy; omega, fun y hy => by have := h3 y hy; omega⟩

end ListSpec

/-- the `min_max` loop, for arbitrary keys (orderable or not): the outcome — value or `TypeError` —
    is the list-level scan; on success everything was consumed and the key was applied once to each
    item as it arrived -/
theorem mmLoop_scan (fn : Option Nat) (isMax : Bool) (s : Nat) (kf : Val → Val) :
    ∀ (fuel : Nat) (items : List Val) (best : Val) (w : World),
    Feeds w s items → KeyFn w fn kf → items.length < fuel →
    (Std.mmLoop fn isMax s best (kf best) fuel w).1 = scanBest isMax kf best items ∧
    (∀ v, scanBest isMax kf best items = .ok v →
      ((Std.mmLoop fn isMax s best (kf best) fuel w).2.srcs s).script = [] ∧
      (Std.mmLoop fn isMax s best (kf best) fuel w).2.vis =
        w.vis ++ keyedPullLog s fn kf items ++ endLog s) := by
  intro fuel
  induction fuel with
  | zero => intro _ _ _ _ _ h; exact absurd h (Nat.not_lt_zero _)
  | succ fuel ih =>
    intro items best w hf hk hlt
    cases items with
    | nil =>
      obtain ⟨w', hp, hs, hv, -⟩ := pull_nil hf
      simp only [Std.mmLoop, bind_apply, hp]
      exact ⟨rfl, fun _ _ => ⟨hs, hv⟩⟩
    | cons x rest =>
      obtain ⟨w1, w2, hp, hc, hf2, hk2, hv, -⟩ := pull_key hf hk
      have ih := fun b => ih rest b w2 hf2 hk2 (Nat.lt_of_succ_lt_succ hlt)
      rw [hv, List.append_assoc w.vis] at ih
      simp only [Std.mmLoop, bind_apply, hp, hc, liftExc_apply, scanBest]
      cases (if isMax = true then Val.lt (kf best) (kf x) else Val.lt (kf x) (kf best)) with
      | error e => exact ⟨rfl, fun _ h => nomatch h⟩
      | ok b => cases b <;> exact ih _

namespace ListSpec

theorem scanBest_orderable (isMax : Bool) (kf : Val → Val) : ∀ (xs : List Val) (best : Val),
    (kf best).orderable = true → (∀ x ∈ xs, (kf x).orderable = true) →
    scanBest isMax kf best xs =
      .ok (if isMax then firstMaxFrom (fun x => (kf x).ikey) best xs
           else firstMinFrom (fun x => (kf x).ikey) best xs) := by
  intro xs
  induction xs with
  | nil => intro best _ _; cases isMax <;> rfl
  | cons x xs ih =>
    intro best hb hall
    have hx : (kf x).orderable = true := hall x (by simp)
    have hrest : ∀ y ∈ xs, (kf y).orderable = true := fun y hy => hall y (by simp [hy])
    cases isMax with
    | true =>
      simp only [scanBest, if_true, Val.lt_orderable hb hx, firstMaxFrom]
      by_cases hcmp : (kf best).ikey < (kf x).ikey
      · simpa [hcmp] using ih x hx hrest
      · simpa [hcmp] using ih best hb hrest
    | false =>
      simp only [scanBest, Bool.false_eq_true, if_false, Val.lt_orderable hx hb, firstMinFrom]
      by_cases hcmp : (kf x).ikey < (kf best).ikey
      · simpa [hcmp] using ih x hx hrest
      · simpa [hcmp] using ih best hb hrest

theorem lt_error (a b : Val) (e : Exc) (h : Val.lt a b = .error e) : e = .typeError := by
  unfold Val.lt at h
  split at h <;> first | (injection h with h; exact h.symm) | simp at h

theorem scanBest_error (isMax : Bool) (kf : Val → Val) (e : Exc) : ∀ (xs : List Val) (best : Val),
    scanBest isMax kf best xs = .error e → e = .typeError := by
  intro xs
  induction xs with
  | nil => intro best h; simp [scanBest] at h
  | cons x xs ih =>
    intro best h
    simp only [scanBest] at h
    cases hcmp : (if isMax = true then Val.lt (kf best) (kf x) else Val.lt (kf x) (kf best)) with
    | error e' =>
      rw [hcmp] at h
      cases h
      cases isMax
      · exact lt_error _ _ _ (by simpa using hcmp)
      · exact lt_error _ _ _ (by simpa using hcmp)
    | ok b =>
      rw [hcmp] at h
      cases b
      · exact ih best h
      · exact ih x h

theorem scanBest_unorderable (isMax : Bool) (kf : Val → Val) (best x : Val) (xs : List Val)
    (h : (kf best).orderable = false ∨ (kf x).orderable = false) :
    scanBest isMax kf best (x :: xs) = .error .typeError := by
  have hlt : ∀ a b : Val, (a.orderable = false ∨ b.orderable = false) → Val.lt a b = .error .typeError := by
    intro a b hab
    unfold Val.orderable at hab
    unfold Val.lt
    cases h1 : a.key? with
    | none => rfl
    | some k1 =>
      cases h2 : b.key? with
      | none => rfl
      | some k2 => simp [h1, h2] at hab
  cases isMax
  · simp [scanBest, hlt (kf x) (kf best) h.symm]
  · simp [scanBest, hlt (kf best) (kf x) h]

end ListSpec

theorem minmax_scan (fn : Option Nat) (isMax : Bool) (default : Option Val) (s : Nat) (kf : Val → Val)
    (x : Val) (rest : List Val) (fuel : Nat) (w : World)
    (hf : Feeds w s (x :: rest)) (hk : KeyFn w fn kf) (hlt : rest.length < fuel) :
    (Std.minmax fn isMax default s fuel w).1 = scanBest isMax kf x rest ∧
    (∀ v, scanBest isMax kf x rest = .ok v →
      ((Std.minmax fn isMax default s fuel w).2.srcs s).script = [] ∧
      (Std.minmax fn isMax default s fuel w).2.vis =
        w.vis ++ keyedPullLog s fn kf (x :: rest) ++ endLog s) := by
  obtain ⟨w1, w2, hp, hc, hf2, hk2, hv, -⟩ := pull_key hf hk
  have h := mmLoop_scan fn isMax s kf fuel rest x w2 hf2 hk2 hlt
  rw [hv, List.append_assoc w.vis] at h
  simp only [Std.minmax, bind_apply, hp, hc]
  exact h

/-- empty input, **whatever the key callable does**: the default comes back as the very same
    value, the only visible events are the pull and the end of the source (no `call` event: `key` is
    never applied to the default), no call counter moves; without default: `ValueError` -/
theorem minmax_empty (fn : Option Nat) (isMax : Bool) (default : Option Val) (s fuel : Nat) (w : World)
    (hf : Feeds w s []) :
    (Std.minmax fn isMax default s fuel w).1 = (match default with | some d => .ok d | none => .error .valueError) ∧
    (Std.minmax fn isMax default s fuel w).2.vis = w.vis ++ endLog s ∧
    (Std.minmax fn isMax default s fuel w).2.calls = w.calls ∧
    ((Std.minmax fn isMax default s fuel w).2.srcs s).script = [] := by
  obtain ⟨w', hp, hs, hv, -, -, -, hcalls⟩ := pull_nil hf
  cases default <;> simp [Std.minmax, bind_apply, hp, raise, pure_apply, hs, hv, hcalls, endLog]

theorem collectKeyed_value (fn : Option Nat) (s : Nat) (kf : Val → Val) :
    ∀ (fuel : Nat) (items : List Val) (acc : List (Val × Val)) (w : World),
    Feeds w s items → KeyFn w fn kf → items.length < fuel →
    (Std.collectKeyed fn s acc fuel w).1 = .ok (acc ++ items.map (fun x => (kf x, x))) ∧
    ((Std.collectKeyed fn s acc fuel w).2.srcs s).script = [] ∧
    (Std.collectKeyed fn s acc fuel w).2.vis = w.vis ++ keyedPullLog s fn kf items ++ endLog s := by
  intro fuel
  induction fuel with
  | zero => intro _ _ _ _ _ h; exact absurd h (Nat.not_lt_zero _)
  | succ fuel ih =>
    intro items acc w hf hk hlt
    cases items with
    | nil =>
      obtain ⟨w', hp, hs, hv, -⟩ := pull_nil hf
      simp only [Std.collectKeyed, bind_apply, hp]
      exact ⟨by rw [List.map_nil, List.append_nil]; rfl, hs, hv⟩
    | cons x rest =>
      obtain ⟨w1, w2, hp, hc, hf2, hk2, hv, -⟩ := pull_key hf hk
      have ih := ih rest (acc ++ [(kf x, x)]) w2 hf2 hk2 (Nat.lt_of_succ_lt_succ hlt)
      rw [hv, List.append_assoc w.vis, List.append_assoc acc] at ih
      simp only [Std.collectKeyed, bind_apply, hp, hc]
      exact ih

theorem keyLe_orderable {a b : Val} (ha : a.orderable = true) (hb : b.orderable = true) :
    Std.keyLe a b = decide (a.ikey ≤ b.ikey) := by
  unfold Val.orderable at ha hb
  unfold Std.keyLe Val.ikey
  cases h1 : a.key? with
  | none => simp [h1] at ha
  | some x =>
    cases h2 : b.key? with
    | none => simp [h2] at hb
    | some y => rfl

/-- `list.sort` on the `(key, item)` pairs of items with orderable keys: no `TypeError`, and the
    items come out as the stable merge sort by integer key -/
theorem sortKeyed_value (reverse : Bool) (kf : Val → Val) (items : List Val)
    (hall : ∀ x ∈ items, (kf x).orderable = true) :
    Std.sortKeyed reverse (items.map (fun x => (kf x, x))) =
      .ok (ListSpec.sorted reverse (fun x => (kf x).ikey) items) := by
  have hany : (items.map (fun x => (kf x, x))).any (fun p => p.1.key?.isNone) = false := by
    rw [List.any_eq_false]
    intro p hp
    obtain ⟨x, hx, rfl⟩ := List.mem_map.mp hp
    have := hall x hx
    unfold Val.orderable at this
    simp [Option.isSome_iff_ne_none.mp this]
  have hsnd : (items.map (fun x => (kf x, x))).map (·.2) = items := by simp [List.map_map, Function.comp_def]
  have hle : ∀ a ∈ items.map (fun x => (kf x, x)), ∀ b ∈ items.map (fun x => (kf x, x)),
      Std.keyLe a.1 b.1 = decide ((kf a.2).ikey ≤ (kf b.2).ikey) := by
    intro a ha b hb
    obtain ⟨x, hx, rfl⟩ := List.mem_map.mp ha
    obtain ⟨y, hy, rfl⟩ := List.mem_map.mp hb
    exact keyLe_orderable (hall x hx) (hall y hy)
  unfold Std.sortKeyed ListSpec.sorted
  simp only [hany, Bool.false_eq_true, and_false, if_false]
  congr 1
  cases reverse
  · simp only [Bool.false_eq_true, if_false]
    rw [List.map_mergeSort (s := sortLe false (fun x => (kf x).ikey)) hle, hsnd]
  · simp only [if_true]
    rw [List.map_mergeSort (s := sortLe true (fun x => (kf x).ikey)) (fun a ha b hb => hle b hb a ha), hsnd]

namespace ListSpec

theorem sortLe_trans (reverse : Bool) (ik : Val → Int) (a b c : Val) :
    sortLe reverse ik a b = true → sortLe reverse ik b c = true → sortLe reverse ik a c = true := by
  cases reverse <;> simp only [sortLe, if_true, if_false, Bool.false_eq_true, decide_eq_true_eq] <;> omega

theorem sortLe_total (reverse : Bool) (ik : Val → Int) (a b : Val) :
    (sortLe reverse ik a b || sortLe reverse ik b a) = true := by
  cases reverse <;> simp only [sortLe, if_true, if_false, Bool.false_eq_true, Bool.or_eq_true, decide_eq_true_eq] <;> omega

theorem sorted_perm (reverse : Bool) (ik : Val → Int) (items : List Val) :
    (sorted reverse ik items).Perm items := List.mergeSort_perm items _

theorem sorted_pairwise (reverse : Bool) (ik : Val → Int) (items : List Val) :
    (sorted reverse ik items).Pairwise (fun a b => if reverse then ik b ≤ ik a else ik a ≤ ik b) := by
  have := List.pairwise_mergeSort (le := sortLe reverse ik) (sortLe_trans reverse ik) (sortLe_total reverse ik) items
  refine this.imp ?_
  intro a b h
  cases reverse <;> simpa [sortLe] using h

/-- stability (core form): any sublist of the input that is already in order is still a sublist
    of the output -/
theorem sorted_sublist (reverse : Bool) (ik : Val → Int) (items c : List Val)
    (hc : c.Pairwise (fun a b => sortLe reverse ik a b = true)) (hsub : c.Sublist items) :
    c.Sublist (sorted reverse ik items) :=
  List.sublist_mergeSort (sortLe_trans reverse ik) (sortLe_total reverse ik) hc hsub

/-- **stability, both directions**: for every key `k`, the items with key `k` appear in the output
    in exactly their input order -/
theorem sorted_stable (reverse : Bool) (ik : Val → Int) (items : List Val) (k : Int) :
    (sorted reverse ik items).filter (fun x => ik x == k) = items.filter (fun x => ik x == k) := by
  have hsub : (items.filter (fun x => ik x == k)).Sublist (sorted reverse ik items) := by
    apply sorted_sublist reverse ik items _ _ List.filter_sublist
    rw [List.pairwise_iff_forall_sublist]
    intro a b hab
    have ha : a ∈ items.filter (fun x => ik x == k) := hab.subset (by simp)
    have hb : b ∈ items.filter (fun x => ik x == k) := hab.subset (by simp)
    simp only [List.mem_filter, beq_iff_eq] at ha hb
    cases reverse <;> simp [sortLe, ha.2, hb.2]
  have hsub2 := hsub.filter (fun x => ik x == k)
  rw [List.filter_filter] at hsub2
  simp only [Bool.and_self] at hsub2
  have hlen : ((sorted reverse ik items).filter (fun x => ik x == k)).length
      = (items.filter (fun x => ik x == k)).length :=
    ((sorted_perm reverse ik items).filter _).length_eq
  exact (hsub2.eq_of_length hlen.symm).symm

end ListSpec

/-- a list of at most one `(key, item)` pair is returned as it is — no comparison, no `TypeError`,
    whatever the key -/
theorem sortKeyed_short (reverse : Bool) (l : List (Val × Val)) (h : l.length ≤ 1) :
    Std.sortKeyed reverse l = .ok (l.map (·.2)) := by
  match l, h with
  | [], _ => cases reverse <;> simp [Std.sortKeyed]
  | [p], _ => cases reverse <;> simp [Std.sortKeyed]

theorem sortKeyed_typeError (reverse : Bool) (kf : Val → Val) (items : List Val)
    (hlen : 2 ≤ items.length) (hbad : ∃ x ∈ items, (kf x).orderable = false) :
    Std.sortKeyed reverse (items.map (fun x => (kf x, x))) = .error .typeError := by
  obtain ⟨x, hx, hxo⟩ := hbad
  have hany : (items.map (fun x => (kf x, x))).any (fun p => p.1.key?.isNone) = true := by
    rw [List.any_eq_true]
    refine ⟨(kf x, x), List.mem_map.mpr ⟨x, hx, rfl⟩, ?_⟩
    unfold Val.orderable at hxo
    simpa using hxo
  unfold Std.sortKeyed
  simp [hany, hlen]

theorem bind_ok {α β : Type} {m : M α} {f : α → M β} {w w' : World} {b : β} (h : (m >>= f) w = (.ok b, w')) :
    ∃ a w1, m w = (.ok a, w1) ∧ f a w1 = (.ok b, w') := by
  rw [bind_apply] at h
  generalize m w = p at h ⊢
  obtain ⟨r, w1⟩ := p
  cases r with
  | error e => cases h
  | ok a => exact ⟨a, w1, rfl, h⟩

theorem bind_const_apply {α β : Type} (m : M α) {f : α → M β} {g : α → Except Exc β}
    (hf : ∀ x w, f x w = (g x, w)) (w : World) :
    (m >>= f) w = (match (m w).1 with | .ok a => g a | .error e => .error e, (m w).2) := by
  rw [bind_apply]
  rcases m w with ⟨r, w1⟩
  cases r with
  | ok a => exact hf a w1
  | error e => rfl

theorem bind_pure_value {α β : Type} {s : Nat} {m : M α} {f : α → β} {w : World} {a : α} {sc : List Resp} {v : List Ev}
    (h : (m w).1 = .ok a ∧ ((m w).2.srcs s).script = sc ∧ (m w).2.vis = v) :
    ((m >>= fun x => pure (f x)) w).1 = .ok (f a) ∧ (((m >>= fun x => pure (f x)) w).2.srcs s).script = sc ∧
      ((m >>= fun x => pure (f x)) w).2.vis = v := by
  rw [bind_const_apply m (f := fun x => pure (f x)) (g := fun x => .ok (f x)) (fun _ _ => rfl), h.1]
  exact ⟨rfl, h.2⟩

/-- the continuation shared by `Std.sorted` and `Impl.sorted`: sort the collected pairs, outside any scope -/
theorem sortKeyed_bind (reverse : Bool) (keyed : List (Val × Val)) (w : World) :
    (liftExc (Std.sortKeyed reverse keyed) >>= fun r => pure (Val.lst r)) w =
      (match Std.sortKeyed reverse keyed with | .ok r => .ok (.lst r) | .error e => .error e, w) := by
  rw [bind_apply, liftExc_apply]
  cases Std.sortKeyed reverse keyed <;> rfl

/-- `sorted`, for arbitrary keys and for any way `collect` of collecting the `(key(x), x)` pairs (the bare loop of
    CPython's algorithm, the scoped loop of asyncstdlib's): the outcome is `list.sort` applied to the pairs;
    script and log are left as the collection left them -/
theorem sorted_of_collect (reverse : Bool) (s : Nat) (collect : M (List (Val × Val))) (w : World)
    {keyed : List (Val × Val)} {vis : List Ev}
    (h : (collect w).1 = .ok keyed ∧ ((collect w).2.srcs s).script = [] ∧ (collect w).2.vis = vis) :
    ((collect >>= fun keyed => liftExc (Std.sortKeyed reverse keyed) >>= fun r => pure (Val.lst r)) w).1 =
      (match Std.sortKeyed reverse keyed with | .ok r => .ok (.lst r) | .error e => .error e) ∧
    (((collect >>= fun keyed => liftExc (Std.sortKeyed reverse keyed) >>= fun r => pure (Val.lst r)) w).2.srcs s).script = [] ∧
    ((collect >>= fun keyed => liftExc (Std.sortKeyed reverse keyed) >>= fun r => pure (Val.lst r)) w).2.vis = vis := by
  rw [bind_const_apply _ (sortKeyed_bind reverse), h.1]
  exact ⟨rfl, h.2⟩

theorem twin_bind_const {α β : Type} {a b : M α} (h : Twin a b) {f : α → M β} {g : α → Except Exc β}
    (hf : ∀ x w, f x w = (g x, w)) : Twin (a >>= f) (b >>= f) := by
  intro w
  rw [bind_const_apply a hf, bind_const_apply b hf, (h w).1]
  exact ⟨rfl, (h w).2⟩

theorem impl_sorted_twin (fn : Option Nat) (reverse : Bool) (s fuel : Nat) :
    Twin (Impl.sorted fn reverse s fuel) (Std.sorted fn reverse s fuel) :=
  twin_bind_const (scopedIter_twin s _) (sortKeyed_bind reverse)

/-! ## Frame, every world: an aggregation only consumes from its source -/

/-- `OnlyConsumes s m` says `OCAt s w (m w).2` of every `w`: as a relation between two worlds the three facts
    compose (`OCAt.trans`), which is how `oc_bind`, `oc_tryFinally` are proved -/
def OCAt (s : Nat) (w w' : World) : Prop :=
  (∀ s', s' ≠ s → w'.srcs s' = w.srcs s') ∧ w'.fns = w.fns ∧ (w'.srcs s).script <:+ (w.srcs s).script

theorem OCAt.refl (s : Nat) (w : World) : OCAt s w w := ⟨fun _ _ => rfl, rfl, List.suffix_refl _⟩

theorem OCAt.trans {s : Nat} {w w1 w2 : World} (h1 : OCAt s w w1) (h2 : OCAt s w1 w2) : OCAt s w w2 :=
  ⟨fun s' hs' => (h2.1 s' hs').trans (h1.1 s' hs'), h2.2.1.trans h1.2.1, h2.2.2.trans h1.2.2⟩

theorem OCAt.setSrc {s : Nat} {w : World} {x : Src} (h : x.script <:+ (w.srcs s).script) {calls cons vis rel} :
    OCAt s w { w.setSrc s x with calls := calls, cons := cons, vis := vis, rel := rel } :=
  ⟨fun s' hs' => by simp [World.setSrc, hs'], rfl, by simpa [World.setSrc] using h⟩

theorem OnlyConsumes.of_at {α : Type} {s : Nat} {m : M α} (h : ∀ w, OCAt s w (m w).2) : OnlyConsumes s m :=
  ⟨fun w => (h w).1, fun w => (h w).2.1, fun w => (h w).2.2⟩

theorem OnlyConsumes.at {α : Type} {s : Nat} {m : M α} (h : OnlyConsumes s m) (w : World) : OCAt s w (m w).2 :=
  ⟨h.others w, h.fns w, h.suffix w⟩

theorem oc_pure {α : Type} (s : Nat) (a : α) : OnlyConsumes s (pure a : M α) :=
  .of_at fun w => OCAt.refl s w

theorem oc_raise {α : Type} (s : Nat) (e : Exc) : OnlyConsumes s (raise e : M α) :=
  .of_at fun w => OCAt.refl s w

theorem oc_liftExc {α : Type} (s : Nat) (r : Except Exc α) : OnlyConsumes s (liftExc r) :=
  .of_at fun w => by rw [liftExc_apply]; exact OCAt.refl s w

theorem oc_bind {α β : Type} {s : Nat} {m : M α} {f : α → M β} (hm : OnlyConsumes s m)
    (hf : ∀ a, OnlyConsumes s (f a)) : OnlyConsumes s (m >>= f) := by
  refine .of_at fun w => ?_
  have h1 := hm.at w
  rw [bind_apply]
  generalize m w = p at h1
  obtain ⟨r, w1⟩ := p
  cases r with
  | error e => exact h1
  | ok a => exact h1.trans ((hf a).at w1)

theorem oc_pull (s : Nat) : OnlyConsumes s (pull s) := by
  refine .of_at fun w => ?_
  unfold pull
  dsimp only
  split
  · split
    · exact OCAt.setSrc (by simp [*])
    · exact OCAt.setSrc (by simp [*])
    · exact OCAt.setSrc (by exact List.suffix_refl _)
  · split <;> exact OCAt.refl s w

theorem oc_call (s f : Nat) (args : List Val) : OnlyConsumes s (call f args) := by
  refine .of_at fun w => ?_
  unfold call
  dsimp only
  cases w.fns f (w.calls f) args <;> exact OCAt.refl s w

theorem oc_closeSrc (s : Nat) : OnlyConsumes s (closeSrc s) := by
  refine .of_at fun w => ?_
  obtain ⟨r, h⟩ := closeSrc_eq s w
  rw [h]
  exact OCAt.setSrc (by rw [closeStep_script]; exact List.suffix_refl _)

theorem oc_tryFinally {α : Type} {s : Nat} {body : M α} {fin : M Unit} (hb : OnlyConsumes s body)
    (hfin : OnlyConsumes s fin) : OnlyConsumes s (tryFinally body fin) := by
  refine .of_at fun w => ?_
  have h1 := hb.at w
  unfold tryFinally
  generalize body w = p at h1
  obtain ⟨r, w1⟩ := p
  have g1 := h1.trans (hfin.at w1)
  rcases hfw : fin w1 with ⟨r2, w2⟩
  rw [hfw] at g1
  cases r with
  | ok a => cases r2 <;> simp only [hfw] <;> exact g1
  | error e => cases e <;> cases r2 <;> simp only [hfw] <;> first | exact g1 | exact h1

theorem oc_scopedIter {α : Type} {s : Nat} {body : M α} (hb : OnlyConsumes s body) :
    OnlyConsumes s (scopedIter s body) := oc_tryFinally hb (oc_closeSrc s)

theorem oc_tryCatchStop {α : Type} {s : Nat} {body handler : M α} (hb : OnlyConsumes s body)
    (hh : OnlyConsumes s handler) : OnlyConsumes s (tryCatchStop body handler) := by
  refine .of_at fun w => ?_
  have h1 := hb.at w
  unfold tryCatchStop
  generalize body w = p at h1
  obtain ⟨r, w1⟩ := p
  cases r with
  | ok a => exact h1
  | error e => cases e <;> first | exact h1.trans (hh.at w1) | exact h1

theorem oc_anext (s : Nat) : OnlyConsumes s (anext s) :=
  oc_bind (oc_pull s) fun r => by cases r <;> first | exact oc_raise s _ | exact oc_pure s _

theorem oc_keyOf (s : Nat) (fn : Option Nat) (x : Val) : OnlyConsumes s (Std.keyOf fn x) := by
  cases fn <;> first | exact oc_pure s x | exact oc_call s _ _

theorem oc_ite {α : Type} {s : Nat} {c : Prop} [Decidable c] {a b : M α} (ha : OnlyConsumes s a)
    (hb : OnlyConsumes s b) : OnlyConsumes s (if c then a else b) := by
  split <;> assumption

theorem oc_round {α : Type} {s : Nat} {k : Option Val → M α} (hend : OnlyConsumes s (k none))
    (hitem : ∀ x, OnlyConsumes s (k (some x))) : OnlyConsumes s (pull s >>= k) :=
  oc_bind (oc_pull s) fun o => by cases o <;> first | exact hend | exact hitem _

namespace Std

theorem oc_allLoop (s fuel : Nat) : OnlyConsumes s (allLoop s fuel) := by
  induction fuel with
  | zero => exact oc_raise s _
  | succ fuel ih => exact oc_round (oc_pure s _) fun x => oc_ite ih (oc_pure s _)

theorem oc_anyLoop (s fuel : Nat) : OnlyConsumes s (anyLoop s fuel) := by
  induction fuel with
  | zero => exact oc_raise s _
  | succ fuel ih => exact oc_round (oc_pure s _) fun x => oc_ite (oc_pure s _) ih

theorem oc_sumLoop (s fuel : Nat) : ∀ t, OnlyConsumes s (sumLoop s t fuel) := by
  induction fuel with
  | zero => exact fun _ => oc_raise s _
  | succ fuel ih => exact fun t => oc_round (oc_pure s _) fun x => oc_bind (oc_liftExc s _) ih

theorem oc_mmLoop (fn : Option Nat) (isMax : Bool) (s fuel : Nat) : ∀ b k, OnlyConsumes s (mmLoop fn isMax s b k fuel) := by
  induction fuel with
  | zero => exact fun _ _ => oc_raise s _
  | succ fuel ih =>
    exact fun b k => oc_round (oc_pure s _) fun x => oc_bind (oc_keyOf s fn x) fun _ =>
      oc_bind (oc_liftExc s _) fun better => oc_ite (ih _ _) (ih _ _)

theorem oc_minmax (fn : Option Nat) (isMax : Bool) (d : Option Val) (s fuel : Nat) :
    OnlyConsumes s (minmax fn isMax d s fuel) :=
  oc_round (by cases d <;> first | exact oc_raise s _ | exact oc_pure s _)
    fun x => oc_bind (oc_keyOf s fn x) fun k => oc_mmLoop fn isMax s fuel x k

theorem oc_reduceLoop (f s fuel : Nat) : ∀ acc, OnlyConsumes s (reduceLoop f s acc fuel) := by
  induction fuel with
  | zero => exact fun _ => oc_raise s _
  | succ fuel ih => exact fun acc => oc_round (oc_pure s _) fun x => oc_bind (oc_call s f _) ih

theorem oc_reduce (f : Nat) (ini : Option Val) (s fuel : Nat) : OnlyConsumes s (reduce f ini s fuel) := by
  cases ini with
  | some v => exact oc_bind (oc_pure s v) (oc_reduceLoop f s fuel)
  | none => exact oc_bind (oc_tryCatchStop (oc_anext s) (oc_raise s _)) (oc_reduceLoop f s fuel)

theorem oc_collectAll (s fuel : Nat) : ∀ acc, OnlyConsumes s (collectAll s acc fuel) := by
  induction fuel with
  | zero => exact fun _ => oc_raise s _
  | succ fuel ih => exact fun acc => oc_round (oc_pure s _) fun x => ih _

theorem oc_collectKeyed (fn : Option Nat) (s fuel : Nat) : ∀ acc, OnlyConsumes s (collectKeyed fn s acc fuel) := by
  induction fuel with
  | zero => exact fun _ => oc_raise s _
  | succ fuel ih => exact fun acc => oc_round (oc_pure s _) fun x => oc_bind (oc_keyOf s fn x) fun _ => ih _

end Std

end AsyncVerif
