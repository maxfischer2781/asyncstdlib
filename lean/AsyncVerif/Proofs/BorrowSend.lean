import AsyncVerif.Machines.BorrowSend
/-!
# Lemmas about `Machines/BorrowSend.lean` (used by `Properties/C07Send.lean`)

This file does not import `Proofs/Borrow.lean`: `Handle`, `State`, `step` here are the types of
`Machines/BorrowSend.lean`, and `HLe`, `HsMono`, `PullSpec`, `StepSpec`, `lt_of_getElem?` are this
namespace's own versions of the same notions.

* `Reaches ev u r`: what `pullU`, `sendU`, `throwU` have in common — one log entry `ev`, then
  `advance` or a bare change of status without an item.
* `HLe`: a slot that is `dead` stays `dead`, one that is `absent` stays `absent` (only `direct`
  can change, to `dead`); `exec_mono` carries it along a run.
* `StepSpec` (`step_spec`): one operation adds a `closed` entry to the underlying iterator's log
  exactly if it is an `ownerExit`, and delivers what leaves `u.rest`.
* `Effect` (`step_effect`) is the one case analysis of `step`; `step_spec` and `step_slots` are
  both read off it.
* `untouched` / `exec_slots`: the slots of a handle nobody aims at are unchanged;
  `ClosesHandle` / `closesHandle_closes`: the operations after which handle `h` is `closeWrapper hd`.
-/
namespace AsyncVerif.BorrowSend
open AsyncVerif.Borrow (Val ExcId Kind SendTgt)

def resItems : Res → List Val
  | .item v => [v]
  | _ => []

def outItems : Out → List Val
  | .res r => resItems r
  | _ => []

theorem delivered_cons (o : Out) (r : List Out) : delivered (o :: r) = outItems o ++ delivered r := by
  cases o with
  | res x => cases x <;> rfl
  | _ => rfl

theorem advance_log (u : U) : (advance u).1.log = u.log := by
  unfold advance; split
  · rfl
  · split <;> rfl

theorem advance_hasClose (u : U) : (advance u).1.hasClose = u.hasClose := by
  unfold advance; split
  · rfl
  · split <;> rfl

theorem advance_items (u : U) : u.rest = resItems (advance u).2 ++ (advance u).1.rest := by
  unfold advance; split
  · rfl
  · split
    · rename_i h; rw [h]; rfl
    · rename_i h; rw [h]; rfl

/-- Every call that reaches the underlying iterator is logged, and then either resumes it
    (`advance`) or at most sets its status, delivering no item. -/
def Reaches (ev : UEv) (u : U) (r : U × Res) : Prop :=
  r = advance (logged u ev) ∨ ∃ st res, resItems res = [] ∧ r = ({ logged u ev with status := st }, res)

theorem Reaches.log {ev : UEv} {u : U} {r : U × Res} (h : Reaches ev u r) : r.1.log = u.log ++ [ev] := by
  rcases h with rfl | ⟨_, _, _, rfl⟩
  · exact advance_log _
  · rfl

theorem Reaches.hasClose {ev : UEv} {u : U} {r : U × Res} (h : Reaches ev u r) :
    r.1.hasClose = u.hasClose := by
  rcases h with rfl | ⟨_, _, _, rfl⟩
  · exact advance_hasClose _
  · rfl

theorem Reaches.items {ev : UEv} {u : U} {r : U × Res} (h : Reaches ev u r) :
    u.rest = resItems r.2 ++ r.1.rest := by
  rcases h with rfl | ⟨_, _, hr, rfl⟩
  · exact advance_items (logged u ev)
  · rw [hr]; rfl

theorem pullU_reaches (u : U) : Reaches .pull u (pullU u) := .inl rfl

theorem sendU_reaches (v : Option Val) (u : U) : Reaches (.sent v) u (sendU v u) := by
  rw [sendU]; split
  · exact .inr ⟨_, _, rfl, rfl⟩
  · exact .inl rfl

theorem throwU_reaches (e : ExcId) (u : U) : Reaches (.thrown e) u (throwU e u) := by
  rw [throwU]
  split
  · split
    · exact .inr ⟨_, _, rfl, rfl⟩
    · exact .inr ⟨_, _, rfl, rfl⟩
    · split
      · exact .inl rfl
      · exact .inr ⟨_, _, rfl, rfl⟩
  · split
    · exact .inl rfl
    · exact .inr ⟨_, _, rfl, rfl⟩

theorem count_closed_append_one (l : List UEv) (ev : UEv) (h : ev ≠ .closed) :
    (l ++ [ev]).count .closed = l.count .closed := by
  simp [List.count_append, h]

structure HLe (a b : Handle) : Prop where
  parent : b.parent = a.parent
  kind : b.kind = a.kind
  closedStays : a.wopen = false → b.wopen = false
  sendDead : a.send = .dead → b.send = .dead
  throwDead : a.throw = .dead → b.throw = .dead
  sendAbsent : a.send = .absent → b.send = .absent
  throwAbsent : a.throw = .absent → b.throw = .absent

theorem HLe.refl (a : Handle) : HLe a a := ⟨rfl, rfl, id, id, id, id, id⟩

theorem HLe.trans {a b c : Handle} (h1 : HLe a b) (h2 : HLe b c) : HLe a c :=
  ⟨h2.parent.trans h1.parent, h2.kind.trans h1.kind, fun h => h2.closedStays (h1.closedStays h),
   fun h => h2.sendDead (h1.sendDead h), fun h => h2.throwDead (h1.throwDead h),
   fun h => h2.sendAbsent (h1.sendAbsent h), fun h => h2.throwAbsent (h1.throwAbsent h)⟩

theorem HLe.finish (a : Handle) : HLe a (finishWrapper a) :=
  ⟨rfl, rfl, fun _ => rfl, id, id, id, id⟩

theorem HLe.close (a : Handle) : HLe a (closeWrapper a) := by
  refine ⟨rfl, rfl, fun _ => rfl, ?_, ?_, ?_, ?_⟩ <;> intro h <;> simp [closeWrapper, h, deaden]

/-- the handle table only grows, and each record evolves by `HLe` -/
def HsMono (hs hs' : List Handle) : Prop :=
  hs.length ≤ hs'.length ∧ ∀ (j : Nat) (hd : Handle), hs[j]? = some hd → ∃ hd', hs'[j]? = some hd' ∧ HLe hd hd'

theorem HsMono.refl (hs : List Handle) : HsMono hs hs :=
  ⟨Nat.le_refl _, fun _ hd h => ⟨hd, h, HLe.refl hd⟩⟩

theorem HsMono.trans {a b c : List Handle} (h1 : HsMono a b) (h2 : HsMono b c) : HsMono a c := by
  refine ⟨Nat.le_trans h1.1 h2.1, ?_⟩
  intro j hd h
  obtain ⟨hd1, e1, l1⟩ := h1.2 j hd h
  obtain ⟨hd2, e2, l2⟩ := h2.2 j hd1 e1
  exact ⟨hd2, e2, l1.trans l2⟩

theorem HsMono.modify (hs : List Handle) (i : Nat) (f : Handle → Handle) (hf : ∀ hd, HLe hd (f hd)) :
    HsMono hs (hs.modify i f) := by
  refine ⟨by simp, ?_⟩
  intro j hd h
  rw [List.getElem?_modify, h]
  by_cases hij : i = j
  · exact ⟨f hd, by simp [hij], hf hd⟩
  · exact ⟨hd, by simp [hij], HLe.refl hd⟩

theorem lt_of_getElem? {α} {l : List α} {i : Nat} {a : α} (h : l[i]? = some a) : i < l.length := by
  rcases Nat.lt_or_ge i l.length with h' | h'
  · exact h'
  · rw [List.getElem?_eq_none h'] at h; cases h

theorem HsMono.append (hs : List Handle) (l : List Handle) : HsMono hs (hs ++ l) := by
  refine ⟨by simp, ?_⟩
  intro j hd h
  have hj : j < hs.length := lt_of_getElem? h
  exact ⟨hd, by rw [List.getElem?_append_left hj]; exact h, HLe.refl hd⟩

structure PullSpec (s : State) (r : State × Res) : Prop where
  hasClose : r.1.u.hasClose = s.u.hasClose
  closed : r.1.u.log.count .closed = s.u.log.count .closed
  mono : HsMono s.hs r.1.hs
  len : r.1.hs.length = s.hs.length
  items : s.u.rest = resItems r.2 ++ r.1.u.rest

theorem pullH_none (fuel : Nat) (s : State) :
    pullH fuel s none = ({ s with u := (pullU s.u).1 }, (pullU s.u).2) := by
  cases fuel <;> rfl

theorem pullSpec_same (s : State) (r : Res) (h : resItems r = []) : PullSpec s (s, r) :=
  ⟨rfl, rfl, HsMono.refl _, rfl, by simp [h]⟩

theorem pullSpec_reaches {ev : UEv} (s : State) {r : U × Res} (h : Reaches ev s.u r) (hev : ev ≠ .closed) :
    PullSpec s ({ s with u := r.1 }, r.2) :=
  ⟨h.hasClose, by rw [h.log]; exact count_closed_append_one _ _ hev, HsMono.refl _, rfl, h.items⟩

def slots (hd : Handle) : SendTgt × SendTgt := (hd.send, hd.throw)

theorem modify_finish_slots (l : List Handle) (i j : Nat) :
    ((l.modify i finishWrapper)[j]?).map slots = (l[j]?).map slots := by
  rw [List.getElem?_modify]
  split <;> cases l[j]? <;> rfl

/-- a pull, and a call that reaches the underlying iterator, leave every handle's slots alone -/
def SlotsKept (s : State) (r : State × Res) : Prop :=
  ∀ j : Nat, (r.1.hs[j]?).map slots = (s.hs[j]?).map slots

theorem pullH_spec (fuel : Nat) (s : State) (t : Option Nat) :
    PullSpec s (pullH fuel s t) ∧ SlotsKept s (pullH fuel s t) := by
  induction fuel generalizing t with
  | zero =>
    cases t with
    | none => rw [pullH_none]; exact ⟨pullSpec_reaches s (pullU_reaches s.u) nofun, fun _ => rfl⟩
    | some h => exact ⟨pullSpec_same s _ rfl, fun _ => rfl⟩
  | succ fuel ih =>
    cases t with
    | none => rw [pullH_none]; exact ⟨pullSpec_reaches s (pullU_reaches s.u) nofun, fun _ => rfl⟩
    | some h =>
      simp only [pullH]
      split
      · exact ⟨pullSpec_same s _ rfl, fun _ => rfl⟩
      · rename_i hd _
        split
        · exact ⟨pullSpec_same s _ rfl, fun _ => rfl⟩
        · obtain ⟨hp, hs⟩ := ih hd.parent
          split
          · rename_i v hv
            exact ⟨⟨hp.hasClose, hp.closed, hp.mono, hp.len, by rw [← hv]; exact hp.items⟩, hs⟩
          · exact ⟨⟨hp.hasClose, hp.closed, hp.mono.trans (HsMono.modify _ h finishWrapper HLe.finish),
              by rw [← hp.len]; exact List.length_modify .., hp.items⟩,
              fun j => (modify_finish_slots _ h j).trans (hs j)⟩

structure StepSpec (s : State) (op : Op) : Prop where
  hasClose : (step s op).1.u.hasClose = s.u.hasClose
  closed : (step s op).1.u.log.count .closed = s.u.log.count .closed + (if ownerExit s op then 1 else 0)
  mono : HsMono s.hs (step s op).1.hs
  items : s.u.rest = outItems (step s op).2 ++ (step s op).1.u.rest

theorem closeH_u (s : State) (h : Nat) : (closeH s h).u = s.u := by
  unfold closeH; split
  · rfl
  · split <;> rfl

theorem closeH_mono (s : State) (h : Nat) : HsMono s.hs (closeH s h).hs := by
  unfold closeH; split
  · exact HsMono.refl _
  · split
    · exact HsMono.modify _ _ _ HLe.close
    · exact HsMono.refl _

theorem closeU_hasClose (u : U) : (closeU u).hasClose = u.hasClose := by
  unfold closeU; split <;> rfl

theorem closeU_rest (u : U) : (closeU u).rest = u.rest := by
  unfold closeU; split <;> rfl

theorem closeU_closed (u : U) :
    (closeU u).log.count .closed = u.log.count .closed + (if u.hasClose then 1 else 0) := by
  unfold closeU; split <;> simp_all [List.count_append]

theorem stepSpec_pull (s : State) (op : Op) (r : State × Res) (h : step s op = (r.1, .res r.2))
    (hx : ownerExit s op = false) (hp : PullSpec s r) : StepSpec s op := by
  refine ⟨?_, ?_, ?_, ?_⟩ <;> rw [h]
  · exact hp.hasClose
  · rw [hx]; exact hp.closed
  · exact hp.mono
  · exact hp.items

theorem stepSpec_hs (s : State) (op : Op) (s' : State) (o : Out) (h : step s op = (s', o))
    (hu : s'.u = s.u) (ho : outItems o = []) (hx : ownerExit s op = false) (hm : HsMono s.hs s'.hs) :
    StepSpec s op := by
  refine ⟨?_, ?_, ?_, ?_⟩ <;> rw [h]
  · show s'.u.hasClose = _; rw [hu]
  · show s'.u.log.count _ = _; rw [hu, hx]; rfl
  · exact hm
  · show _ = outItems o ++ s'.u.rest; rw [hu, ho]; rfl

theorem stepSpec_same (s : State) (op : Op) (o : Out) (h : step s op = (s, o)) (ho : outItems o = [])
    (hx : ownerExit s op = false) : StepSpec s op :=
  stepSpec_hs s op s o h rfl ho hx (.refl _)

/-- The things an operation can do: nothing; a pull or a call that reaches the underlying iterator;
    `aclose()` of a handle; leaving a scope; a new handle. -/
inductive Effect (s : State) (op : Op) : State × Out → Prop
  | same (o : Out) : outItems o = [] → ownerExit s op = false → Effect s op (s, o)
  | pulled (r : State × Res) : PullSpec s r → SlotsKept s r → ownerExit s op = false →
      Effect s op (r.1, .res r.2)
  | closed (h : Nat) : op = .close h → Effect s op (closeH s h, .ok)
  | exited (h : Nat) (hd : Handle) : op = .scopeExit h → s.hs[h]? = some hd → hd.kind = .scoped →
      Effect s op (closeT { s with hs := s.hs.modify h closeWrapper } hd.parent, .ok)
  | added (nh : Handle) (o : Out) : outItems o = [] → ownerExit s op = false →
      Effect s op ({ s with hs := s.hs ++ [nh] }, o)

theorem step_effect (s : State) (op : Op) : Effect s op (step s op) := by
  cases op with
  | next h =>
    by_cases hv : h < s.hs.length
    · rw [step, if_pos hv]
      exact .pulled (pullH _ s _) (pullH_spec _ s _).1 (pullH_spec _ s _).2 rfl
    · rw [step, if_neg hv]; exact .same _ rfl rfl
  | asend h v =>
    cases hh : s.hs[h]? with
    | none => simp only [step, hh]; exact .same _ rfl rfl
    | some hd =>
      cases hs : hd.send <;> simp only [step, hh, hs]
      · exact .same _ rfl rfl
      · exact .pulled ({ s with u := (sendU v s.u).1 }, (sendU v s.u).2)
          (pullSpec_reaches s (sendU_reaches v s.u) nofun) (fun _ => rfl) rfl
      · exact .same _ rfl rfl
  | athrow h x =>
    cases hh : s.hs[h]? with
    | none => simp only [step, hh]; exact .same _ rfl rfl
    | some hd =>
      cases hs : hd.throw <;> simp only [step, hh, hs]
      · exact .same _ rfl rfl
      · exact .pulled ({ s with u := (throwU x s.u).1 }, (throwU x s.u).2)
          (pullSpec_reaches s (throwU_reaches x s.u) nofun) (fun _ => rfl) rfl
      · exact .same _ rfl rfl
  | close h =>
    by_cases hv : h < s.hs.length
    · rw [step, if_pos hv]; exact .closed h rfl
    · rw [step, if_neg hv]; exact .same _ rfl rfl
  | scopeExit h =>
    cases hh : s.hs[h]? with
    | none => simp only [step, hh]; exact .same _ rfl (by simp only [ownerExit, hh])
    | some hd =>
      cases hk : hd.kind <;> simp only [step, hh, hk]
      · exact .same _ rfl (by simp only [ownerExit, hh, hk]; rfl)
      · exact .exited h hd rfl hh hk
  | borrow t =>
    by_cases hv : validT s t = true
    · rw [step, if_pos hv]; exact .added _ _ rfl rfl
    · rw [step, if_neg hv]; exact .same _ rfl rfl
  | scope t =>
    by_cases hv : validT s t = true
    · by_cases hn : (t = none && !s.u.hasClose) = true
      · rw [step, if_pos hv, if_pos hn]; exact .same _ rfl rfl
      · rw [step, if_pos hv, if_neg hn]; exact .added _ _ rfl rfl
    · rw [step, if_neg hv]; exact .same _ rfl rfl

theorem step_spec (s : State) (op : Op) : StepSpec s op := by
  have he := step_effect s op
  generalize hr : step s op = r at he
  cases he with
  | same o ho hx => exact stepSpec_same s op o hr ho hx
  | pulled r hp _ hx => exact stepSpec_pull s op r hr hx hp
  | closed h e =>
    subst e
    exact stepSpec_hs s _ (closeH s h) .ok hr (closeH_u s h) rfl rfl (closeH_mono s h)
  | added nh o ho hx => exact stepSpec_hs s op _ o hr rfl ho hx (HsMono.append _ _)
  | exited h hd e hh hk =>
    subst e
    have hm : HsMono s.hs (s.hs.modify h closeWrapper) := HsMono.modify _ _ _ HLe.close
    cases hp : hd.parent with
    | none =>
      rw [hp] at hr
      have hx : ownerExit s (.scopeExit h) = s.u.hasClose := by simp [ownerExit, hh, hk, hp]
      refine ⟨?_, ?_, ?_, ?_⟩ <;> rw [hr]
      · exact closeU_hasClose _
      · rw [hx]; exact closeU_closed _
      · exact hm
      · exact (closeU_rest _).symm
    | some p =>
      rw [hp] at hr
      exact stepSpec_hs s _ _ .ok hr (closeH_u _ p) rfl (by simp [ownerExit, hh, hk, hp])
        (hm.trans (closeH_mono { s with hs := s.hs.modify h closeWrapper } p))

theorem exec_cons (s : State) (op : Op) (ops : List Op) :
    exec s (op :: ops) = exec (step s op).1 ops := rfl

theorem exec_closed (ops : List Op) : ∀ s : State,
    (exec s ops).u.log.count .closed = s.u.log.count .closed + ownerExits s ops := by
  induction ops with
  | nil => intro s; simp [exec, ownerExits]
  | cons op r ih =>
    intro s
    rw [exec_cons, ih, (step_spec s op).closed]
    simp only [ownerExits]; omega

theorem exec_items (ops : List Op) : ∀ s : State,
    s.u.rest = delivered (outs s ops) ++ (exec s ops).u.rest := by
  induction ops with
  | nil => intro s; simp [exec, outs, delivered]
  | cons op r ih =>
    intro s
    rw [exec_cons, outs, delivered_cons, List.append_assoc, ← ih, ← (step_spec s op).items]

theorem exec_mono (ops : List Op) : ∀ s : State, HsMono s.hs (exec s ops).hs := by
  induction ops with
  | nil => intro s; exact HsMono.refl _
  | cons op r ih =>
    intro s
    rw [exec_cons]
    exact (step_spec s op).mono.trans (ih _)

theorem ownerExits_zero (ops : List Op) (h : ∀ op ∈ ops, ∀ x, op ≠ .scopeExit x) :
    ∀ s : State, ownerExits s ops = 0 := by
  induction ops with
  | nil => intro s; rfl
  | cons op r ih =>
    intro s
    have h1 : ownerExit s op = false := by
      cases op with
      | scopeExit x => exact absurd rfl (h _ (by simp) x)
      | _ => rfl
    simp only [ownerExits, h1]
    rw [ih (fun o ho => h o (by simp [ho]))]
    simp

/-! ## A handle nobody closes keeps its slots -/

/-- an `aclose()` aimed at handle `h`, leaving the scope `h` belongs to, or leaving a scope that
    was opened on `h` -/
def aimsAt (s : State) (h : Nat) : Op → Bool
  | .close x => x == h
  | .scopeExit c => c == h || (match s.hs[c]? with | some cd => cd.parent == some h | none => false)
  | _ => false

/-- no operation of the run is aimed at `h` -/
def untouched (h : Nat) : State → List Op → Bool
  | _, [] => true
  | s, op :: ops => !aimsAt s h op && untouched h (step s op).1 ops

theorem modify_ne (l : List Handle) (i j : Nat) (f : Handle → Handle) (hij : i ≠ j) :
    (l.modify i f)[j]? = l[j]? := by
  rw [List.getElem?_modify]; simp [hij]

theorem closeH_ne (s : State) (p h : Nat) (hne : p ≠ h) : (closeH s p).hs[h]? = s.hs[h]? := by
  unfold closeH; split
  · rfl
  · split
    · exact modify_ne _ _ _ _ hne
    · rfl

theorem step_slots (s : State) (h : Nat) (op : Op) (hu : aimsAt s h op = false) (hd : Handle)
    (hh : s.hs[h]? = some hd) : ((step s op).1.hs[h]?).map slots = some (slots hd) := by
  have base : (s.hs[h]?).map slots = some (slots hd) := by rw [hh]; rfl
  have he := step_effect s op
  generalize step s op = r at he ⊢
  cases he with
  | same => exact base
  | pulled r _ hs => exact (hs h).trans base
  | added => exact (congrArg _ (List.getElem?_append_left (lt_of_getElem? hh))).trans base
  | closed x e =>
    subst e
    exact (congrArg _ (closeH_ne _ _ _ (by simpa [aimsAt] using hu))).trans base
  | exited c cd e hc hk =>
    subst e
    simp only [aimsAt, Bool.or_eq_false_iff, hc] at hu
    have hm : (s.hs.modify c closeWrapper)[h]? = s.hs[h]? := modify_ne _ _ _ _ (by simpa using hu.1)
    cases hp : cd.parent with
    | none => exact (congrArg _ hm).trans base
    | some p =>
      have hpne : p ≠ h := by simpa [hp] using hu.2
      exact (congrArg _ ((closeH_ne _ _ _ hpne).trans hm)).trans base

theorem exec_slots (ops : List Op) : ∀ (s : State) (h : Nat) (hd : Handle), s.hs[h]? = some hd →
    untouched h s ops = true → ((exec s ops).hs[h]?).map slots = some (slots hd) := by
  induction ops with
  | nil => intro s h hd hh _; simp [exec, hh]
  | cons op r ih =>
    intro s h hd hh hu
    simp only [untouched, Bool.and_eq_true, Bool.not_eq_true'] at hu
    have h1 := step_slots s h op hu.1 hd hh
    cases h2 : (step s op).1.hs[h]? with
    | none => rw [h2] at h1; cases h1
    | some hd1 =>
      rw [h2] at h1
      have e : slots hd1 = slots hd := by simpa using h1
      rw [exec_cons, ih _ h hd1 h2 hu.2, e]

/-- the operations whose real counterpart runs `_aclose_wrapper` of handle `h`: `h.aclose()` on a
    borrowed handle, leaving the scope that `h` is the scoped handle of, and leaving a scope that
    was opened *on* the borrowed handle `h` (its `__aexit__` calls `h.aclose()`) -/
def ClosesHandle (s : State) (h : Nat) (hd : Handle) (op : Op) : Prop :=
  (op = .close h ∧ hd.kind = .borrowed)
  ∨ (op = .scopeExit h ∧ hd.kind = .scoped)
  ∨ (∃ c cd, op = .scopeExit c ∧ s.hs[c]? = some cd ∧ cd.kind = .scoped ∧ cd.parent = some h
      ∧ hd.kind = .borrowed)

theorem modify_self (l : List Handle) (i : Nat) (f : Handle → Handle) (hd : Handle) (h : l[i]? = some hd) :
    (l.modify i f)[i]? = some (f hd) := by
  rw [List.getElem?_modify, h]; simp

theorem closeH_borrowed (s : State) (h : Nat) (hd : Handle) (hh : s.hs[h]? = some hd)
    (hk : hd.kind = .borrowed) : closeH s h = { s with hs := s.hs.modify h closeWrapper } := by
  simp only [closeH, hh, hk]

theorem closeH_scoped (s : State) (h : Nat) (hd : Handle) (hh : s.hs[h]? = some hd)
    (hk : hd.kind = .scoped) : closeH s h = s := by
  simp only [closeH, hh, hk]

/-- `_aclose_wrapper` reached the handle.  In the `scopeExit h` case the following `aclose()` of the
    iterator the scope was opened on cannot undo this: it hits another handle, or `h` itself as a
    scoped handle, where it is a no-op. -/
theorem closesHandle_closes (s : State) (h : Nat) (hd : Handle) (hh : s.hs[h]? = some hd)
    (op : Op) (hc : ClosesHandle s h hd op) :
    (step s op).1.hs[h]? = some (closeWrapper hd) := by
  have hself := modify_self s.hs h closeWrapper hd hh
  rcases hc with ⟨rfl, hk⟩ | ⟨rfl, hk⟩ | ⟨c, cd, rfl, hcc, hck, hcp, hk⟩
  · rw [step, if_pos (lt_of_getElem? hh), closeH_borrowed s h hd hh hk]; exact hself
  · simp only [step, hh, hk]
    cases hd.parent with
    | none => exact hself
    | some p =>
      rw [closeT]
      by_cases hp : p = h
      · rw [hp, closeH_scoped _ h (closeWrapper hd) hself hk]; exact hself
      · rw [closeH_ne _ _ _ hp]; exact hself
  · have hne : c ≠ h := by
      rintro rfl; rw [hh] at hcc; cases hcc; rw [hk] at hck; cases hck
    have h1 : (s.hs.modify c closeWrapper)[h]? = some hd := (modify_ne _ _ _ _ hne).trans hh
    simp only [step, hcc, hck, hcp, closeT]
    rw [closeH_borrowed _ h hd h1 hk]
    exact modify_self _ h closeWrapper hd h1

end AsyncVerif.BorrowSend
