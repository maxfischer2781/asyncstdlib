import AsyncVerif.Proofs.Tee
import AsyncVerif.Proofs.CachedPropertyMono
import AsyncVerif.Proofs.LruConc
import AsyncVerif.Proofs.Decorator
import AsyncVerif.Proofs.Adapters
/-!
Helper lemmas for `Properties/C17Machines.lean`: where the tasks of the schedule-driven machines
can be suspended.  One section per machine (tee, cached_property, lru_cache's task layer, decorator,
asynctools adapters), each in two parts: a per-step specification for ANY state (which suspension
outputs a step can produce, and in which position inside a user awaitable it then leaves the task),
and an invariant of the runs whose scripts ask for no suspension (`Quiet`, `Idle`, `Task.sync`,
`SyncSt`), under which no step reports one.  tee and cached_property also get the invariant that a
pending user awaitable is within its script (`Within`, `GetterBound`).
-/

/-! ## tee -/
namespace AsyncVerif.Tee

/-- child `i` is now suspended inside `iterator.__anext__()` of the USER's source, and this is so
    because the suspension script says so: either it was already there with one more suspension
    to go, or this step started pull number `s.pulls` of a live source and the script's entry for
    that pull is positive (`k + 1`: this suspension and `k` more) -/
def InUserPull (s s' : St) (i : Nat) : Prop :=
  ∃ k, (s'.kid i).pc = .fetching k ∧
    ((s.kid i).pc = .fetching (k + 1) ∨
     (s.srcDead = false ∧ s.suspPat.getD s.pulls 0 = k + 1 ∧ s'.pulls = s.pulls + 1))

/-- child `i` is now suspended inside `lock.__aenter__()` of the USER's lock, and the lock is held
    (before and after the step, by the same child `h`) -/
def InUserLock (s s' : St) (i : Nat) : Prop :=
  (s'.kid i).pc = .acquiring ∧ ∃ h, s.holder = some h ∧ s'.holder = some h

/-- the outputs of a `send` that mean "the operation completed": an item was delivered, the
    iteration ended, or the task had already finished -/
def Out.completed : Out → Prop
  | .item _ => True
  | .end_ => True
  | .noop => True
  | _ => False

/-- the step did not end suspended: it completed, or failed on an empty deque (excluded for
    reachable states by `Inv.step_noerr`) -/
def Out.settled (o : Out) : Prop := o.completed ∨ o = .error

theorem Out.settled.nosusp {o : Out} (h : o.settled) : o ≠ .suspSrc ∧ o ≠ .suspLock := by
  rcases h with h | h
  · exact ⟨fun e => by rw [e] at h; exact h, fun e => by rw [e] at h; exact h⟩
  · rw [h]; exact ⟨nofun, nofun⟩

/-- **one `send` on consumer `i`, any state**: it completes (or fails on an empty deque), or it ends
    suspended in one of the two user awaitables; a child that waits for the lock was not inside the
    source -/
theorem sched_spec (s : St) (i : Nat) (hi : i < s.kids.length) :
    (sched s i).2.settled ∨ ((sched s i).2 = .suspSrc ∧ InUserPull s (sched s i).1 i) ∨
    ((sched s i).2 = .suspLock ∧ InUserLock s (sched s i).1 i ∧ isFetching (s.kid i).pc = false) := by
  have hs := sched_sent s i hi
  unfold InUserPull InUserLock
  generalize (sched s i).1.kid i = c', (sched s i).2 = o at hs ⊢
  cases hs with
  | blocked hp hh => exact .inr (.inr ⟨rfl, ⟨hp, hh⟩, hp ▸ rfl⟩)
  | waits hf hh => exact .inr (.inr ⟨rfl, ⟨rfl, hh⟩, hf⟩)
  | pulling k hp => exact .inr (.inl ⟨rfl, k, rfl, .inl hp⟩)
  | started k hst => exact .inr (.inl ⟨rfl, k, rfl, .inr hst⟩)
  | failed => exact .inl (.inr rfl)
  | _ => exact .inl (.inl trivial)

/-- only a `send` on an existing consumer can report a suspension: `aclose()` of a child,
    `Tee.aclose()` and a cancellation never end suspended -/
theorem step_susp_is_sched (s : St) (op : Op)
    (h : (step s op).2 = .suspSrc ∨ (step s op).2 = .suspLock) :
    ∃ i, op = .sched i ∧ i < s.kids.length := by
  cases op with
  | sched i =>
    by_cases hi : i < s.kids.length
    · exact ⟨i, rfl, hi⟩
    · simp [step, hi] at h
  | close i =>
    simp only [step] at h
    split at h
    · rcases closeKid_out s i with e | e <;> simp [e] at h
    · simp at h
  | cancel i =>
    simp only [step] at h
    split at h
    · rcases cancel_out s i with e | e <;> simp [e] at h
    · simp at h
  | closeAll =>
    simp only [step] at h
    rcases closeAll_out s with e | e <;> simp [e] at h

/-! ### a source that never suspends: nobody is ever left inside a user awaitable -/

/-- the child is not suspended inside a user awaitable -/
def Calm (c : Child) : Prop := c.pc ≠ .acquiring ∧ isFetching c.pc = false

def KidsCalm (s : St) : Prop := ∀ c ∈ s.kids, Calm c

/-- between two operations: the lock is free and no child is inside a user awaitable -/
structure Quiet (s : St) : Prop where
  holder : s.holder = none
  kids : KidsCalm s

theorem calm_pcOnly : PcOnly Calm :=
  ⟨fun e h => by unfold Calm at *; rw [e]; exact h, fun e => by unfold Calm; rw [e]; exact ⟨nofun, rfl⟩⟩

theorem KidsCalm.kid {s : St} (h : KidsCalm s) (i : Nat) : Calm (s.kid i) :=
  allKids_kid h ⟨nofun, rfl⟩ i

theorem KidsCalm.release {s : St} (h : KidsCalm s) (i : Nat) : KidsCalm (release s i) := by
  unfold KidsCalm; rw [release_kids]; exact h

/-- whoever holds the lock is inside the source -/
theorem KidsCalm.quiet {s : St} (h : KidsCalm s) (hinv : Inv s) : Quiet s := by
  refine ⟨?_, h⟩
  cases hh : s.holder with
  | none => rfl
  | some x => have := (hinv.holder_lt x hh).2.2; rw [(h.kid x).2] at this; cases this

/-- a quiet state, a source that never suspends: a `send` reports no suspension (nobody holds the
    lock, the child is in no pending pull, the script asks for no suspension) and leaves every child
    outside the user awaitables -/
theorem sched_calm (s : St) (i : Nat) (hi : i < s.kids.length) (hn : NoSusp s) (hq : Quiet s) :
    KidsCalm (sched s i).1 ∧ (sched s i).2 ≠ .suspSrc ∧ (sched s i).2 ≠ .suspLock := by
  have hc := hq.kids.kid i
  have e := sched_eff s i hi
  have own : Calm ((sched s i).1.kid i) ∧ (sched s i).2 ≠ .suspSrc ∧ (sched s i).2 ≠ .suspLock := by
    have hs := sched_sent s i hi
    generalize (sched s i).1.kid i = c', (sched s i).2 = o at hs ⊢
    cases hs with
    | noop => exact ⟨hc, nofun, nofun⟩
    | blocked hp => exact absurd hp hc.1
    | stopped => exact ⟨hc, nofun, nofun⟩
    | waits _ hh => obtain ⟨h, e1, _⟩ := hh; rw [hq.holder] at e1; cases e1
    | pulling k hp => have := hc.2; rw [hp] at this; cases this
    | started k hst => have := hst.2.1; rw [hn] at this; cases this
    | _ => exact ⟨⟨nofun, rfl⟩, nofun, nofun⟩
  refine ⟨forall_mem_kids.2 fun j hj => ?_, own.2⟩
  rw [e.len] at hj
  by_cases hji : j = i
  · exact hji ▸ own.1
  · exact calm_pcOnly.congr (e.others j hj hji).1 (hq.kids.kid j)

theorem step_sync (s : St) (op : Op) (hn : NoSusp s) (hq : Quiet s) (hinv : Inv s) :
    Quiet (step s op).1 ∧ (step s op).2 ≠ .suspSrc ∧ (step s op).2 ≠ .suspLock := by
  have out : (∀ i, op ≠ .sched i) → (step s op).2 ≠ .suspSrc ∧ (step s op).2 ≠ .suspLock :=
    fun hne => ⟨fun h => have ⟨j, e, _⟩ := step_susp_is_sched s op (.inl h); hne j e,
      fun h => have ⟨j, e, _⟩ := step_susp_is_sched s op (.inr h); hne j e⟩
  have hk : KidsCalm (step s op).1 ∧ (step s op).2 ≠ .suspSrc ∧ (step s op).2 ≠ .suspLock := by
    cases op with
    | sched i =>
      simp only [step]; split
      · exact sched_calm s i ‹_› hn hq
      · exact ⟨hq.kids, nofun, nofun⟩
    | close i =>
      refine ⟨?_, out nofun⟩
      simp only [step]; split
      · exact calm_pcOnly.closeKid hq.kids i
      · exact hq.kids
    | cancel i =>
      refine ⟨?_, out nofun⟩
      simp only [step]; split
      · exact calm_pcOnly.cancel hq.kids ⟨nofun, rfl⟩ i
      · exact hq.kids
    | closeAll => exact ⟨calm_pcOnly.closeAll hq.kids, out nofun⟩
  exact ⟨hk.1.quiet (hinv.step_inv op), hk.2⟩

theorem noSusp_step (s : St) (op : Op) (hn : NoSusp s) : NoSusp (step s op).1 := by
  have := cfg_step s op
  simp only [St.cfg, Prod.mk.injEq] at this
  intro k; rw [this.2.1]; exact hn k

theorem runOps_quiet (s : St) (ops : List Op) (hn : NoSusp s) (hq : Quiet s) (hinv : Inv s) :
    Quiet (runOps s ops) ∧ NoSusp (runOps s ops) := by
  induction ops generalizing s with
  | nil => exact ⟨hq, hn⟩
  | cons op rest ih =>
    exact ih _ (noSusp_step s op hn) (step_sync s op hn hq hinv).1 (hinv.step_inv op)

theorem reach_quiet (items n susp lock closeable dies ops) (h : ∀ k ∈ susp, k = 0) :
    Quiet (reach items n susp lock closeable dies ops) ∧
      NoSusp (reach items n susp lock closeable dies ops) :=
  runOps_quiet _ ops (noSusp_of_zeros susp h)
    ⟨rfl, fun _ hc => (List.mem_replicate.1 hc).2 ▸ ⟨nofun, rfl⟩⟩
    (init_inv items n susp lock closeable dies)

theorem reach_withLock (items n susp lock closeable dies ops) :
    (reach items n susp lock closeable dies ops).withLock = lock :=
  congrArg (·.1) (cfg_runOps (init items n susp lock closeable dies) ops)

theorem reach_suspPat (items n susp lock closeable dies ops) :
    (reach items n susp lock closeable dies ops).suspPat = susp :=
  congrArg (·.2.1) (cfg_runOps (init items n susp lock closeable dies) ops)

/-! ### every pending pull is within the script -/

/-- a child that is inside the source's `__anext__` is inside a pull that has been started
    (number `m < s.pulls`) and has fewer suspensions to come than the script gives that pull -/
def Within (s : St) : Prop :=
  ∀ c ∈ s.kids, ∀ k, c.pc = .fetching k → ∃ m, m < s.pulls ∧ k < s.suspPat.getD m 0

theorem within_pcOnly (s : St) :
    PcOnly fun c => ∀ k, c.pc = .fetching k → ∃ m, m < s.pulls ∧ k < s.suspPat.getD m 0 :=
  ⟨fun e h k hk => h k (e ▸ hk), fun e k hk => by rw [e] at hk; cases hk⟩

theorem within_mono {s s' : St} {ks : List Child}
    (h : ∀ c ∈ ks, ∀ k, c.pc = .fetching k → ∃ m, m < s.pulls ∧ k < s.suspPat.getD m 0)
    (hp : s.pulls ≤ s'.pulls) (hs : s'.suspPat = s.suspPat) :
    ∀ c ∈ ks, ∀ k, c.pc = .fetching k → ∃ m, m < s'.pulls ∧ k < s'.suspPat.getD m 0 :=
  fun c hc k hk => have ⟨m, h1, h2⟩ := h c hc k hk; ⟨m, Nat.lt_of_lt_of_le h1 hp, hs ▸ h2⟩

theorem Within.kid {s : St} (h : Within s) (i k : Nat) (hp : (s.kid i).pc = .fetching k) :
    ∃ m, m < s.pulls ∧ k < s.suspPat.getD m 0 :=
  allKids_kid (P := fun c => ∀ k, c.pc = .fetching k → ∃ m, m < s.pulls ∧ k < s.suspPat.getD m 0)
    h nofun i k hp

theorem Within.release {s : St} (h : Within s) (i : Nat) : Within (release s i) :=
  within_mono (release_kids s i ▸ h) (Nat.le_of_eq (release_pulls s i).symm) (release_suspPat s i)

/-- a `send` starts at most the pull it is then inside of, and a pending pull gets nearer to its end -/
theorem Within.sched {s : St} (h : Within s) (i : Nat) (hi : i < s.kids.length) :
    Within (sched s i).1 := by
  have e := sched_eff s i hi
  have hk := (sched_shape s i).keeps.1
  have hsp : (Tee.sched s i).1.suspPat = s.suspPat := congrArg (·.2.1.2.1) hk.const
  have up : ∀ k, (∃ m, m < s.pulls ∧ k < s.suspPat.getD m 0) →
      ∃ m, m < (Tee.sched s i).1.pulls ∧ k < (Tee.sched s i).1.suspPat.getD m 0 :=
    fun k ⟨m, a, b⟩ => ⟨m, Nat.lt_of_lt_of_le a hk.pulls, hsp ▸ b⟩
  unfold Within
  rw [forall_mem_kids]
  intro j hj k hk
  rw [e.len] at hj
  by_cases hji : j = i
  · subst hji
    have hs := sched_sent s j hj
    generalize (Tee.sched s j).1.kid j = c', (Tee.sched s j).2 = o at hs hk
    cases hs with
    | noop => exact up k (h.kid j k hk)
    | blocked => exact up k (h.kid j k hk)
    | stopped hd => rw [show _ = (s.kid j).pc from rfl, hd] at hk; cases hk
    | pulling k' hp =>
      cases hk
      have ⟨m, a, b⟩ := h.kid j _ hp
      exact up k ⟨m, a, Nat.lt_of_succ_lt b⟩
    | started k' hst =>
      cases hk
      exact ⟨s.pulls, by rw [hst.2.2]; exact Nat.lt_succ_self _,
        by rw [hsp, hst.2.1]; exact Nat.lt_succ_self _⟩
    | _ => cases hk
  · rw [(e.others j hj hji).1] at hk
    exact up k (h.kid j k hk)

theorem Within.cancel {s : St} (h : Within s) (i : Nat) : Within (cancel s i).1 :=
  within_mono ((within_pcOnly s).cancel h nofun i) (cancel_shape s i).keeps.1.pulls
    (congrArg (·.2.1.2.1) (cancel_shape s i).keeps.1.const)

theorem Within.closeAll {s : St} (h : Within s) : Within (Tee.closeAll s).1 :=
  within_mono ((within_pcOnly s).closeAll h) (closeAll_keeps s).pulls
    (congrArg (·.2.1) (cfg_closeAll s))

theorem Within.step {s : St} (h : Within s) (op : Op) : Within (step s op).1 := by
  cases op with
  | sched i => simp only [Tee.step]; split; exact h.sched i ‹_›; exact h
  | close i =>
    simp only [Tee.step]; split
    · exact within_mono ((within_pcOnly s).closeKid h i) (closeKid_shape s i).keeps.1.pulls
        (congrArg (·.2.1) (cfg_closeKid s i))
    · exact h
  | cancel i => simp only [Tee.step]; split; exact h.cancel i; exact h
  | closeAll => exact h.closeAll

theorem Within.runOps {s : St} (h : Within s) (ops : List Op) : Within (runOps s ops) := by
  induction ops generalizing s with
  | nil => exact h
  | cons op rest ih => exact ih (h.step op)

theorem reach_within (items n susp lock closeable dies ops) :
    Within (reach items n susp lock closeable dies ops) :=
  Within.runOps (fun c hc k hk => by rw [(List.mem_replicate.1 hc).2] at hk; cases hk) ops

end AsyncVerif.Tee

/-! ## cached_property -/
namespace AsyncVerif.CachedProperty

/-- The control flow of `_await_impl` as one task sees it: program counter before a micro-step,
    program counter after it, what is reported.  `held p`: the lock of placeholder `p` has an owner
    afterwards.  Where a transition can be taken from several positions (`return await stored`, the
    two ways into `async with`), the position before is left open. -/
inductive PcStep (cfg : Cfg) (held : Nat → Prop) : Pc → Pc → Option Out → Prop
  | unborn : PcStep cfg held .unborn .unborn (some .noop)
  | done res : PcStep cfg held (.done res) (.done res) (some .noop)
  | value a v : PcStep cfg held a (.done (.ok v)) (some (.ret v))
  | chase a p : PcStep cfg held a (.entered p) none
  | block a p : held p → PcStep cfg held a (.lockwait p) (some .blocked)
  | acquire a p : PcStep cfg held a (.holding p) none
  | run p r : PcStep cfg held (.holding p) (.getter p r (cfg.susp r)) none
  | raised p r : PcStep cfg held (.getter p r 0) (.done (.failed r)) (some (.raised r))
  | susp p r k : PcStep cfg held (.getter p r (k + 1)) (.getter p r k) (some (.suspended r))

theorem awaitStored_pcStep (cfg : Cfg) (held : Nat → Prop) (a : Pc) (s : State) (t : Nat) (x : Stored) :
    PcStep cfg held a ((awaitStored s t x).1.pc t) (awaitStored s t x).2 := by
  cases x with
  | ph p => exact pc_setPc_self s t _ ▸ .chase a p
  | val v => exact pc_setPc_self s t _ ▸ .value a v

theorem micro_pcStep (cfg : Cfg) (s : State) (t : Nat) :
    PcStep cfg (fun p => ∃ ow, (micro cfg s t).1.lock p = some ow) (s.pc t) ((micro cfg s t).1.pc t)
      (micro cfg s t).2 := by
  generalize hm : micro cfg s t = m
  unfold micro at hm
  split at hm
  · rename_i ha; subst hm; exact ha ▸ .unborn
  · rename_i res ha; subst hm; exact ha ▸ .done res
  · subst hm; exact pc_setPc_self s t _ ▸ .value _ _
  · subst hm; exact pc_setPc_self s t _ ▸ .chase _ _
  · rename_i p _
    split at hm
    split at hm
    · split at hm
      · split at hm
        · rename_i ow hl
          subst hm
          exact pc_setPc_self _ t _ ▸ .block _ p ⟨ow, hl⟩
        · subst hm; exact pc_setPc_self _ t _ ▸ .acquire _ p
      · subst hm; exact pc_setPc_self _ t _ ▸ .acquire _ p
    · subst hm; exact awaitStored_pcStep cfg _ _ _ t _
  · rename_i p ha
    split at hm
    · rename_i ow hl; subst hm; exact ha ▸ .block _ p ⟨ow, hl⟩
    · subst hm; exact pc_setPc_self _ t _ ▸ .acquire _ p
  · rename_i p ha
    split at hm
    split at hm
    · subst hm; rw [ha]; exact pc_setPc_self _ t _ ▸ .run p _
    · subst hm; exact awaitStored_pcStep cfg _ _ _ t _
  · rename_i p r ha
    unfold complete at hm
    split at hm
    · subst hm; exact pc_setPc_self _ t _ ▸ .value _ r
    · subst hm; rw [ha]; exact pc_setPc_self _ t _ ▸ .raised p r
  · rename_i p r k ha; subst hm; rw [ha]; exact pc_setPc_self _ t _ ▸ .susp p r k

/-- the outputs of a `sched` that mean "the await completed": it returned, it raised the getter's
    exception, or the task had finished before -/
def Out.completed : Out → Prop
  | .ret _ => True
  | .raised _ => True
  | .noop => True
  | _ => False

/-- what a `sched` can report at all -/
def Out.ofSched (o : Out) : Prop := o.completed ∨ o = .blocked ∨ (∃ r, o = .suspended r) ∨ o = .stuck

theorem PcStep.of_getter {cfg : Cfg} {held : Nat → Prop} {a : Pc} {p r k : Nat} {o : Option Out}
    (h : PcStep cfg held a (.getter p r k) o) :
    (a = .getter p r (k + 1) ∧ o = some (.suspended r)) ∨ (k = cfg.susp r ∧ o = none) := by
  cases h
  · exact Or.inr ⟨rfl, rfl⟩
  · exact Or.inl ⟨rfl, rfl⟩

theorem PcStep.of_susp {cfg : Cfg} {held : Nat → Prop} {a b : Pc} {r : Nat}
    (h : PcStep cfg held a b (some (.suspended r))) : ∃ p k, a = .getter p r (k + 1) ∧ b = .getter p r k := by
  cases h; exact ⟨_, _, rfl, rfl⟩

theorem PcStep.of_blocked {cfg : Cfg} {held : Nat → Prop} {a b : Pc}
    (h : PcStep cfg held a b (some .blocked)) : ∃ p, b = .lockwait p ∧ held p := by
  cases h; exact ⟨_, rfl, ‹_›⟩

theorem PcStep.not_lockwait {cfg : Cfg} {held : Nat → Prop} {a : Pc} {p : Nat}
    (h : PcStep cfg held a (.lockwait p) none) : False := by
  cases h

theorem PcStep.ofSched {cfg : Cfg} {held : Nat → Prop} {a b : Pc} {x : Out}
    (h : PcStep cfg held a b (some x)) : x.ofSched := by
  cases h
  · exact Or.inl trivial
  · exact Or.inl trivial
  · exact Or.inl trivial
  · exact Or.inr (Or.inl rfl)
  · exact Or.inl trivial
  · exact Or.inr (Or.inr (Or.inl ⟨_, rfl⟩))

/-- what one micro-step of task `t` can do, as far as suspensions are concerned -/
structure MicroSpec (cfg : Cfg) (s : State) (t : Nat) (s' : State) (o : Option Out) : Prop where
  /-- a task is inside the getter afterwards only if it was there with one more suspension to go
      (and the step reports that suspension), or the run has just been started (not yet reported) -/
  getter : ∀ p r k, s'.pc t = .getter p r k →
    (s.pc t = .getter p r (k + 1) ∧ o = some (.suspended r)) ∨ (k = cfg.susp r ∧ o = none)
  susp : ∀ r, o = some (.suspended r) → ∃ p k, s.pc t = .getter p r (k + 1) ∧ s'.pc t = .getter p r k
  blocked : o = some .blocked → ∃ p ow, s'.pc t = .lockwait p ∧ s'.lock p = some ow
  lockwait : o = none → ∀ p, s'.pc t ≠ .lockwait p

theorem micro_spec (cfg : Cfg) (s : State) (t : Nat) :
    MicroSpec cfg s t (micro cfg s t).1 (micro cfg s t).2 :=
  have h := micro_pcStep cfg s t
  ⟨fun _ _ _ e => (e ▸ h).of_getter, fun _ e => (e ▸ h).of_susp,
    fun e => have ⟨p, hp, ow, hl⟩ := (e ▸ h).of_blocked; ⟨p, ow, hp, hl⟩,
    fun e _ e' => (e' ▸ e ▸ h).not_lockwait⟩

/-- `schedN` runs micro-steps while they are silent (`inv`) and stops at the first one that reports,
    or when the budget is used up (`post`) -/
theorem schedN_rec (cfg : Cfg) (t : Nat) (inv : State → Prop) (post : State → Out → Prop)
    (hstuck : ∀ s, inv s → post s .stuck)
    (hstep : ∀ s, inv s → match (micro cfg s t).2 with
      | some o => post (micro cfg s t).1 o
      | none => inv (micro cfg s t).1) (n : Nat) :
    ∀ s, inv s → post (schedN cfg n s t).1 (schedN cfg n s t).2 := by
  induction n with
  | zero => exact hstuck
  | succ n ih =>
    intro s h
    have hm := hstep s h
    unfold schedN
    generalize micro cfg s t = r at hm
    obtain ⟨s1, o⟩ := r
    cases o with
    | some o => exact hm
    | none => exact ih s1 hm

/-- between two micro-steps of a `sched` begun in `s`: task `t` is inside the getter only where it
    was in `s`, or at the very beginning of a run -/
def GetterSince (cfg : Cfg) (s : State) (t : Nat) (s1 : State) : Prop :=
  ∀ p r k, s1.pc t = .getter p r k → s.pc t = .getter p r k ∨ cfg.susp r = k

/-- one `sched`: a reported suspension leaves the task inside the user getter, as scripted, or
    inside the lock of a placeholder that is held -/
theorem schedN_spec (cfg : Cfg) (n : Nat) (s : State) (t : Nat) :
    (∀ r, (schedN cfg n s t).2 = .suspended r → ∃ p k, (schedN cfg n s t).1.pc t = .getter p r k ∧
      (s.pc t = .getter p r (k + 1) ∨ cfg.susp r = k + 1)) ∧
    ((schedN cfg n s t).2 = .blocked →
      ∃ p ow, (schedN cfg n s t).1.pc t = .lockwait p ∧ (schedN cfg n s t).1.lock p = some ow) := by
  refine schedN_rec cfg t (GetterSince cfg s t)
    (fun s' o => (∀ r, o = .suspended r → ∃ p k, s'.pc t = .getter p r k ∧
        (s.pc t = .getter p r (k + 1) ∨ cfg.susp r = k + 1)) ∧
      (o = .blocked → ∃ p ow, s'.pc t = .lockwait p ∧ s'.lock p = some ow))
    ?_ ?_ n s (fun _ _ _ h => Or.inl h)
  · exact fun _ _ => ⟨fun _ h => (nomatch h), fun h => (nomatch h)⟩
  intro s1 h1
  have sp := micro_spec cfg s1 t
  generalize micro cfg s1 t = m at sp
  obtain ⟨s2, o⟩ := m
  cases o with
  | some o =>
    refine ⟨fun r hr => ?_, fun hb => sp.blocked (by rw [hb])⟩
    obtain ⟨p, k, h2, h3⟩ := sp.susp r (by rw [hr])
    exact ⟨p, k, h3, h1 p r (k + 1) h2⟩
  | none =>
    intro p r k hk
    rcases sp.getter p r k hk with ⟨_, h⟩ | ⟨h, _⟩
    · cases h
    · exact Or.inr h.symm

/-- no task is further inside a getter run than the script of that run allows -/
def GetterBound (cfg : Cfg) (s : State) : Prop := ∀ t p r k, s.pc t = .getter p r k → k ≤ cfg.susp r

theorem micro_getterBound (cfg : Cfg) (s : State) (t : Nat) (h : GetterBound cfg s) :
    GetterBound cfg (micro cfg s t).1 := by
  intro t' p r k hk
  by_cases hne : t' = t
  · subst hne
    rcases (micro_spec cfg s t').getter p r k hk with ⟨h1, _⟩ | ⟨h1, _⟩
    · have := h t' p r (k + 1) h1; omega
    · omega
  · rw [micro_frame cfg s t t' hne] at hk; exact h t' p r k hk

theorem schedN_getterBound (cfg : Cfg) (n : Nat) (s : State) (t : Nat) (h : GetterBound cfg s) :
    GetterBound cfg (schedN cfg n s t).1 :=
  schedN_rec cfg t (GetterBound cfg) (fun s' _ => GetterBound cfg s') (fun _ h => h)
    (fun s1 h1 => by have := micro_getterBound cfg s1 t h1; split <;> exact this) n s h

theorem schedN_out (cfg : Cfg) (n : Nat) (s : State) (t : Nat) : (schedN cfg n s t).2.ofSched :=
  schedN_rec cfg t (fun _ => True) (fun _ o => o.ofSched) (fun _ _ => Or.inr (Or.inr (Or.inr rfl)))
    (fun s1 _ => by
      have := micro_pcStep cfg s1 t
      split
      · rename_i o ho; exact (ho ▸ this).ofSched
      · trivial) n s trivial

/-- the task is not in the middle of an `await` -/
def Pc.idle : Pc → Prop
  | .unborn => True
  | .start _ => True
  | .done _ => True
  | _ => False

theorem step_susp_is_sched (cfg : Cfg) (s : State) (op : Op)
    (h : (step cfg s op).2 = .blocked ∨ ∃ r, (step cfg s op).2 = .suspended r) :
    ∃ t, op = .sched t := by
  cases op with
  | spawn i => simp [step] at h
  | respawn t => simp only [step] at h; split at h <;> simp at h
  | sched t => exact ⟨t, rfl⟩
  | cancel t => simp only [step, cancel] at h; split at h <;> simp at h
  | del i => simp only [step] at h; split at h <;> simp at h

theorem access_lock (s : State) (i p o : Nat) (h : (access s i).1.lock p = some o) :
    s.lock p = some o := by
  rcases access_cases s i with ⟨x, _, he⟩ | ⟨_, he⟩
  · rw [he] at h; exact h
  · rw [he] at h
    simp only [newPh] at h
    split at h
    · cases h
    · exact h

theorem release_lock (cfg : Cfg) (s : State) (p q o : Nat) (h : (release cfg s p).lock q = some o) :
    s.lock q = some o ∧ (cfg.lock = true → q ≠ p) := by
  unfold release at h
  split at h
  · simp only [setLock] at h
    split at h
    · cases h
    · exact ⟨h, fun _ => ‹_›⟩
  · exact ⟨h, fun hc => absurd hc ‹_›⟩

theorem step_of_not_sched (cfg : Cfg) (s : State) (op : Op) (h : ∀ t, op ≠ .sched t) :
    (∀ t, (step cfg s op).1.pc t = s.pc t ∨ ((step cfg s op).1.pc t).idle) ∧
    (∀ p o, (step cfg s op).1.lock p = some o → s.lock p = some o) := by
  cases op with
  | spawn i =>
    refine ⟨fun t => ?_, fun p o => access_lock s i p o⟩
    simp only [step, addTask]
    split
    · exact Or.inr trivial
    · exact Or.inl (congrFun (access_pc s i) t)
  | respawn t =>
    simp only [step]
    split
    · refine ⟨fun t' => ?_, fun _ _ h => h⟩
      simp only [addTask]
      split
      · exact Or.inr trivial
      · exact Or.inl rfl
    · exact ⟨fun _ => Or.inl rfl, fun _ _ h => h⟩
  | sched t => exact absurd rfl (h t)
  | cancel t =>
    have hpc : ∀ s' : State, s'.pc = s.pc → ∀ t', (setPc s' t (.done .cancelled)).pc t' = s.pc t' ∨
        ((setPc s' t (.done .cancelled)).pc t').idle := by
      intro s' e t'
      simp only [setPc]
      split
      · exact Or.inr trivial
      · exact Or.inl (congrFun e t')
    simp only [step, cancel]
    split
    · exact ⟨hpc s rfl, fun _ _ h => h⟩
    · exact ⟨hpc s rfl, fun _ _ h => h⟩
    · exact ⟨hpc _ (release_pc cfg s _), fun p o h => (release_lock cfg s _ p o h).1⟩
    · exact ⟨fun _ => Or.inl rfl, fun _ _ h => h⟩
  | del i =>
    simp only [step]
    split <;> exact ⟨fun _ => Or.inl rfl, fun _ _ h => h⟩

theorem step_getterBound (cfg : Cfg) (s : State) (op : Op) (h : GetterBound cfg s) :
    GetterBound cfg (step cfg s op).1 := by
  by_cases hop : ∃ t, op = .sched t
  · obtain ⟨t, rfl⟩ := hop; exact schedN_getterBound cfg _ s t h
  · intro t p r k hk
    rcases (step_of_not_sched cfg s op (fun t e => hop ⟨t, e⟩)).1 t with e | e
    · exact h t p r k (e ▸ hk)
    · rw [hk] at e; exact e.elim

theorem reach_getterBound (cfg : Cfg) (ops : List Op) : GetterBound cfg (reach cfg ops) := by
  unfold reach
  have : ∀ s, GetterBound cfg s → GetterBound cfg (exec cfg s ops) := by
    induction ops with
    | nil => intro s h; exact h
    | cons op ops ih => intro s h; exact ih _ (step_getterBound cfg s op h)
  exact this _ (fun t p r k h => nomatch h)

/-! ### a getter that never suspends -/

/-- between two operations: every lock is free and no task is in the middle of an `await` -/
structure Idle (s : State) : Prop where
  pcs : ∀ t, (s.pc t).idle
  locks : ∀ p, s.lock p = none

/-- while task `t` runs (between two of its micro-steps), with a getter that never suspends -/
structure During (cfg : Cfg) (s : State) (t : Nat) : Prop where
  others : ∀ t', t' ≠ t → (s.pc t').idle
  locks : ∀ p o, s.lock p = some o →
    cfg.lock = true ∧ o = t ∧ (s.pc t = .holding p ∨ ∃ r, s.pc t = .getter p r 0)
  nolockwait : ∀ p, s.pc t ≠ .lockwait p
  getter0 : ∀ p r k, s.pc t = .getter p r k → k = 0

theorem Idle.during {s : State} (h : Idle s) (cfg : Cfg) (t : Nat) : During cfg s t := by
  refine ⟨fun t' _ => h.pcs t', ?_, ?_, ?_⟩
  · intro p o hl; rw [h.locks p] at hl; cases hl
  · intro p hp; have := h.pcs t; rw [hp] at this; exact this
  · intro p r k hp; have := h.pcs t; rw [hp] at this; exact this.elim

theorem During.access {cfg : Cfg} {s : State} {t : Nat} (h : During cfg s t) (i : Nat) :
    During cfg (access s i).1 t := by
  have e := access_pc s i
  refine ⟨?_, ?_, ?_, ?_⟩
  · intro t' ht; rw [e]; exact h.others t' ht
  · intro p o hl; rw [e]; exact h.locks p o (access_lock s i p o hl)
  · intro p; rw [e]; exact h.nolockwait p
  · intro p r k; rw [e]; exact h.getter0 p r k

/-- the result of a micro-step of task `t` in a world whose getter never suspends: either the
    task finished (`Idle` again, and what is reported is not a suspension) or it goes on -/
def SyncStep (cfg : Cfg) (t : Nat) (r : State × Option Out) : Prop :=
  match r.2 with
  | some o => Idle r.1 ∧ o ≠ .blocked ∧ (∀ q, o ≠ .suspended q)
  | none => During cfg r.1 t

theorem idle_setPc {s : State} {t : Nat} {x : Pc} (hx : x.idle) (ho : ∀ t', t' ≠ t → (s.pc t').idle)
    (hl : ∀ p, s.lock p = none) : Idle (setPc s t x) := by
  refine ⟨fun t' => ?_, hl⟩
  simp only [setPc]
  split
  · exact hx
  · exact ho t' ‹_›

theorem during_setPc {cfg : Cfg} {s : State} {t : Nat} {x : Pc} (ho : ∀ t', t' ≠ t → (s.pc t').idle)
    (hl : ∀ p o, s.lock p = some o → cfg.lock = true ∧ o = t ∧ (x = .holding p ∨ ∃ r, x = .getter p r 0))
    (hw : ∀ p, x ≠ .lockwait p) (hg : ∀ p r k, x = .getter p r k → k = 0) :
    During cfg (setPc s t x) t := by
  refine ⟨fun t' ht => ?_, ?_, ?_, ?_⟩
  · simp only [setPc, ht, if_false]; exact ho t' ht
  all_goals rw [pc_setPc_self]; assumption

theorem awaitStored_sync (cfg : Cfg) (s : State) (t : Nat) (x : Stored)
    (ho : ∀ t', t' ≠ t → (s.pc t').idle) (hl : ∀ p, s.lock p = none) :
    SyncStep cfg t (awaitStored s t x) := by
  cases x with
  | val v => exact ⟨idle_setPc trivial ho hl, nofun, nofun⟩
  | ph p' => exact during_setPc ho (fun p o h => by rw [hl p] at h; cases h) nofun nofun

theorem During.held {cfg : Cfg} {s : State} {t p q o : Nat} (h : During cfg s t)
    (hp : s.pc t = .holding p ∨ ∃ r, s.pc t = .getter p r 0) (hl : s.lock q = some o) :
    cfg.lock = true ∧ q = p := by
  obtain ⟨a, _, c⟩ := h.locks q o hl
  refine ⟨a, ?_⟩
  rcases hp with hp | ⟨r, hp⟩ <;> rw [hp] at c <;> rcases c with c | ⟨r', c⟩ <;> cases c <;> rfl

theorem During.free {cfg : Cfg} {s : State} {t : Nat} (h : During cfg s t)
    (h1 : ∀ p, s.pc t ≠ .holding p) (h2 : ∀ p r, s.pc t ≠ .getter p r 0) (p : Nat) : s.lock p = none := by
  cases hl : s.lock p with
  | none => rfl
  | some o =>
    rcases (h.locks p o hl).2.2 with h3 | ⟨r, h3⟩
    · exact absurd h3 (h1 p)
    · exact absurd h3 (h2 p r)

theorem During.release_free {cfg : Cfg} {s : State} {t p : Nat} (h : During cfg s t)
    (hp : s.pc t = .holding p ∨ ∃ r, s.pc t = .getter p r 0) (q : Nat) :
    (release cfg s p).lock q = none := by
  cases hl : (release cfg s p).lock q with
  | none => rfl
  | some o =>
    obtain ⟨h1, h2⟩ := release_lock cfg s p q o hl
    obtain ⟨h3, h4⟩ := h.held hp h1
    exact absurd h4 (h2 h3)

theorem micro_sync (cfg : Cfg) (hs : ∀ r, cfg.susp r = 0) (s : State) (t : Nat)
    (h : During cfg s t) : SyncStep cfg t (micro cfg s t) := by
  have hnoop : (s.pc t).idle → SyncStep cfg t (s, some .noop) := fun hi =>
    ⟨⟨fun t' => if e : t' = t then e ▸ hi else h.others t' e,
      h.free (fun p e => by rw [e] at hi; exact hi) (fun p r e => by rw [e] at hi; exact hi)⟩,
      nofun, nofun⟩
  unfold micro
  cases ha : s.pc t with
  | unborn => exact hnoop (ha ▸ trivial)
  | done res => exact hnoop (ha ▸ trivial)
  | start x =>
    have := awaitStored_sync cfg s t x h.others (h.free (by simp [ha]) (by simp [ha]))
    cases x <;> exact this
  | lockwait p => exact absurd ha (h.nolockwait p)
  | entered p =>
    have h1 : During cfg (instanceValue s p).1 t := h.access _
    have hl : ∀ q, (instanceValue s p).1.lock q = none :=
      h1.free (by simp [instanceValue, access_pc, ha]) (by simp [instanceValue, access_pc, ha])
    simp only
    split
    · split
      · split
        · rename_i ow hlk; rw [hl p] at hlk; cases hlk
        · refine during_setPc (s := setLock _ p (some t)) h1.others (fun q o hq => ?_) nofun nofun
          simp only [setLock] at hq
          split at hq
          · cases hq; exact ⟨‹_›, rfl, Or.inl (by rw [‹q = p›])⟩
          · rw [hl q] at hq; cases hq
      · exact during_setPc h1.others (fun q o hq => by rw [hl q] at hq; cases hq) nofun nofun
    · exact awaitStored_sync cfg _ t _ h1.others hl
  | holding p =>
    have h1 : During cfg (instanceValue s p).1 t := h.access _
    have hp1 : (instanceValue s p).1.pc t = .holding p := by rw [instanceValue, access_pc, ha]
    simp only
    split
    · refine during_setPc (s := { (instanceValue s p).1 with nRuns := _, run := _ }) h1.others (fun q o hq => ?_) nofun
        (fun _ _ _ e => by cases e; exact hs _)
      obtain ⟨a, b⟩ := h1.held (Or.inl hp1) hq
      exact ⟨a, (h1.locks q o hq).2.1, Or.inr ⟨_, by rw [b, hs]⟩⟩
    · exact awaitStored_sync cfg _ t _ (fun t' ht => by have := h1.others t' ht; rwa [← release_pc cfg _ p] at this)
        (h1.release_free (Or.inl hp1))
  | getter p r k =>
    cases k with
    | succ k => cases h.getter0 p r _ ha
    | zero =>
      have fin : ∀ s0 : State, During cfg s0 t → s0.pc t = .getter p r 0 → ∀ st res,
          Idle (setPc (setRunSt (release cfg s0 p) r st) t (.done res)) := fun s0 h0 e _ _ =>
        idle_setPc trivial (fun t' ht => by have := h0.others t' ht; rwa [← release_pc cfg s0 p] at this)
          (h0.release_free (Or.inr ⟨r, e⟩))
      simp only [complete]
      split
      · -- storing the value touches neither the program counters nor the locks
        exact ⟨fin (setSlot s _ _) ⟨h.others, h.locks, h.nolockwait, h.getter0⟩ ha _ _, nofun, nofun⟩
      · exact ⟨fin s h ha _ _, nofun, nofun⟩

theorem schedN_sync (cfg : Cfg) (hs : ∀ r, cfg.susp r = 0) (n : Nat) (s : State) (t : Nat)
    (h : During cfg s t) (hns : (schedN cfg n s t).2 ≠ .stuck) :
    Idle (schedN cfg n s t).1 ∧ (schedN cfg n s t).2 ≠ .blocked ∧
      ∀ q, (schedN cfg n s t).2 ≠ .suspended q :=
  schedN_rec cfg t (During cfg · t)
    (fun s' o => o ≠ .stuck → Idle s' ∧ o ≠ .blocked ∧ ∀ q, o ≠ .suspended q)
    (fun _ _ e => absurd rfl e)
    (fun s1 h1 => by
      have := micro_sync cfg hs s1 t h1
      generalize micro cfg s1 t = m at this
      obtain ⟨s2, o⟩ := m
      cases o with
      | some o => exact fun _ => this
      | none => exact this) n s h hns

theorem step_sync (cfg : Cfg) (hs : ∀ r, cfg.susp r = 0) (s : State) (op : Op)
    (hi : Inv cfg s) (h : Idle s) :
    Idle (step cfg s op).1 ∧ (step cfg s op).2 ≠ .blocked ∧ ∀ q, (step cfg s op).2 ≠ .suspended q := by
  by_cases hop : ∃ t, op = .sched t
  · obtain ⟨t, rfl⟩ := hop
    exact schedN_sync cfg hs _ s t (h.during cfg t) (step_not_stuck cfg s (.sched t) hi)
  · obtain ⟨h1, h2⟩ := step_of_not_sched cfg s op (fun t e => hop ⟨t, e⟩)
    refine ⟨⟨fun t => (h1 t).elim (fun e => e ▸ h.pcs t) id, fun p => ?_⟩,
      fun e => hop (step_susp_is_sched cfg s op (Or.inl e)),
      fun q e => hop (step_susp_is_sched cfg s op (Or.inr ⟨q, e⟩))⟩
    cases hl : (step cfg s op).1.lock p with
    | none => rfl
    | some o => have := h2 p o hl; rw [h.locks p] at this; cases this

theorem reach_idle (cfg : Cfg) (hs : ∀ r, cfg.susp r = 0) (ops : List Op) : Idle (reach cfg ops) := by
  unfold reach
  have : ∀ s, Inv cfg s → Idle s → Idle (exec cfg s ops) := by
    induction ops with
    | nil => intro s _ h; exact h
    | cons op ops ih =>
      intro s hi h
      exact ih _ (step_inv cfg s op hi) (step_sync cfg hs s op hi h).1
  exact this _ (init_inv cfg) ⟨fun _ => trivial, fun _ => rfl⟩

end AsyncVerif.CachedProperty

/-! ## lru_cache, overlapping calls -/
namespace AsyncVerif.Lru

theorem cstep_begin_cases (cfg : Cfg) (s : CSt) (c : Nat) (p : Pattern) :
    ((cstep cfg s (.begin c p)).2 = .ignored ∧ (cstep cfg s (.begin c p)).1 = s) ∨
    ((∃ v, (cstep cfg s (.begin c p)).2 = .hit v) ∧
      (cstep cfg s (.begin c p)).1.inflight = s.inflight) ∨
    ((cstep cfg s (.begin c p)).2 = .started ∧ lookupCall c s.inflight = none ∧
      (cstep cfg s (.begin c p)).1.inflight = s.inflight ++ [(c, p)]) := by
  simp only [cstep]
  split
  · exact Or.inl ⟨rfl, rfl⟩
  · rename_i hn
    have hn' : lookupCall c s.inflight = none := by
      cases h : lookupCall c s.inflight with
      | none => rfl
      | some x => rw [h] at hn; simp at hn
    split
    · exact Or.inr (Or.inl ⟨⟨_, rfl⟩, rfl⟩)
    · exact Or.inr (Or.inr ⟨rfl, hn', rfl⟩)

theorem getLast?_append_of_some {α : Type} (l' l : List α) (x : α) (h : l.getLast? = some x) :
    (l' ++ l).getLast? = some x := by
  rw [List.getLast?_append, h]; rfl

/-- The first action of a program either suspends the task — it is a call of the wrapped USER
    function scripted to suspend, the cache answered `started`, and the call is in flight
    afterwards — or it completes within the step, leaving the calls in flight as they were, and the
    rest of the program runs. -/
theorem runProg_cons (cfg : Cfg) (t : Nat) (a : Act) (rest : List Act) (pc : Nat) (s : CSt) :
    (∃ p k r s1, a = .call p (k + 1) r ∧ lookupCall (100 * t + pc) s1.inflight = some p ∧
      runProg cfg t (a :: rest) pc s
        = (s1, ⟨rest, pc + 1, some (100 * t + pc, k, r)⟩, [(.begin (100 * t + pc) p, .started)])) ∨
    (∃ s' evs, s'.inflight = s.inflight ∧
      runProg cfg t (a :: rest) pc s
        = ((runProg cfg t rest (pc + 1) s').1, (runProg cfg t rest (pc + 1) s').2.1,
           evs ++ (runProg cfg t rest (pc + 1) s').2.2)) := by
  cases a with
  | call p k r =>
    have hc := cstep_begin_cases cfg s (100 * t + pc) p
    rcases hb : cstep cfg s (.begin (100 * t + pc) p) with ⟨s1, o⟩
    rw [hb] at hc
    rcases hc with ⟨h1, h2⟩ | ⟨⟨v, h1⟩, h2⟩ | ⟨h1, h2, h3⟩ <;> simp only at h1 h2 <;> subst h1
    · exact Or.inr ⟨s1, [_], by rw [h2], by simp only [runProg, hb]; rfl⟩
    · exact Or.inr ⟨s1, [_], h2, by simp only [runProg, hb]; rfl⟩
    · have hl : lookupCall (100 * t + pc) s1.inflight = some p := by
        rw [h3]; exact lookupCall_append_new _ p _ h2
      cases k with
      | succ k => exact Or.inl ⟨p, k, r, s1, rfl, hl, by simp only [runProg, hb]⟩
      | zero =>
        -- the call finishes within the step and is no longer in flight
        refine Or.inr ⟨(cstep cfg s1 (.finish (100 * t + pc) r.toC)).1, [_, _], ?_,
          by simp only [runProg, hb]; rfl⟩
        simp only [cstep, hl]
        cases r <;> simp only [Res.toC] <;> rw [h3] <;> exact dropCall_append_new _ p _ h2
  | clear => exact Or.inr ⟨(cstep cfg s .clear).1, [(.clear, (cstep cfg s .clear).2)], rfl, rfl⟩
  | discard p => exact Or.inr ⟨(cstep cfg s (.discard p)).1, [(.discard p, (cstep cfg s (.discard p)).2)], rfl, rfl⟩
  | info => exact Or.inr ⟨(cstep cfg s .info).1, [(.info, (cstep cfg s .info).2)], rfl, rfl⟩

/-- where running a task's program can leave the task suspended: inside a call of the wrapped
    USER function whose script says that it suspends -/
theorem runProg_waiting (cfg : Cfg) (t : Nat) : ∀ (prog : List Act) (pc : Nat) (s : CSt) (c k : Nat)
    (r : Res), (runProg cfg t prog pc s).2.1.waiting = some (c, k, r) →
    ∃ p, Act.call p (k + 1) r ∈ prog ∧
      (runProg cfg t prog pc s).2.2.getLast? = some (.begin c p, .started) ∧
      lookupCall c (runProg cfg t prog pc s).1.inflight = some p := by
  intro prog
  induction prog with
  | nil => intro pc s c k r h; simp [runProg] at h
  | cons a rest ih =>
    intro pc s c k r h
    rcases runProg_cons cfg t a rest pc s with ⟨p, k', r', s1, rfl, hl, e⟩ | ⟨s', evs, _, e⟩
    · rw [e] at h ⊢
      simp only [Option.some.injEq, Prod.mk.injEq] at h
      obtain ⟨rfl, rfl, rfl⟩ := h
      exact ⟨p, List.mem_cons_self, rfl, hl⟩
    · rw [e] at h ⊢
      obtain ⟨p, h1, h2, h3⟩ := ih _ _ _ _ _ h
      exact ⟨p, List.mem_cons_of_mem _ h1, getLast?_append_of_some _ _ _ h2, h3⟩

/-- one `send`: the task ends suspended only inside the wrapped user function -/
theorem sendTask_waiting (cfg : Cfg) (t : Nat) (tk : Task) (s : CSt) (c k : Nat) (r : Res)
    (h : (sendTask cfg t tk s).2.1.waiting = some (c, k, r)) :
    tk.waiting = some (c, k + 1, r) ∨
    ∃ p, Act.call p (k + 1) r ∈ tk.prog ∧
      (sendTask cfg t tk s).2.2.getLast? = some (.begin c p, .started) ∧
      lookupCall c (sendTask cfg t tk s).1.inflight = some p := by
  unfold sendTask at h ⊢
  rcases hw : tk.waiting with _ | ⟨c', k', r'⟩
  · rw [hw] at h
    simp only at h ⊢
    exact Or.inr (runProg_waiting cfg t _ _ _ _ _ _ h)
  · rw [hw] at h
    cases k' with
    | zero =>
      simp only at h ⊢
      right
      obtain ⟨p, h1, h2, h3⟩ := runProg_waiting cfg t _ _ _ _ _ _ h
      exact ⟨p, h1, getLast?_append_of_some [_] _ _ h2, h3⟩
    | succ k' =>
      simp only [Option.some.injEq, Prod.mk.injEq] at h ⊢
      obtain ⟨rfl, rfl, rfl⟩ := h
      exact Or.inl ⟨rfl, rfl, rfl⟩

/-- a cancellation never leaves the task suspended, unless it acted as a `send` -/
theorem cancelTask_waiting (cfg : Cfg) (t : Nat) (tk : Task) (s : CSt) (c k : Nat) (r : Res)
    (h : (cancelTask cfg t tk s).2.1.waiting = some (c, k, r)) :
    tk.waiting = none ∧ cancelTask cfg t tk s = sendTask cfg t tk s := by
  unfold cancelTask at h ⊢
  rcases hw : tk.waiting with _ | ⟨c', k', r'⟩
  · exact ⟨rfl, rfl⟩
  · rw [hw] at h; simp at h

/-! ### a wrapped function that never suspends -/

def Act.sync : Act → Prop
  | .call _ k _ => k = 0
  | _ => True

/-- the task is not inside a call, and no call of its program is scripted to suspend -/
def Task.sync (tk : Task) : Prop := tk.waiting = none ∧ ∀ a ∈ tk.prog, a.sync

theorem runProg_sync (cfg : Cfg) (t : Nat) : ∀ (prog : List Act) (pc : Nat) (s : CSt),
    (∀ a ∈ prog, a.sync) →
    (runProg cfg t prog pc s).2.1 = ⟨[], pc + prog.length, none⟩ ∧
    (runProg cfg t prog pc s).1.inflight = s.inflight := by
  intro prog
  induction prog with
  | nil => intro pc s _; exact ⟨rfl, rfl⟩
  | cons a rest ih =>
    intro pc s hs
    rcases runProg_cons cfg t a rest pc s with ⟨p, k, r, s1, rfl, _⟩ | ⟨s', evs, hi, e⟩
    · cases hs _ List.mem_cons_self
    · obtain ⟨i1, i2⟩ := ih (pc + 1) s' (fun a ha => hs a (List.mem_cons_of_mem _ ha))
      rw [e]
      exact ⟨by rw [i1, List.length_cons, Nat.add_assoc, Nat.add_comm 1], by rw [i2, hi]⟩

theorem sendTask_sync (cfg : Cfg) (t : Nat) (tk : Task) (s : CSt) (h : tk.sync) :
    (sendTask cfg t tk s).2.1 = ⟨[], tk.pc + tk.prog.length, none⟩ ∧
    (sendTask cfg t tk s).1.inflight = s.inflight := by
  unfold sendTask
  rw [h.1]
  exact runProg_sync cfg t tk.prog tk.pc s h.2

theorem cancelTask_sync (cfg : Cfg) (t : Nat) (tk : Task) (s : CSt) (h : tk.sync) :
    cancelTask cfg t tk s = sendTask cfg t tk s := by
  unfold cancelTask
  rw [h.1]

theorem sync_done (pc : Nat) : Task.sync ⟨[], pc, none⟩ := ⟨rfl, by simp⟩

theorem schedStep_sync (cfg : Cfg) (x : CSt × List Task) (op : SOp) (h : ∀ tk ∈ x.2, tk.sync) :
    (∀ tk ∈ (schedStep cfg x op).1.2, tk.sync) ∧
    (schedStep cfg x op).1.1.inflight = x.1.inflight := by
  have key : ∀ t, (∀ tk ∈ (schedStep cfg x (.send t)).1.2, tk.sync) ∧
      (schedStep cfg x (.send t)).1.1.inflight = x.1.inflight := by
    intro t
    simp only [schedStep]
    cases ht : x.2[t]? with
    | none => exact ⟨h, rfl⟩
    | some tk =>
      have hm : tk ∈ x.2 := List.mem_of_getElem? ht
      obtain ⟨e1, e2⟩ := sendTask_sync cfg t tk x.1 (h tk hm)
      refine ⟨?_, e2⟩
      intro tk' htk'
      rcases List.mem_or_eq_of_mem_set (l := x.2) (i := t)
        (by rw [← setTask_eq_set]; exact htk') with h1 | h1
      · exact h tk' h1
      · rw [h1, e1]; exact sync_done _
  cases op with
  | send t => exact key t
  | cancel t =>
    have : schedStep cfg x (.cancel t) = schedStep cfg x (.send t) := by
      simp only [schedStep]
      cases ht : x.2[t]? with
      | none => rfl
      | some tk => simp only; rw [cancelTask_sync cfg t tk x.1 (h tk (List.mem_of_getElem? ht))]
    rw [this]; exact key t

theorem schedFinal_sync (cfg : Cfg) (ops : List SOp) : ∀ (x : CSt × List Task),
    (∀ tk ∈ x.2, tk.sync) →
    (∀ tk ∈ (schedFinal cfg x ops).2, tk.sync) ∧ (schedFinal cfg x ops).1.inflight = x.1.inflight := by
  induction ops with
  | nil => intro x h; exact ⟨h, rfl⟩
  | cons op ops ih =>
    intro x h
    obtain ⟨h1, h2⟩ := schedStep_sync cfg x op h
    obtain ⟨h3, h4⟩ := ih _ h1
    exact ⟨h3, by simp only [schedFinal]; rw [h4, h2]⟩

end AsyncVerif.Lru

/-! ## context managers used as decorators -/
namespace AsyncVerif.Decorator

/-- the user's generator is suspended at an inner `await` of a segment that has just been
    started, and the script of that segment says that it suspends (`k + 1` times: now, and `k` more) -/
def GenStart (p : GenProg) (new : GenPc) : Prop :=
  (∃ k, new = .pre k ∧ p.preSusp = k + 1) ∨ (∃ k, new = .post k ∧ p.postSusp = k + 1) ∨
  (∃ e k, new = .thr e k ∧ p.thrSusp = k + 1)

/-- the user's generator was suspended at an inner `await` with one more suspension to go, and is
    now suspended at the next one of the same segment -/
def GenCont (old new : GenPc) : Prop :=
  (∃ k, old = .pre (k + 1) ∧ new = .pre k) ∨ (∃ k, old = .post (k + 1) ∧ new = .post k) ∨
  (∃ e k, old = .thr e (k + 1) ∧ new = .thr e k)

/-- the step ended with the call finished -/
def Ends (r : R) : Prop := ∃ x, r.2.2 = .finished x ∧ r.1.pc = .done x

/-- the call is suspended in user code, as scripted: in an awaitable this step started (script
    positive), or in the one it was suspended in before, with one more suspension to go -/
def InUser (gb : Bool) (cc : CallCfg) (l l' : Local) : Stage → Prop
  | .enter => ∃ left, l'.pc = .entering left ∧
      (gb = true → GenStart l.cell.prog l'.cell.pc ∨ GenCont l.cell.pc l'.cell.pc) ∧
      (gb = false → cc.plain.enterSusp = left + 1 ∨ l.pc = .entering (left + 1))
  | .body => ∃ k, l'.pc = .body k ∧ (cc.bodySusp = k + 1 ∨ l.pc = .body (k + 1))
  | .exit => ∃ o left, l'.pc = .exiting o left ∧
      (gb = true → GenStart l.cell.prog l'.cell.pc ∨ GenCont l.cell.pc l'.cell.pc) ∧
      (gb = false → cc.plain.exitSusp = left + 1 ∨ l.pc = .exiting o (left + 1))

/-- what one `send`/`throw` on `inner(...)` can end in -/
def StepSpec (gb : Bool) (cc : CallCfg) (l : Local) (r : R) : Prop :=
  r.1.cell.prog = l.cell.prog ∧
  (Ends r ∨ (r.2.2 = .skipped ∧ r.1 = l) ∨ ∃ st, r.2.2 = .suspended st ∧ InUser gb cc l r.1 st)

theorem seg_susp (n : Nat) (mk : Nat → GenPc) (fin : GRes) (hf : fin.2.1 ≠ .suspended)
    (h : (seg n mk fin).2.1 = .suspended) : ∃ k, n = k + 1 ∧ (seg n mk fin).1 = mk k := by
  cases n with
  | zero => exact absurd h hf
  | succ k => exact ⟨k, rfl, rfl⟩

/-- one `send`/`throw` into the user's generator object: it reports a suspension only from inside
    its own code, as its script says -/
theorem genAdvance_susp (p : GenProg) (pc : GenPc) (r : Resume)
    (h : (genAdvance p pc r).2.1 = .suspended) :
    ((r = .next ∨ ∃ e, r = .throwIn e) ∧ GenStart p (genAdvance p pc r).1) ∨
    (r = .cont ∧ GenCont pc (genAdvance p pc r).1) := by
  generalize hg : genAdvance p pc r = g at h ⊢
  unfold genAdvance at hg
  -- only the six arms that run a segment of the user's code can report a suspension
  split at hg <;> subst hg <;> try (cases h; done)
  · obtain ⟨k, hk, e⟩ := seg_susp _ _ _ (preFin_ns p) h
    exact Or.inl ⟨Or.inl rfl, Or.inl ⟨k, e, hk⟩⟩
  · obtain ⟨k, hk, e⟩ := seg_susp _ _ _ (preFin_ns p) h
    exact Or.inr ⟨rfl, Or.inl ⟨k, by rw [hk], e⟩⟩
  · obtain ⟨k, hk, e⟩ := seg_susp _ _ _ (postFin_ns p) h
    exact Or.inl ⟨Or.inl rfl, Or.inr (Or.inl ⟨k, e, hk⟩)⟩
  · obtain ⟨k, hk, e⟩ := seg_susp _ _ _ (postFin_ns p) h
    exact Or.inr ⟨rfl, Or.inr (Or.inl ⟨k, by rw [hk], e⟩)⟩
  · rename_i e'
    obtain ⟨k, hk, e⟩ := seg_susp _ _ _ (thrFin_ns p e') h
    exact Or.inl ⟨Or.inr ⟨e', rfl⟩, Or.inr (Or.inr ⟨e', k, e, hk⟩)⟩
  · rename_i e' _
    obtain ⟨k, hk, e⟩ := seg_susp _ _ _ (thrFin_ns p e') h
    exact Or.inr ⟨rfl, Or.inr (Or.inr ⟨e', k, by rw [hk], e⟩)⟩

/-- the call is suspended in user code that this very step started, and whose script says that it
    suspends: the user's `__aenter__` / generator, the decorated user function, the user's
    `__aexit__` / generator -/
def StartedIn (gb : Bool) (cc : CallCfg) (l' : Local) : Stage → Prop
  | .enter => ∃ left, l'.pc = .entering left ∧
      (gb = true → GenStart l'.cell.prog l'.cell.pc) ∧ (gb = false → cc.plain.enterSusp = left + 1)
  | .body => ∃ k, l'.pc = .body k ∧ cc.bodySusp = k + 1
  | .exit => ∃ o left, l'.pc = .exiting o left ∧
      (gb = true → GenStart l'.cell.prog l'.cell.pc) ∧ (gb = false → cc.plain.exitSusp = left + 1)

/-- result of a piece of `inner(...)` that only STARTS user awaitables: the call finished, or it is
    suspended inside one of them as scripted; the generator keeps its program -/
def Started (gb : Bool) (cc : CallCfg) (prog : GenProg) (r : R) : Prop :=
  r.1.cell.prog = prog ∧ (Ends r ∨ ∃ st, r.2.2 = .suspended st ∧ StartedIn gb cc r.1 st)

theorem Started.prepend {gb : Bool} {cc : CallCfg} {prog : GenProg} {r : R}
    (h : Started gb cc prog r) (evs : List LEv) : Started gb cc prog (prepend evs r) := h

theorem StartedIn.inUser {gb : Bool} {cc : CallCfg} {l l' : Local} {st : Stage}
    (h : StartedIn gb cc l' st) (hp : l'.cell.prog = l.cell.prog) : InUser gb cc l l' st := by
  cases st with
  | enter =>
    obtain ⟨left, h1, h2, h3⟩ := h
    exact ⟨left, h1, fun hg => Or.inl (hp ▸ h2 hg), fun hg => Or.inl (h3 hg)⟩
  | body =>
    obtain ⟨k, h1, h2⟩ := h
    exact ⟨k, h1, Or.inl h2⟩
  | exit =>
    obtain ⟨o, left, h1, h2, h3⟩ := h
    exact ⟨o, left, h1, fun hg => Or.inl (hp ▸ h2 hg), fun hg => Or.inl (h3 hg)⟩

theorem Started.stepSpec {gb : Bool} {cc : CallCfg} {l : Local} {r : R}
    (h : Started gb cc l.cell.prog r) : StepSpec gb cc l r := by
  refine ⟨h.1, ?_⟩
  rcases h.2 with h2 | ⟨st, h2, h3⟩
  · exact Or.inl h2
  · exact Or.inr (Or.inr ⟨st, h2, h3.inUser h.1⟩)

theorem finishExit_ends (cell : GenCell) (o : BodyOut) (resp : ExitResp) :
    Ends (finishExit cell o resp) := ⟨_, rfl, rfl⟩

theorem contExit_cases (cell : GenCell) (o : BodyOut) (left : Nat) (aw : Aw Bool) :
    (aw = .suspended ∧
      contExit cell o left aw = ({ pc := .exiting o left, cell := cell }, [], .suspended .exit)) ∨
    (aw ≠ .suspended ∧ Ends (contExit cell o left aw) ∧ (contExit cell o left aw).1.cell = cell) := by
  cases aw with
  | suspended => exact Or.inl ⟨rfl, rfl⟩
  | returned b => exact Or.inr ⟨by simp, finishExit_ends _ _ _, rfl⟩
  | raised x => exact Or.inr ⟨by simp, finishExit_ends _ _ _, rfl⟩

theorem plainExitSeg_cases (cc : CallCfg) (cell : GenCell) (o : BodyOut) (n : Nat) :
    (∃ k, n = k + 1 ∧
      plainExitSeg cc cell o n = ({ pc := .exiting o k, cell := cell }, [], .suspended .exit)) ∨
    (n = 0 ∧ Ends (plainExitSeg cc cell o n) ∧ (plainExitSeg cc cell o n).1.cell = cell) := by
  cases n with
  | zero =>
    right
    rcases contExit_cases cell o 0 (plainExitFin cc o.exc) with ⟨h, _⟩ | ⟨_, h1, h2⟩
    · exact absurd h (plainExitFin_ne_suspended _ _)
    · exact ⟨rfl, h1, h2⟩
  | succ k => exact Or.inl ⟨k, rfl, rfl⟩

theorem genAexit_suspended (exc : Option Exc) : genAexit exc .suspended = .suspended := by
  cases exc <;> rfl

theorem genExitSend_cases (cell : GenCell) (o : BodyOut) (r : Resume) :
    ((genAdvance cell.prog cell.pc r).2.1 = .suspended ∧
      (genExitSend cell o r).1 =
        { pc := .exiting o 0, cell := { cell with pc := (genAdvance cell.prog cell.pc r).1 } } ∧
      (genExitSend cell o r).2.2 = .suspended .exit) ∨
    ((genAdvance cell.prog cell.pc r).2.1 ≠ .suspended ∧ Ends (genExitSend cell o r) ∧
      (genExitSend cell o r).1.cell.prog = cell.prog) := by
  unfold genExitSend
  simp only []
  by_cases h : (genAdvance cell.prog cell.pc r).2.1 = .suspended
  · left
    rw [h, genAexit_suspended]
    exact ⟨rfl, rfl, rfl⟩
  · right
    rcases contExit_cases { cell with pc := (genAdvance cell.prog cell.pc r).1 } o 0
        (genAexit o.exc (genAdvance cell.prog cell.pc r).2.1) with ⟨h1, _⟩ | ⟨_, h1, h2⟩
    · exact absurd h1 (genAexit_ns _ _ h)
    · refine ⟨h, h1, ?_⟩
      show (contExit _ o 0 _).1.cell.prog = _
      rw [h2]

theorem exitResume_start (o : BodyOut) : exitResume o = .next ∨ ∃ e, exitResume o = .throwIn e := by
  unfold exitResume; cases o.exc <;> simp

theorem genStart_of_start (p : GenProg) (pc : GenPc) (r : Resume)
    (hr : r = .next ∨ ∃ e, r = .throwIn e) (h : (genAdvance p pc r).2.1 = .suspended) :
    GenStart p (genAdvance p pc r).1 := by
  rcases genAdvance_susp p pc r h with ⟨_, h1⟩ | ⟨h1, _⟩
  · exact h1
  · rcases hr with hr | ⟨e, hr⟩ <;> rw [hr] at h1 <;> cases h1

theorem startExit_started (gb : Bool) (cc : CallCfg) (cell : GenCell) (o : BodyOut) :
    Started gb cc cell.prog (startExit gb cc cell o) := by
  unfold startExit
  cases gb with
  | true =>
    simp only [if_true]
    rcases genExitSend_cases cell o (exitResume o) with ⟨h1, h2, h3⟩ | ⟨_, h2, h3⟩
    · refine ⟨by rw [h2], Or.inr ⟨.exit, h3, o, 0, by rw [h2], fun _ => ?_, (fun hf => by cases hf)⟩⟩
      rw [h2]
      exact genStart_of_start _ _ _ (exitResume_start o) h1
    · exact ⟨h3, Or.inl h2⟩
  | false =>
    simp only [Bool.false_eq_true, if_false]
    apply Started.prepend
    rcases plainExitSeg_cases cc cell o cc.plain.exitSusp with ⟨k, hk, e⟩ | ⟨_, h1, h2⟩
    · rw [e]
      exact ⟨rfl, Or.inr ⟨.exit, rfl, o, k, rfl, (fun hf => by cases hf), fun _ => hk⟩⟩
    · exact ⟨by rw [h2], Or.inl h1⟩

theorem afterBody_started (gb : Bool) (cc : CallCfg) (cell : GenCell) (o : BodyOut) :
    Started gb cc cell.prog (afterBody gb cc cell o) :=
  (startExit_started gb cc cell o).prepend _

theorem contBody_cases (gb : Bool) (cc : CallCfg) (cell : GenCell) (n : Nat) :
    (∃ k, n = k + 1 ∧
      contBody gb cc cell n = ({ pc := .body k, cell := cell }, [], .suspended .body)) ∨
    (n = 0 ∧ Started gb cc cell.prog (contBody gb cc cell n)) := by
  cases n with
  | zero => exact Or.inr ⟨rfl, afterBody_started gb cc cell _⟩
  | succ k => exact Or.inl ⟨k, rfl, rfl⟩

theorem contBody_started (gb : Bool) (cc : CallCfg) (cell : GenCell) :
    Started gb cc cell.prog (contBody gb cc cell cc.bodySusp) := by
  rcases contBody_cases gb cc cell cc.bodySusp with ⟨k, hk, e⟩ | ⟨_, h⟩
  · rw [e]; exact ⟨rfl, Or.inr ⟨.body, rfl, k, rfl, hk⟩⟩
  · exact h

theorem afterEnter_cases (gb : Bool) (cc : CallCfg) (cell : GenCell) (left : Nat) (aw : Aw Unit) :
    (aw = .suspended ∧
      afterEnter gb cc cell left aw = ({ pc := .entering left, cell := cell }, [], .suspended .enter)) ∨
    (aw ≠ .suspended ∧ Started gb cc cell.prog (afterEnter gb cc cell left aw)) := by
  cases aw with
  | suspended => exact Or.inl ⟨rfl, rfl⟩
  | raised x => exact Or.inr ⟨by simp, rfl, Or.inl ⟨_, rfl, rfl⟩⟩
  | returned u => exact Or.inr ⟨by simp, (contBody_started gb cc cell).prepend _⟩

theorem genEnterSend_cases (gb : Bool) (cc : CallCfg) (cell : GenCell) (r : Resume) :
    ((genAdvance cell.prog cell.pc r).2.1 = .suspended ∧
      (genEnterSend gb cc cell r).1 =
        { pc := .entering 0, cell := { cell with pc := (genAdvance cell.prog cell.pc r).1 } } ∧
      (genEnterSend gb cc cell r).2.2 = .suspended .enter) ∨
    ((genAdvance cell.prog cell.pc r).2.1 ≠ .suspended ∧
      Started gb cc cell.prog (genEnterSend gb cc cell r)) := by
  unfold genEnterSend
  simp only []
  by_cases h : (genAdvance cell.prog cell.pc r).2.1 = .suspended
  · left
    rw [h]
    exact ⟨rfl, rfl, rfl⟩
  · right
    rcases afterEnter_cases gb cc { cell with pc := (genAdvance cell.prog cell.pc r).1 } 0
        (genAenter (genAdvance cell.prog cell.pc r).2.1) with ⟨h1, _⟩ | ⟨_, h1⟩
    · exact absurd (genAenter_susp _ h1) h
    · exact ⟨h, h1.prepend _⟩

theorem plainEnterFin_ns (cc : CallCfg) : (plainEnterFin cc).1 ≠ .suspended := by
  unfold plainEnterFin; cases cc.plain.enter <;> simp

theorem plainEnterSeg_cases (gb : Bool) (cc : CallCfg) (cell : GenCell) (n : Nat) :
    (∃ k, n = k + 1 ∧
      plainEnterSeg gb cc cell n = ({ pc := .entering k, cell := cell }, [], .suspended .enter)) ∨
    (n = 0 ∧ Started gb cc cell.prog (plainEnterSeg gb cc cell n)) := by
  cases n with
  | zero =>
    right
    rcases afterEnter_cases gb cc cell 0 (plainEnterFin cc).1 with ⟨h, _⟩ | ⟨_, h⟩
    · exact absurd h (plainEnterFin_ns cc)
    · exact ⟨rfl, h.prepend _⟩
  | succ k => exact Or.inl ⟨k, rfl, rfl⟩

/-- a call that has not started yet: whatever is done to it, it finishes or is suspended in user
    code started by this step -/
theorem callStep_fresh_started (gb : Bool) (cc : CallCfg) (l : Local) (cop : COp) (h : l.pc = .fresh) :
    Started gb cc l.cell.prog (callStep gb cc l cop) := by
  unfold callStep
  cases cop with
  | resume =>
    simp only [h]
    cases gb with
    | true =>
      simp only [if_true]
      rcases genEnterSend_cases true cc l.cell .next with ⟨h1, h2, h3⟩ | ⟨_, h2⟩
      · refine ⟨by rw [h2], Or.inr ⟨.enter, h3, 0, by rw [h2], fun _ => ?_, (fun hf => by cases hf)⟩⟩
        rw [h2]
        exact genStart_of_start _ _ _ (Or.inl rfl) h1
      · exact h2
    | false =>
      simp only [Bool.false_eq_true, if_false]
      apply Started.prepend
      rcases plainEnterSeg_cases false cc l.cell cc.plain.enterSusp with ⟨k, hk, e⟩ | ⟨_, h1⟩
      · rw [e]
        exact ⟨rfl, Or.inr ⟨.enter, rfl, k, rfl, (fun hf => by cases hf), fun _ => hk⟩⟩
      · exact h1
  | cancel x =>
    simp only [h]
    exact ⟨rfl, Or.inl ⟨_, rfl, rfl⟩⟩

theorem genEnterSend_stepSpec (cc : CallCfg) (l : Local) (r : Resume) :
    StepSpec true cc l (genEnterSend true cc l.cell r) := by
  rcases genEnterSend_cases true cc l.cell r with ⟨h1, h2, h3⟩ | ⟨_, h2⟩
  · refine ⟨by rw [h2], Or.inr (Or.inr ⟨.enter, h3, 0, by rw [h2], fun _ => ?_, nofun⟩)⟩
    rw [h2]
    exact (genAdvance_susp _ _ _ h1).imp And.right And.right
  · exact h2.stepSpec

theorem genExitSend_stepSpec (cc : CallCfg) (l : Local) (o : BodyOut) (r : Resume) :
    StepSpec true cc l (genExitSend l.cell o r) := by
  rcases genExitSend_cases l.cell o r with ⟨h1, h2, h3⟩ | ⟨_, h2, h3⟩
  · refine ⟨by rw [h2], Or.inr (Or.inr ⟨.exit, h3, o, 0, by rw [h2], fun _ => ?_, nofun⟩)⟩
    rw [h2]
    exact (genAdvance_susp _ _ _ h1).imp And.right And.right
  · exact ⟨h3, Or.inl h2⟩

/-- **one `send`/`throw` on the coroutine `inner(...)`, any local state** -/
theorem callStep_spec (gb : Bool) (cc : CallCfg) (l : Local) (cop : COp) :
    StepSpec gb cc l (callStep gb cc l cop) := by
  cases hpc : l.pc with
  | fresh => exact (callStep_fresh_started gb cc l cop hpc).stepSpec
  | done x =>
    unfold callStep
    cases cop <;> simp only [hpc] <;> exact ⟨rfl, Or.inr (Or.inl ⟨rfl, rfl⟩)⟩
  | entering k =>
    unfold callStep
    cases cop with
    | resume =>
      simp only [hpc]
      cases gb with
      | true => exact genEnterSend_stepSpec cc l .cont
      | false =>
        simp only [Bool.false_eq_true, if_false]
        rcases plainEnterSeg_cases false cc l.cell k with ⟨k', hk, e⟩ | ⟨_, h1⟩
        · rw [e]
          refine ⟨rfl, Or.inr (Or.inr ⟨.enter, rfl, k', rfl, nofun, fun _ => Or.inr ?_⟩)⟩
          rw [hpc, hk]
        · exact h1.stepSpec
    | cancel x =>
      simp only [hpc]
      cases gb with
      | true => exact genEnterSend_stepSpec cc l (.cancel x)
      | false =>
        simp only [Bool.false_eq_true, if_false]
        rcases afterEnter_cases false cc l.cell 0 (.raised x) with ⟨h, _⟩ | ⟨_, h⟩
        · cases h
        · exact h.stepSpec
  | body k =>
    unfold callStep
    cases cop with
    | resume =>
      simp only [hpc]
      rcases contBody_cases gb cc l.cell k with ⟨k', hk, e⟩ | ⟨_, h1⟩
      · rw [e]
        refine ⟨rfl, Or.inr (Or.inr ⟨.body, rfl, k', rfl, Or.inr ?_⟩)⟩
        rw [hpc, hk]
      · exact h1.stepSpec
    | cancel x =>
      simp only [hpc]
      exact (afterBody_started gb cc l.cell _).stepSpec
  | exiting o k =>
    unfold callStep
    cases cop with
    | resume =>
      simp only [hpc]
      cases gb with
      | true => exact genExitSend_stepSpec cc l o .cont
      | false =>
        simp only [Bool.false_eq_true, if_false]
        rcases plainExitSeg_cases cc l.cell o k with ⟨k', hk, e⟩ | ⟨_, h1, h2⟩
        · rw [e]
          refine ⟨rfl, Or.inr (Or.inr ⟨.exit, rfl, o, k', rfl, nofun, fun _ => Or.inr ?_⟩)⟩
          rw [hpc, hk]
        · exact ⟨by rw [h2], Or.inl h1⟩
    | cancel x =>
      simp only [hpc]
      cases gb with
      | true => exact genExitSend_stepSpec cc l o (.cancel x)
      | false =>
        simp only [Bool.false_eq_true, if_false]
        rcases contExit_cases l.cell o 0 (.raised x) with ⟨h, _⟩ | ⟨_, h1, h2⟩
        · cases h
        · exact ⟨by rw [h2], Or.inl h1⟩

/-! ### the heap machine -/

/-- what call `c` can see of heap state `s`: its program counter and the generator of its manager -/
def localOf (s : State) (c : Nat) (cc : CallCfg) : Local :=
  { pc := (s.calls c).pc, cell := cellOf s c cc }

/-- the state in which the coroutine of the call runs: `_recreate_cm()` has run if this is the
    first `send` -/
def prepared (cfg : Cfg) (s : State) (op : Op) (cc : CallCfg) : State :=
  if isFirstSend (s.calls op.call).pc op.cop then recreate cfg.generatorBased s op.call cc else s

theorem step_eq_core (cfg : Cfg) (s : State) (op : Op) (cc : CallCfg)
    (hcc : cfg.calls[op.call]? = some cc) :
    step cfg s op = core cfg.generatorBased (prepared cfg s op cc) op.call cc op.cop := by
  simp only [step, hcc, prepared]

theorem step_none (cfg : Cfg) (s : State) (op : Op) (hcc : cfg.calls[op.call]? = none) :
    step cfg s op = (s, .skipped) := by
  simp only [step, hcc]

/-- one heap step is one `callStep` on the call's local view, written back through the reference -/
theorem core_local (gb : Bool) (s : State) (c : Nat) (cc : CallCfg) (cop : COp) :
    (core gb s c cc cop).2 = (callStep gb cc (localOf s c cc) cop).2.2 ∧
    ((core gb s c cc cop).1.calls c).pc = (callStep gb cc (localOf s c cc) cop).1.pc ∧
    ((core gb s c cc cop).1.calls c).gid = (s.calls c).gid ∧
    (∀ g, (s.calls c).gid = some g →
      (core gb s c cc cop).1.gens g = (callStep gb cc (localOf s c cc) cop).1.cell) := by
  refine ⟨rfl, ?_, ?_, ?_⟩
  · simp [core, setAt, localOf]
  · simp [core, setAt]
  · intro g hg
    simp [core, hg, setAt, localOf]

/-! ### user code that never suspends -/

def ZeroProg (p : GenProg) : Prop := p.preSusp = 0 ∧ p.postSusp = 0 ∧ p.thrSusp = 0

/-- nothing the user supplies for this call ever suspends: neither the generator (or the
    `__aenter__`/`__aexit__` of a class-based manager) nor the decorated function -/
def CallCfg.sync (cc : CallCfg) : Prop :=
  cc.bodySusp = 0 ∧ cc.plain.enterSusp = 0 ∧ cc.plain.exitSusp = 0 ∧ ZeroProg cc.gen

def Cfg.sync (cfg : Cfg) : Prop := ∀ cc ∈ cfg.calls, cc.sync

/-- between two operations: every call is either not started or finished, and every generator
    object in the store runs a program that never suspends -/
structure SyncSt (s : State) : Prop where
  pcs : ∀ c, (s.calls c).pc = .fresh ∨ ∃ r, (s.calls c).pc = .done r
  progs : ∀ g, ZeroProg (s.gens g).prog

theorem genStart_zero (p : GenProg) (pc : GenPc) (hz : ZeroProg p) : ¬ GenStart p pc := by
  obtain ⟨h1, h2, h3⟩ := hz
  rintro (⟨k, _, h⟩ | ⟨k, _, h⟩ | ⟨e, k, _, h⟩) <;> omega

theorem callStep_sync (gb : Bool) (cc : CallCfg) (l : Local) (cop : COp) (hcc : cc.sync)
    (hpc : l.pc = .fresh ∨ ∃ r, l.pc = .done r) (hz : ZeroProg l.cell.prog) :
    (∀ st, (callStep gb cc l cop).2.2 ≠ .suspended st) ∧
    ((callStep gb cc l cop).1.pc = .fresh ∨ ∃ r, (callStep gb cc l cop).1.pc = .done r) ∧
    ZeroProg (callStep gb cc l cop).1.cell.prog := by
  rcases hpc with hpc | ⟨r, hpc⟩
  · obtain ⟨h1, h2⟩ := callStep_fresh_started gb cc l cop hpc
    rcases h2 with ⟨x, h2, h3⟩ | ⟨st, h2, h3⟩
    · exact ⟨fun st h => (by rw [h2] at h; cases h), Or.inr ⟨x, h3⟩, (by rw [h1]; exact hz)⟩
    · exfalso
      obtain ⟨b1, b2, b3, b4⟩ := hcc
      cases st with
      | enter =>
        obtain ⟨left, _, g1, g2⟩ := h3
        cases gb with
        | true => exact genStart_zero _ _ (by rw [h1]; exact hz) (g1 rfl)
        | false => have := g2 rfl; omega
      | body =>
        obtain ⟨k, _, g1⟩ := h3
        omega
      | exit =>
        obtain ⟨o, left, _, g1, g2⟩ := h3
        cases gb with
        | true => exact genStart_zero _ _ (by rw [h1]; exact hz) (g1 rfl)
        | false => have := g2 rfl; omega
  · rw [callStep_done gb cc l cop r hpc]
    exact ⟨by simp, Or.inr ⟨r, hpc⟩, hz⟩

theorem setAt_all {α : Type} {P : α → Prop} {f : Nat → α} {i : Nat} {v : α} (hv : P v) (hf : ∀ j, P (f j))
    (j : Nat) : P (setAt f i v j) := by
  unfold setAt; split
  · exact hv
  · exact hf j

theorem step_sync (cfg : Cfg) (hcfg : cfg.sync) (s : State) (op : Op) (h : SyncSt s) :
    SyncSt (step cfg s op).1 ∧ ∀ st, (step cfg s op).2 ≠ .suspended st := by
  have calls := @setAt_all CallSt (fun x => x.pc = .fresh ∨ ∃ r, x.pc = .done r)
  have gens := @setAt_all GenCell (fun x => ZeroProg x.prog)
  cases hcc : cfg.calls[op.call]? with
  | none => rw [step_none cfg s op hcc]; exact ⟨h, nofun⟩
  | some cc =>
    have hs : cc.sync := hcfg cc (List.mem_of_getElem? hcc)
    rw [step_eq_core cfg s op cc hcc]
    have hp : SyncSt (prepared cfg s op cc) := by
      unfold prepared recreate
      split
      · split
        · exact ⟨calls (Or.inl rfl) h.pcs,
            gens hs.2.2.2 h.progs⟩
        · exact h
      · exact h
    generalize prepared cfg s op cc = s1 at hp
    have hz : ZeroProg (localOf s1 op.call cc).cell.prog := by
      simp only [localOf, cellOf]
      split
      · exact hp.progs _
      · exact hs.2.2.2
    obtain ⟨k1, k2, k3⟩ := callStep_sync cfg.generatorBased cc (localOf s1 op.call cc) op.cop hs
      (hp.pcs op.call) hz
    -- `core` writes the call's new position and its generator back; everything else stays
    refine ⟨⟨calls k2 hp.pcs, fun g => ?_⟩, k1⟩
    unfold core
    cases (s1.calls op.call).gid with
    | none => exact hp.progs g
    | some g' => exact gens k3 hp.progs g

theorem runFrom_sync (cfg : Cfg) (hcfg : cfg.sync) (ops : List Op) : ∀ (s : State), SyncSt s →
    SyncSt (runFrom cfg s ops).1 ∧ ∀ o ∈ (runFrom cfg s ops).2, ∀ st, o ≠ .suspended st := by
  induction ops with
  | nil => intro s h; exact ⟨h, by simp [runFrom]⟩
  | cons op rest ih =>
    intro s h
    obtain ⟨h1, h2⟩ := step_sync cfg hcfg s op h
    obtain ⟨h3, h4⟩ := ih _ h1
    simp only [runFrom]
    refine ⟨h3, fun o ho => ?_⟩
    simp only [List.mem_cons] at ho
    rcases ho with rfl | ho
    · exact h2
    · exact h4 o ho

theorem init_sync : SyncSt State.init :=
  ⟨fun _ => Or.inl rfl, fun _ => ⟨rfl, rfl, rfl⟩⟩

end AsyncVerif.Decorator

/-! ## asynctools adapters -/
namespace AsyncVerif.Adapters

/-- the tokens the user awaitable behind an item yields to the loop (a plain value: none) -/
def Item.toks : Item → List Tok
  | .plain _ => []
  | .aw a => a.toks

/-- every token user code behind an iterable argument can yield: those of each `__anext__`, those
    of each awaitable element, those of the `__anext__` that finds the end -/
def srcToks (src : Src) : List Tok :=
  src.items.flatMap (fun p => p.1 ++ p.2.toks) ++ src.endToks

/-- … plus those of the awaitable that produces the iterable -/
def userToks (o : Option Outer) (src : Src) : List Tok :=
  (match o with | some o => o.toks | none => []) ++ srcToks src

theorem susp_awaitAw (a : Aw) (t : Tok) (h : Ev.susp t ∈ (awaitAw a).1) : t ∈ a.toks := by
  simpa [awaitAw] using h

theorem susp_resolveItem (it : Item) (t : Tok) (h : Ev.susp t ∈ (resolveItem it).1) : t ∈ it.toks := by
  cases it with
  | plain v => simp [resolveItem] at h
  | aw a => exact susp_awaitAw a t h

theorem susp_awaitItem (it : Item) (t : Tok) (h : Ev.susp t ∈ (awaitItem it).1) : t ∈ it.toks := by
  cases it with
  | plain v => simp [awaitItem] at h
  | aw a => exact susp_awaitAw a t h

theorem susp_pullA (toks : List Tok) (t : Tok) (h : Ev.susp t ∈ pullA toks) : t ∈ toks := by
  simpa [pullA] using h

theorem susp_pullS (k : Kind) (t : Tok) : Ev.susp t ∉ pullS k := by
  unfold pullS; split <;> simp

theorem susp_awaitOuter (o : Outer) (t : Tok) (h : Ev.susp t ∈ awaitOuter o) : t ∈ o.toks := by
  simpa [awaitOuter] using h

theorem srcToks_cons (kind : Kind) (toks : List Tok) (it : Item) (rest : List (List Tok × Item))
    (e : List Tok) :
    srcToks ⟨kind, (toks, it) :: rest, e⟩ = toks ++ it.toks ++ srcToks ⟨kind, rest, e⟩ := by
  simp [srcToks]

/-- The loop body shared by `any_iter` (over an async and over a sync iterable) and `await_each`: pull
    the next element and resolve it; `pullEnd` are the events of the pull that finds the end. -/
def itemStep {σ : Type} (pullEnd : List Ev) (pull : List Tok → List Ev) (res : Item → List Ev × Res)
    (next : Src → σ) (done : σ) (src : Src) : Step × σ :=
  match src.items with
  | [] => ((pullEnd, .stop), done)
  | (toks, it) :: rest =>
    match res it with
    | (evs, .ok v) => ((pull toks ++ evs, .item v), next { src with items := rest })
    | (evs, .err e) => ((pull toks ++ evs, .raised e), done)

theorem anyStepA_eq (src : Src) :
    anyStepA src = itemStep (pullA src.endToks) pullA resolveItem .loopA .done src := rfl

theorem anyStepS_eq (src : Src) :
    anyStepS src = itemStep (pullS src.kind) (fun _ => pullS src.kind) resolveItem .loopS .done src := rfl

/-- `nt`: the tokens user code can still yield from a state of the generator -/
theorem itemStep_toks {σ : Type} {pullEnd : List Ev} {pull : List Tok → List Ev}
    {res : Item → List Ev × Res} {next : Src → σ} {done : σ} (nt : σ → List Tok) (src : Src)
    (hdone : nt done = []) (hnext : ∀ s, nt (next s) = srcToks s)
    (hend : ∀ t, Ev.susp t ∈ pullEnd → t ∈ src.endToks)
    (hpull : ∀ toks t, Ev.susp t ∈ pull toks → t ∈ toks)
    (hres : ∀ it t, Ev.susp t ∈ (res it).1 → t ∈ it.toks) :
    (∀ t, Ev.susp t ∈ (itemStep pullEnd pull res next done src).1.1 → t ∈ srcToks src) ∧
    (∀ t, t ∈ nt (itemStep pullEnd pull res next done src).2 → t ∈ srcToks src) := by
  obtain ⟨kind, items, e⟩ := src
  cases items with
  | nil => exact ⟨fun t h => List.mem_append_right _ (hend t h), fun t h => by have h : t ∈ nt done := h; rw [hdone] at h; cases h⟩
  | cons p rest =>
    obtain ⟨toks, it⟩ := p
    have hs := hres it
    have hev : ∀ evs : List Ev, (∀ t, Ev.susp t ∈ evs → t ∈ it.toks) → ∀ t, Ev.susp t ∈ pull toks ++ evs →
        t ∈ toks ++ it.toks ++ srcToks ⟨kind, rest, e⟩ := fun evs he t h =>
      List.mem_append_left _ ((List.mem_append.1 h).elim (fun h => List.mem_append_left _ (hpull toks t h))
        (fun h => List.mem_append_right _ (he t h)))
    rw [srcToks_cons]
    simp only [itemStep]
    rcases hr : res it with ⟨evs, v | x⟩ <;> rw [hr] at hs
    · refine ⟨hev evs hs, fun t h => ?_⟩
      have h : t ∈ nt (next _) := h
      rw [hnext] at h; exact List.mem_append_right _ h
    · refine ⟨hev evs hs, fun t h => ?_⟩
      have h : t ∈ nt done := h
      rw [hdone] at h; cases h

/-- the tokens user code can still yield from a given state of `any_iter` -/
def anyToks : AnySt → List Tok
  | .fresh o src => userToks o src
  | .loopA src => srcToks src
  | .loopS src => srcToks src
  | .done => []

theorem anyStepA_toks (src : Src) :
    (∀ t, Ev.susp t ∈ (anyStepA src).1.1 → t ∈ srcToks src) ∧
    (∀ t, t ∈ anyToks (anyStepA src).2 → t ∈ srcToks src) :=
  itemStep_toks anyToks src rfl (fun _ => rfl) (susp_pullA _) susp_pullA susp_resolveItem

theorem anyStepS_toks (src : Src) :
    (∀ t, Ev.susp t ∈ (anyStepS src).1.1 → t ∈ srcToks src) ∧
    (∀ t, t ∈ anyToks (anyStepS src).2 → t ∈ srcToks src) :=
  itemStep_toks anyToks src rfl (fun _ => rfl) (fun t h => absurd h (susp_pullS _ t))
    (fun _ t h => absurd h (susp_pullS _ t)) susp_resolveItem

theorem anyEnter_toks (src : Src) :
    (∀ t, Ev.susp t ∈ (anyEnter src).1.1 → t ∈ srcToks src) ∧
    (∀ t, t ∈ anyToks (anyEnter src).2 → t ∈ srcToks src) := by
  unfold anyEnter; split
  · exact anyStepA_toks src
  · exact anyStepS_toks src

/-- one consumer operation on `any_iter`: every token that reaches the loop is one the user code
    behind the argument can still yield, and what it can yield afterwards it could yield before -/
theorem anyStep_toks (s : AnySt) (op : Op) :
    (∀ t, Ev.susp t ∈ (anyStep s op).1.1 → t ∈ anyToks s) ∧
    (∀ t, t ∈ anyToks (anyStep s op).2 → t ∈ anyToks s) := by
  cases op with
  | close => exact ⟨nofun, nofun⟩
  | next =>
    cases s with
    | done => exact ⟨nofun, fun t h => h⟩
    | loopA src => exact anyStepA_toks src
    | loopS src => exact anyStepS_toks src
    | fresh o src =>
      have := anyEnter_toks src
      cases o with
      | none => exact ⟨fun t h => List.mem_append_right _ (this.1 t h), fun t h => List.mem_append_right _ (this.2 t h)⟩
      | some o =>
        simp only [anyStep, anyNext, anyToks, userToks]
        cases o.fail with
        | some e => exact ⟨fun t h => List.mem_append_left _ (susp_awaitOuter o t h), nofun⟩
        | none =>
          refine ⟨fun t h => ?_, fun t h => List.mem_append_right _ (this.2 t h)⟩
          rcases List.mem_append.1 h with h | h
          · exact List.mem_append_left _ (susp_awaitOuter o t h)
          · exact List.mem_append_right _ (this.1 t h)

theorem run_toks {σ : Type} (step : σ → Op → Step × σ) (nt : σ → List Tok)
    (h : ∀ s op, (∀ t, Ev.susp t ∈ (step s op).1.1 → t ∈ nt s) ∧ (∀ t, t ∈ nt (step s op).2 → t ∈ nt s))
    (ops : List Op) : ∀ (s : σ) (t : Tok), Ev.susp t ∈ trace (run step s ops) → t ∈ nt s := by
  induction ops with
  | nil => exact nofun
  | cons op rest ih =>
    intro s t ht
    rw [run_cons, trace_cons] at ht
    rcases List.mem_append.1 ht with ht | ht
    · exact (h s op).1 t ht
    · exact (h s op).2 t (ih _ t ht)

/-- the tokens user code can still yield from a given state of `await_each` -/
def eachToks : EachSt → List Tok
  | .live src => srcToks src
  | .done => []

theorem eachStep_toks (s : EachSt) (op : Op) :
    (∀ t, Ev.susp t ∈ (eachStep s op).1.1 → t ∈ eachToks s) ∧
    (∀ t, t ∈ eachToks (eachStep s op).2 → t ∈ eachToks s) := by
  cases op with
  | close => exact ⟨nofun, nofun⟩
  | next =>
    cases s with
    | done => exact ⟨nofun, fun t h => h⟩
    | live src =>
      by_cases hk : src.kind = .aiter
      · simp only [eachStep, eachNext, hk, if_true]; exact ⟨nofun, nofun⟩
      · have e : eachStep (.live src) .next
            = itemStep (pullS src.kind) (fun _ => pullS src.kind) awaitItem .live .done src := by
          simp only [eachStep, eachNext, hk, if_false]; rfl
        rw [e]
        exact itemStep_toks eachToks src rfl (fun _ => rfl) (fun t h => absurd h (susp_pullS _ t))
          (fun _ t h => absurd h (susp_pullS _ t)) susp_awaitItem

theorem susp_awaitAll (items : List Item) (t : Tok) (h : Ev.susp t ∈ (awaitAll items).1) :
    ∃ it ∈ items, t ∈ it.toks := by
  induction items with
  | nil => simp [awaitAll] at h
  | cons a rest ih =>
    simp only [awaitAll] at h
    have hs := susp_awaitItem a
    rcases hr : awaitItem a with ⟨evs, res⟩
    rw [hr] at hs h
    cases res with
    | err e => exact ⟨a, List.mem_cons_self, hs t h⟩
    | ok v =>
      simp only at h
      rcases hr2 : awaitAll rest with ⟨evs', res'⟩
      rw [hr2] at h ih
      have h' : Ev.susp t ∈ evs ++ evs' := by cases res' <;> exact h
      simp only [List.mem_append] at h'
      rcases h' with h' | h'
      · exact ⟨a, List.mem_cons_self, hs t h'⟩
      · obtain ⟨it, h1, h2⟩ := ih h'
        exact ⟨it, List.mem_cons_of_mem _ h1, h2⟩

theorem susp_awaitKw (kws : List (Nat × Item)) (t : Tok) (h : Ev.susp t ∈ (awaitKw kws).1) :
    ∃ kv ∈ kws, t ∈ kv.2.toks := by
  rw [awaitKw_eq] at h
  obtain ⟨it, hm, ht⟩ := susp_awaitAll _ t h
  obtain ⟨kv, hkv, rfl⟩ := List.mem_map.1 hm
  exact ⟨kv, hkv, ht⟩

theorem callRaw_cases (f : UFn) (args : List Val) (kw : List (Nat × Val)) :
    callRaw f args kw = ([], .raised .typeError) ∨
    (f.flavour.returnsAw = true ∧
      callRaw f args kw = ([Ev.call f.id args kw], .awaitable (f.toks args kw) (f.res args kw))) ∨
    (∃ v, callRaw f args kw = ([Ev.call f.id args kw], .value v)) ∨
    (∃ e, callRaw f args kw = ([Ev.call f.id args kw], .raised e)) := by
  unfold callRaw
  split
  · exact Or.inl rfl
  · split
    · rename_i h; exact Or.inr (Or.inl ⟨h, rfl⟩)
    · split
      · exact Or.inr (Or.inr (Or.inl ⟨_, rfl⟩))
      · exact Or.inr (Or.inr (Or.inr ⟨_, rfl⟩))

theorem susp_callSynced (f : UFn) (args : List Val) (kw : List (Nat × Val)) (t : Tok)
    (h : Ev.susp t ∈ (callSynced f args kw).1) : f.flavour.returnsAw = true ∧ t ∈ f.toks args kw := by
  -- the call itself yields nothing; only awaiting what it returned does, if that is an awaitable
  have hev : Ev.susp t ∉ (callRaw f args kw).1 := by
    rcases callRaw_cases f args kw with hc | ⟨_, hc⟩ | ⟨v, hc⟩ | ⟨e, hc⟩ <;> rw [hc] <;> simp
  have key : ∀ toks r, (callRaw f args kw).2 = .awaitable toks r → Ev.susp t ∈ toks.map Ev.susp →
      f.flavour.returnsAw = true ∧ t ∈ f.toks args kw := by
    intro toks r e ht
    rcases callRaw_cases f args kw with hc | ⟨hr, hc⟩ | ⟨v, hc⟩ | ⟨x, hc⟩ <;> rw [hc] at e <;> cases e
    exact ⟨hr, by simpa using ht⟩
  unfold callSynced asyncWrapped at h
  generalize callRaw f args kw = c at h key hev
  obtain ⟨evs, raw⟩ := c
  cases hs : sync f <;> rw [hs] at h
  · cases h
  · rcases List.mem_append.1 h with h | h
    · exact absurd h hev
    · cases raw with
      | awaitable toks r => exact key toks r rfl h
      | value v => cases h
      | raised e => cases h
  · cases raw with
    | awaitable toks r => exact (List.mem_append.1 h).elim (fun h => absurd h hev) (key toks r rfl)
    | value v => exact absurd h hev
    | raised e => exact absurd h hev

theorem mem_srcToks (src : Src) (t : Tok) :
    t ∈ srcToks src ↔ (∃ p ∈ src.items, t ∈ p.1 ∨ t ∈ p.2.toks) ∨ t ∈ src.endToks := by
  simp [srcToks, List.mem_flatMap]

end AsyncVerif.Adapters
