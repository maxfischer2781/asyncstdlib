import AsyncVerif.Machines.AwaitifyReuse
/-! `awaitify` across separate tool calls, for `Properties/C03AwaitifyReuse.lean`.

Two ideas.  (1) The reference run is the machine's run with every outcome replaced by the reference
outcome (`specEv`, `specRun_eq`), so "the run is the reference run" is "`specEv e = e` for every
event".  (2) The state of a wrapper is a function of the answers that went through THAT handle
(`Inv.state`: it is `wrapperOf fs f (answersVia w tr)`), and `decidedBy` / `outIn` are
`callWrapper` as tables (`decidedBy_snoc`, `callWrapper_out`); with one flavour per handle the
table gives the reference outcome (`outIn_stable`). -/
namespace AsyncVerif.AwaitifyReuse

/-- all answers plain, or all answers awaitable; calls that raise at call time are allowed anywhere -/
def Stable (as : List Answer) : Prop :=
  (∀ a ∈ as, a.flavour ≠ some true) ∨ (∀ a ∈ as, a.flavour ≠ some false)

/-- every tool call sees answers of one flavour (which may differ from tool call to tool call);
    `c` = how often each function object has been called before -/
def StableTools (fs : Nat → Func) : (Nat → Nat) → List ToolCall → Prop
  | _, [] => True
  | c, tc :: rest => Stable (segment (fs tc.f) (c tc.f) tc.ncalls) ∧ StableTools fs (bumpBy c tc.f tc.ncalls) rest

/-- forget the wrapper states -/
def proj (s : St) : SpecSt := ⟨s.wrappers.map Wrapper.fn, s.calls⟩

/-- the reference outcome for the same call -/
def specEv (e : Event) : Event :=
  { e with out := match e.answer with | some a => awaitIfNeeded a | none => e.out }

theorem proj_init : proj init = specInit := rfl

theorem callWrapper_out (ws : WState) (a : Answer) : (callWrapper ws a).2 = outIn ws a := by
  cases ws <;> cases a <;> rfl

theorem decidedBy_nil : decidedBy [] = .undecided := rfl

theorem decidedBy_snoc (as : List Answer) (a : Answer) :
    decidedBy (as ++ [a]) = (callWrapper (decidedBy as) a).1 := by
  unfold decidedBy
  rw [List.findSome?_append]
  cases h : as.findSome? Answer.flavour with
  | none => cases a <;> rfl
  | some b => cases b <;> cases a <;> rfl

theorem mem_of_decidedBy (as : List Answer) :
    (decidedBy as = .sync → ∃ b ∈ as, b.flavour = some false) ∧
    (decidedBy as = .async → ∃ b ∈ as, b.flavour = some true) := by
  unfold decidedBy
  cases h : as.findSome? Answer.flavour with
  | none => exact ⟨nofun, nofun⟩
  | some b =>
    obtain ⟨x, hx, hf⟩ := List.exists_of_findSome?_eq_some h
    cases b
    · exact ⟨fun _ => ⟨x, hx, hf⟩, nofun⟩
    · exact ⟨nofun, fun _ => ⟨x, hx, hf⟩⟩

theorem outIn_ne_spec_iff (ws : WState) (a : Answer) :
    outIn ws a ≠ awaitIfNeeded a ↔
      (ws = .sync ∧ a.flavour = some true) ∨ (ws = .async ∧ a.flavour = some false) := by
  cases ws <;> cases a <;> simp [outIn, awaitIfNeeded, Answer.flavour]

theorem outIn_stable (all pre : List Answer) (a : Answer) (hsub : ∀ b ∈ pre, b ∈ all) (ha : a ∈ all)
    (hs : Stable all) : outIn (decidedBy pre) a = awaitIfNeeded a := by
  refine Classical.byContradiction fun hne => ?_
  rcases (outIn_ne_spec_iff _ _).mp hne with ⟨hd, hf⟩ | ⟨hd, hf⟩
  · obtain ⟨b, hb, hbf⟩ := (mem_of_decidedBy pre).1 hd
    exact hs.elim (fun h => h a ha hf) (fun h => h b (hsub b hb) hbf)
  · obtain ⟨b, hb, hbf⟩ := (mem_of_decidedBy pre).2 hd
    exact hs.elim (fun h => h b (hsub b hb) hbf) (fun h => h a ha hf)

/-- what one call through a handle does to the object behind it, and its outcome -/
def Wrapper.call : Wrapper → Answer → Wrapper × Out
  | .function f, a => (.function f, awaitIfNeeded a)
  | .awaitify f ws, a => (.awaitify f (callWrapper ws a).1, (callWrapper ws a).2)

/-- what `awaitify(f)` returned, after the answers `as` went through it -/
def wrapperOf (fs : Nat → Func) (f : Nat) (as : List Answer) : Wrapper :=
  if (fs f).coro then .function f else .awaitify f (decidedBy as)

theorem Wrapper.call_fn (wr : Wrapper) (a : Answer) : (wr.call a).1.fn = wr.fn := by
  cases wr <;> rfl

theorem wrapperOf_fn (fs : Nat → Func) (f : Nat) (as : List Answer) : (wrapperOf fs f as).fn = f := by
  unfold wrapperOf; split <;> rfl

theorem wrapperOf_call (fs : Nat → Func) (f : Nat) (as : List Answer) (a : Answer) :
    (wrapperOf fs f as).call a
      = (wrapperOf fs f (as ++ [a]), if (fs f).coro then awaitIfNeeded a else outIn (decidedBy as) a) := by
  unfold wrapperOf
  split
  · rfl
  · rw [decidedBy_snoc, ← callWrapper_out]; rfl

theorem awaitify_eq_wrapperOf {fs : Nat → Func} {f g : Nat} {ws : WState} {as : List Answer}
    (h : Wrapper.awaitify f ws = wrapperOf fs g as) : (fs g).coro = false ∧ ws = decidedBy as := by
  unfold wrapperOf at h
  split at h
  · cases h
  · cases h; exact ⟨Bool.eq_false_iff.mpr ‹_›, rfl⟩

theorem set_of_getElem?_some {α} {l : List α} {i : Nat} {x : α} (h : l[i]? = some x) : l.set i x = l := by
  obtain ⟨hlt, rfl⟩ := List.getElem?_eq_some_iff.mp h
  exact List.set_getElem_self hlt

theorem step_wrap (fs : Nat → Func) (s : St) (f : Nat) :
    step fs s (.wrap f) = ({ s with wrappers := s.wrappers ++ [wrapperOf fs f []] },
      ⟨.wrap f, none, .wrapper s.wrappers.length⟩) := rfl

theorem step_call_none (fs : Nat → Func) (s : St) (w : Nat) (h : s.wrappers[w]? = none) :
    step fs s (.call w) = (s, ⟨.call w, none, .noSuchWrapper⟩) := by
  simp only [step, h]

theorem step_call_some (fs : Nat → Func) (s : St) (w : Nat) (wr : Wrapper) (h : s.wrappers[w]? = some wr) :
    step fs s (.call w)
      = ({ wrappers := s.wrappers.set w (wr.call ((fs wr.fn).answer (s.calls wr.fn))).1,
           calls := bump s.calls wr.fn },
         ⟨.call w, some ((fs wr.fn).answer (s.calls wr.fn)),
           (wr.call ((fs wr.fn).answer (s.calls wr.fn))).2⟩) := by
  cases wr with
  | function f => simp only [step, h, Wrapper.call, Wrapper.fn, set_of_getElem?_some h]
  | awaitify f ws => simp only [step, h, Wrapper.call, Wrapper.fn]

theorem step_op (fs : Nat → Func) (s : St) (op : Op) : (step fs s op).2.op = op := by
  cases op with
  | wrap f => rfl
  | call w =>
    cases h : s.wrappers[w]? with
    | none => rw [step_call_none fs s w h]
    | some wr => rw [step_call_some fs s w wr h]

theorem step_fns (fs : Nat → Func) (s : St) (op : Op) :
    (step fs s op).1.wrappers.map Wrapper.fn
      = s.wrappers.map Wrapper.fn ++ (match op with | .wrap f => [f] | .call _ => []) := by
  cases op with
  | wrap f => rw [step_wrap, List.map_append, List.map_singleton, wrapperOf_fn]
  | call w =>
    rw [List.append_nil]
    cases h : s.wrappers[w]? with
    | none => rw [step_call_none fs s w h]
    | some wr =>
      rw [step_call_some fs s w wr h, List.map_set, Wrapper.call_fn]
      exact set_of_getElem?_some (by rw [List.getElem?_map, h]; rfl)

theorem step_spec (fs : Nat → Func) (s : St) (op : Op) :
    specStep fs (proj s) op = (proj (step fs s op).1, specEv (step fs s op).2) := by
  have hf := step_fns fs s op
  cases op with
  | wrap f => simp only [proj, hf, specStep, List.length_map]; rfl
  | call w =>
    rw [List.append_nil] at hf
    simp only [proj, hf, specStep, List.getElem?_map]
    cases h : s.wrappers[w]? with
    | none => rw [step_call_none fs s w h]; rfl
    | some wr => rw [step_call_some fs s w wr h]; rfl

theorem specRun_eq (fs : Nat → Func) (ops : List Op) (s : St) :
    specRun fs (proj s) ops = (run fs s ops).map specEv := by
  induction ops generalizing s with
  | nil => rfl
  | cons op ops ih =>
    simp only [specRun, run, List.map_cons, step_spec, ih]

theorem run_take (fs : Nat → Func) (ops : List Op) (s : St) (i : Nat) :
    (run fs s ops).take i = run fs s (ops.take i) := by
  induction ops generalizing s i with
  | nil => rw [List.take_nil, run, List.take_nil]
  | cons op ops ih =>
    cases i with
    | zero => rfl
    | succ i => simp only [run, List.take_succ_cons, ih]

theorem run_getElem? (fs : Nat → Func) (ops : List Op) (s : St) (i : Nat) :
    (run fs s ops)[i]? = ops[i]?.map (fun op => (step fs (stateAfter fs s (ops.take i)) op).2) := by
  induction ops generalizing s i with
  | nil => rfl
  | cons op ops ih =>
    cases i with
    | zero => rfl
    | succ i => simp only [run, stateAfter, List.take_succ_cons, List.getElem?_cons_succ, ih]

theorem run_length (fs : Nat → Func) (ops : List Op) (s : St) : (run fs s ops).length = ops.length := by
  induction ops generalizing s with
  | nil => rfl
  | cons op ops ih => simp only [run, List.length_cons, ih]

theorem run_append (fs : Nat → Func) (p q : List Op) (s : St) :
    run fs s (p ++ q) = run fs s p ++ run fs (stateAfter fs s p) q := by
  induction p generalizing s with
  | nil => rfl
  | cons op p ih => simp only [List.cons_append, run, stateAfter, ih]

theorem stateAfter_append (fs : Nat → Func) (p q : List Op) (s : St) :
    stateAfter fs s (p ++ q) = stateAfter fs (stateAfter fs s p) q := by
  induction p generalizing s with
  | nil => rfl
  | cons op p ih => simp only [List.cons_append, stateAfter, ih]

theorem stateAfter_fns (fs : Nat → Func) (ops : List Op) (s : St) :
    s.wrappers.map Wrapper.fn <+: (stateAfter fs s ops).wrappers.map Wrapper.fn := by
  induction ops generalizing s with
  | nil => exact List.prefix_refl _
  | cons op ops ih => exact List.IsPrefix.trans ⟨_, (step_fns fs s op).symm⟩ (ih _)

theorem answersVia_snoc_none (w : Nat) (tr : List Event) (op : Op) (out : Out) :
    answersVia w (tr ++ [⟨op, none, out⟩]) = answersVia w tr := by
  simp only [answersVia, List.filterMap_append, List.filterMap_cons, List.filterMap_nil, ite_self,
    List.append_nil]

theorem answersVia_snoc_call (w w0 : Nat) (tr : List Event) (a : Answer) (out : Out) :
    answersVia w (tr ++ [⟨.call w0, some a, out⟩]) = answersVia w tr ++ if w = w0 then [a] else [] := by
  by_cases h : w = w0
  · subst h
    simp only [answersVia, List.filterMap_append, List.filterMap_cons, List.filterMap_nil, if_true]
  · have : Op.call w0 ≠ Op.call w := fun e => h (Op.call.inj e).symm
    simp only [answersVia, List.filterMap_append, List.filterMap_cons, List.filterMap_nil, if_neg this,
      if_neg h]

structure Inv (fs : Nat → Func) (tr : List Event) (st : St) : Prop where
  fresh : ∀ w : Nat, st.wrappers.length ≤ w → answersVia w tr = []
  state : ∀ (w : Nat) (wr : Wrapper), st.wrappers[w]? = some wr → wr = wrapperOf fs wr.fn (answersVia w tr)
  wrap : ∀ f w : Nat, (⟨.wrap f, none, .wrapper w⟩ : Event) ∈ tr → (st.wrappers.map Wrapper.fn)[w]? = some f

theorem Inv.aw {fs : Nat → Func} {tr : List Event} {st : St} (h : Inv fs tr st) (w f : Nat) (ws : WState)
    (hw : st.wrappers[w]? = some (.awaitify f ws)) : (fs f).coro = false ∧ ws = decidedBy (answersVia w tr) :=
  awaitify_eq_wrapperOf (h.state w _ hw)

theorem inv_init (fs : Nat → Func) : Inv fs [] init :=
  ⟨fun _ _ => rfl, fun _ _ h => (nomatch h), fun _ _ h => (nomatch h)⟩

theorem inv_step (fs : Nat → Func) (tr : List Event) (s : St) (op : Op) (h : Inv fs tr s) :
    Inv fs (tr ++ [(step fs s op).2]) (step fs s op).1 := by
  -- handles: the old ones keep their function object, a `wrap` event names the new one
  have hwrap : ∀ f w : Nat, (⟨.wrap f, none, .wrapper w⟩ : Event) ∈ tr ++ [(step fs s op).2] →
      ((step fs s op).1.wrappers.map Wrapper.fn)[w]? = some f := by
    intro f w hm
    rw [step_fns]
    rcases List.mem_append.mp hm with hm | hm
    · have := h.wrap f w hm
      rw [List.getElem?_append_left (List.getElem?_eq_some_iff.1 this).1]; exact this
    · cases op with
      | wrap g =>
        cases List.mem_singleton.mp hm
        rw [← List.length_map (f := Wrapper.fn)]; exact List.getElem?_concat_length
      | call w0 =>
        have := congrArg Event.op (List.mem_singleton.mp hm)
        rw [step_op] at this; cases this
  cases op with
  | wrap f =>
    have hav : ∀ w, answersVia w (tr ++ [(step fs s (.wrap f)).2]) = answersVia w tr :=
      fun w => answersVia_snoc_none w tr _ _
    refine ⟨fun w hw => ?_, fun w wr hw => ?_, hwrap⟩
    · rw [step_wrap, List.length_append] at hw
      rw [hav]; exact h.fresh w (Nat.le_of_succ_le hw)
    · rw [step_wrap] at hw
      rw [hav]
      rcases Nat.lt_or_ge w s.wrappers.length with hlt | hge
      · rw [List.getElem?_append_left hlt] at hw; exact h.state w wr hw
      · -- the new handle: nothing went through it yet
        rw [List.getElem?_append_right hge, List.getElem?_singleton] at hw
        split at hw
        · cases hw; rw [wrapperOf_fn, h.fresh w hge]
        · cases hw
  | call w0 =>
    cases hw0 : s.wrappers[w0]? with
    | none =>
      have hst := step_call_none fs s w0 hw0
      refine ⟨fun w hw => ?_, fun w wr hw => ?_, hwrap⟩
      · rw [hst] at hw ⊢
        rw [answersVia_snoc_none]; exact h.fresh w hw
      · rw [hst] at hw ⊢
        rw [answersVia_snoc_none]; exact h.state w wr hw
    | some wr0 =>
      have hlt := (List.getElem?_eq_some_iff.1 hw0).1
      have hst := step_call_some fs s w0 wr0 hw0
      refine ⟨fun w hw => ?_, fun w wr hw => ?_, hwrap⟩
      · rw [hst] at hw ⊢
        rw [List.length_set] at hw
        rw [answersVia_snoc_call, if_neg (by omega), List.append_nil]; exact h.fresh w hw
      · rw [hst] at hw ⊢
        rw [answersVia_snoc_call]
        by_cases hne : w = w0
        · -- the handle called through: its own answers grew by this one
          subst hne
          rw [List.getElem?_set_self hlt] at hw
          cases hw
          have hs := h.state w wr0 hw0
          rw [if_pos rfl, Wrapper.call_fn]
          generalize wr0.fn = f at hs ⊢
          rw [hs, wrapperOf_call]
        · rw [List.getElem?_set_ne (Ne.symm hne)] at hw
          rw [if_neg hne, List.append_nil]; exact h.state w wr hw

theorem inv_run (fs : Nat → Func) (ops : List Op) (tr : List Event) (s : St) (h : Inv fs tr s) :
    Inv fs (tr ++ run fs s ops) (stateAfter fs s ops) := by
  induction ops generalizing tr s with
  | nil => rw [run, List.append_nil]; exact h
  | cons op ops ih =>
    have := ih _ _ (inv_step fs tr s op h)
    rwa [List.append_assoc] at this

theorem inv_final (fs : Nat → Func) (ops : List Op) : Inv fs (run fs init ops) (stateAfter fs init ops) :=
  inv_run fs ops [] init (inv_init fs)

theorem run_index (fs : Nat → Func) (ops : List Op) (i : Nat) (e : Event)
    (h : (run fs init ops)[i]? = some e) :
    Inv fs ((run fs init ops).take i) (stateAfter fs init (ops.take i)) ∧
      e = (step fs (stateAfter fs init (ops.take i)) e.op).2 := by
  rw [run_getElem?] at h
  cases hop : ops[i]? with
  | none => rw [hop] at h; cases h
  | some op =>
    rw [hop] at h
    cases h
    rw [run_take, step_op]
    exact ⟨inv_final fs _, rfl⟩

theorem answersVia_take_subset (w : Nat) (tr : List Event) (i : Nat) (b : Answer)
    (h : b ∈ answersVia w (tr.take i)) : b ∈ answersVia w tr := by
  unfold answersVia at h ⊢
  rw [List.mem_filterMap] at h ⊢
  obtain ⟨e, he, hb⟩ := h
  exact ⟨e, List.mem_of_mem_take he, hb⟩

theorem mem_answersVia (w : Nat) (tr : List Event) (e : Event) (a : Answer)
    (h : e ∈ tr) (hop : e.op = .call w) (ha : e.answer = some a) : a ∈ answersVia w tr := by
  unfold answersVia
  rw [List.mem_filterMap]
  exact ⟨e, h, by rw [if_pos hop, ha]⟩

/-- what `step` does at a call through a handle, whatever went through it before -/
theorem call_characterised (fs : Nat → Func) (ops : List Op) (w i : Nat) (e : Event)
    (h : (run fs init ops)[i]? = some e) (hop : e.op = .call w) :
    e = ⟨.call w, none, .noSuchWrapper⟩ ∨
    ∃ f a, ((stateAfter fs init (ops.take i)).wrappers.map Wrapper.fn)[w]? = some f ∧
      e = ⟨.call w, some a, if (fs f).coro then awaitIfNeeded a
        else outIn (decidedBy (answersVia w ((run fs init ops).take i))) a⟩ := by
  obtain ⟨hinv, he⟩ := run_index fs ops i e h
  rw [hop] at he
  cases hw : (stateAfter fs init (ops.take i)).wrappers[w]? with
  | none => rw [step_call_none _ _ _ hw] at he; exact Or.inl he
  | some wr =>
    rw [step_call_some _ _ _ _ hw] at he
    have hs := hinv.state w wr hw
    have hfn : ((stateAfter fs init (ops.take i)).wrappers.map Wrapper.fn)[w]? = some wr.fn := by
      rw [List.getElem?_map, hw]; rfl
    generalize wr.fn = f at hs he hfn
    rw [hs, wrapperOf_call] at he
    exact Or.inr ⟨f, _, hfn, he⟩

theorem specEv_eq_of_stable (fs : Nat → Func) (ops : List Op) (i : Nat) (e : Event)
    (h : (run fs init ops)[i]? = some e)
    (hs : ∀ w, e.op = .call w → Stable (answersVia w (run fs init ops))) : specEv e = e := by
  cases hop : e.op with
  | wrap f =>
    obtain ⟨_, he⟩ := run_index fs ops i e h
    rw [hop] at he; rw [he]; rfl
  | call w =>
    rcases call_characterised fs ops w i e h hop with he | ⟨f, a, _, he⟩
    · rw [he]; rfl
    · have := outIn_stable (answersVia w (run fs init ops)) (answersVia w ((run fs init ops).take i)) a
        (answersVia_take_subset w _ i)
        (mem_answersVia w _ e a (List.mem_of_getElem? h) hop (by rw [he])) (hs w hop)
      rw [he, this, ite_self]; rfl

theorem map_specEv_eq_self (tr : List Event) (h : ∀ e ∈ tr, specEv e = e) : tr.map specEv = tr := by
  induction tr with
  | nil => rfl
  | cons e tr ih =>
    rw [List.map_cons, h e List.mem_cons_self, ih fun e he => h e (List.mem_cons_of_mem _ he)]

theorem out_characterised (fs : Nat → Func) (ops : List Op) (f w : Nat)
    (hwrap : (⟨.wrap f, none, .wrapper w⟩ : Event) ∈ run fs init ops) (hc : (fs f).coro = false)
    (i : Nat) (e : Event) (a : Answer) (h : (run fs init ops)[i]? = some e) (hop : e.op = .call w)
    (ha : e.answer = some a) :
    e.out = outIn (decidedBy (answersVia w ((run fs init ops).take i))) a := by
  rcases call_characterised fs ops w i e h hop with he | ⟨g, b, hg, he⟩
  · rw [he] at ha; cases ha
  · -- the handle denotes `f` at the end, hence all along
    have hfin := (inv_final fs ops).wrap f w hwrap
    obtain ⟨t, ht⟩ := stateAfter_fns fs (ops.drop i) (stateAfter fs init (ops.take i))
    rw [← stateAfter_append, List.take_append_drop] at ht
    rw [← ht, List.getElem?_append_left (List.getElem?_eq_some_iff.1 hg).1, hg] at hfin
    cases hfin
    rw [he] at ha ⊢
    cases ha
    rw [hc]; rfl

theorem bump_self (c : Nat → Nat) (f : Nat) : bump c f f = c f + 1 := if_pos rfl

theorem bumpBy_succ (c : Nat → Nat) (f k : Nat) : bumpBy (bump c f) f k = bumpBy c f (k + 1) := by
  funext g
  simp only [bumpBy, bump]
  split <;> omega

theorem bumpBy_zero (c : Nat → Nat) (f : Nat) : bumpBy c f 0 = c := by
  funext g
  simp only [bumpBy, Nat.add_zero, ite_self]

/-- `pre`: the answers that already went through the handle -/
theorem calls_through (fs : Nat → Func) (n f : Nat) : ∀ (k : Nat) (s : St) (pre : List Answer),
    s.wrappers[n]? = some (wrapperOf fs f pre) →
    Stable (pre ++ segment (fs f) (s.calls f) k) →
    (∀ e ∈ run fs s (List.replicate k (.call n)), specEv e = e) ∧
    (stateAfter fs s (List.replicate k (.call n))).wrappers.length = s.wrappers.length ∧
    (stateAfter fs s (List.replicate k (.call n))).calls = bumpBy s.calls f k := by
  intro k
  induction k with
  | zero => intro s pre _ _; exact ⟨fun _ he => absurd he List.not_mem_nil, rfl, (bumpBy_zero _ _).symm⟩
  | succ k ih =>
    intro s pre hw hs
    have hst := step_call_some fs s n _ hw
    rw [wrapperOf_fn, wrapperOf_call] at hst
    rw [segment] at hs
    have hout := outIn_stable _ pre _ (fun b hb => List.mem_append_left _ hb)
      (List.mem_append_right _ List.mem_cons_self) hs
    rw [← List.singleton_append, ← List.append_assoc] at hs
    obtain ⟨h1, h2, h3⟩ := ih ⟨s.wrappers.set n (wrapperOf fs f (pre ++ [(fs f).answer (s.calls f)])),
        bump s.calls f⟩ _ (List.getElem?_set_self (List.getElem?_eq_some_iff.1 hw).1)
      (by show Stable (_ ++ segment (fs f) (bump s.calls f f) k); rw [bump_self]; exact hs)
    simp only [List.replicate_succ, run, stateAfter, hst]
    refine ⟨fun e he => ?_, by rw [h2, List.length_set], by rw [h3, bumpBy_succ]⟩
    rcases List.mem_cons.mp he with rfl | he
    · rw [hout, ite_self]; rfl
    · exact h1 e he

theorem tools_match (fs : Nat → Func) : ∀ (tcs : List ToolCall) (s : St), StableTools fs s.calls tcs →
    ∀ e ∈ run fs s (toolOps s.wrappers.length tcs), specEv e = e := by
  intro tcs
  induction tcs with
  | nil => intro s _ e he; cases he
  | cons tc rest ih =>
    intro s hst e he
    -- the fresh wrapper is the one through which nothing has gone yet
    obtain ⟨k1, k2, k3⟩ := calls_through fs s.wrappers.length tc.f tc.ncalls (step fs s (.wrap tc.f)).1 []
      List.getElem?_concat_length hst.1
    rw [toolOps, run, run_append, List.mem_cons, List.mem_append] at he
    rcases he with rfl | he | he
    · rfl
    · exact k1 e he
    · have hlen : (step fs s (.wrap tc.f)).1.wrappers.length = s.wrappers.length + 1 :=
        List.length_append
      rw [← hlen, ← k2] at he
      exact ih _ (by rw [k3]; exact hst.2) e he

instance (as : List Answer) : Decidable (Stable as) := by unfold Stable; exact inferInstance

theorem answersVia_specRun (fs : Nat → Func) (ops : List Op) (w : Nat) :
    answersVia w (specRun fs specInit ops) = answersVia w (run fs init ops) := by
  rw [← proj_init, specRun_eq]
  unfold answersVia
  rw [List.filterMap_map]
  rfl

end AsyncVerif.AwaitifyReuse
