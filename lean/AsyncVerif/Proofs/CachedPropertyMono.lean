import AsyncVerif.Proofs.CachedPropertyFuel
/-!
# cached_property — two-state facts: what one task step / one operation can and cannot change
-/
namespace AsyncVerif.CachedProperty

/-- the state reached from the initial state (no instance has the attribute, no task) by `ops` -/
def reach (cfg : Cfg) (ops : List Op) : State := exec cfg State.init ops

/-- two-state facts about everything a task does between two operations -/
structure Mono (s s' : State) : Prop where
  runs_le : s.nRuns ≤ s'.nRuns
  run_inst : ∀ r, r < s.nRuns → (s'.run r).inst = (s.run r).inst
  val_stays : ∀ i v, s.slot i = some (.val v) → ∃ v', s'.slot i = some (.val v')
  new_run_uncached : ∀ r, s.nRuns ≤ r → r < s'.nRuns → ∀ v, s.slot (s'.run r).inst ≠ some (.val v)
  dels_eq : s'.dels = s.dels

theorem Mono.of_runs {s s' : State} (hn : s'.nRuns = s.nRuns) (hr : ∀ r, (s'.run r).inst = (s.run r).inst)
    (hv : ∀ i v, s.slot i = some (.val v) → ∃ v', s'.slot i = some (.val v')) (hd : s'.dels = s.dels) :
    Mono s s' :=
  ⟨Nat.le_of_eq hn.symm, fun r _ => hr r, hv, fun r h1 h2 => absurd (hn ▸ h2) (Nat.not_lt.2 h1), hd⟩

theorem Mono.same {s s' : State} (hn : s'.nRuns = s.nRuns) (hr : s'.run = s.run) (hs : s'.slot = s.slot)
    (hd : s'.dels = s.dels) : Mono s s' :=
  .of_runs hn (fun r => by rw [hr]) (fun i v h => ⟨v, by rw [hs]; exact h⟩) hd

theorem Mono.refl (s : State) : Mono s s := .same rfl rfl rfl rfl

theorem Mono.trans {s s' s'' : State} (h1 : Mono s s') (h2 : Mono s' s'') : Mono s s'' := by
  obtain ⟨a1, a2, a3, a4, a5⟩ := h1
  obtain ⟨b1, b2, b3, b4, b5⟩ := h2
  constructor
  · omega
  · intro r hr; rw [b2 r (by omega), a2 r hr]
  · intro i v hv; obtain ⟨v', hv'⟩ := a3 i v hv; exact b3 i v' hv'
  · intro r hr1 hr2 v hv
    by_cases h : r < s'.nRuns
    · exact a4 r hr1 h v (by rw [← b2 r h]; exact hv)
    · obtain ⟨v', hv'⟩ := a3 _ v hv
      exact b4 r (by omega) hr2 v' hv'
  · rw [b5, a5]

theorem access_mono (s : State) (i : Nat) : Mono s (access s i).1 := by
  rcases access_cases s i with ⟨x, _, he⟩ | ⟨hn, he⟩ <;> rw [he]
  · exact Mono.refl s
  · refine .of_runs rfl (fun _ => rfl) (fun j v hj => ⟨v, ?_⟩) rfl
    have : j ≠ i := fun e => by rw [e, hn] at hj; cases hj
    simpa [newPh, this] using hj

theorem instanceValue_self {s : State} {p : Nat} (he : (instanceValue s p).2 = .ph p) (v : Nat) :
    s.slot ((instanceValue s p).1.phInst p) ≠ some (.val v) := by
  unfold instanceValue at he ⊢
  rcases access_cases s (s.phInst p) with ⟨x, hx, e⟩ | ⟨hn, e⟩ <;> rw [e] at he ⊢
  · rw [hx, show x = .ph p from he]; simp
  · obtain rfl : s.nextP = p := by simpa using he
    simp [newPh, hn]

theorem setRunSt_inst (s : State) (r : Nat) (st : RunSt) (r' : Nat) :
    ((setRunSt s r st).run r').inst = (s.run r').inst := by
  simp only [setRunSt]; split
  · rename_i e; rw [e]
  · rfl

theorem complete_mono (cfg : Cfg) (s : State) (t p r : Nat) : Mono s (complete cfg s t p r).1 := by
  obtain ⟨lk, e⟩ := complete_fst cfg s t p r
  rw [e]
  refine .of_runs rfl (setRunSt_inst s r _) (fun i v hi => ?_) rfl
  show ∃ v', (if cfg.ok r then _ else _ : Nat → Option Stored) i = _
  split
  · by_cases ei : i = s.phInst p
    · exact ⟨r, if_pos ei⟩
    · exact ⟨v, (if_neg ei).trans hi⟩
  · exact ⟨v, hi⟩

theorem micro_mono (cfg : Cfg) (s : State) (t : Nat) : Mono s (micro cfg s t).1 :=
  micro_ind cfg s t (Mono.refl s) (fun p _ => access_mono s _)
    (fun _ _ _ h _ => h.trans (.same rfl rfl rfl rfl))
    (fun p _ he h => by
      -- the new run is on the instance whose slot `_instance_value` has just found to hold `p`
      refine ⟨Nat.le_succ_of_le h.runs_le, fun r hr => ?_, h.val_stays, fun r h1 h2 v => ?_, h.dels_eq⟩
      · have : r ≠ (instanceValue s p).1.nRuns := Nat.ne_of_lt (Nat.lt_of_lt_of_le hr h.runs_le)
        simpa [setPc, this] using h.run_inst r hr
      · by_cases e : r = (instanceValue s p).1.nRuns
        · simpa [setPc, e] using instanceValue_self he v
        · have hr : r < (instanceValue s p).1.nRuns := Nat.lt_of_le_of_ne (Nat.le_of_lt_succ h2) e
          simpa [setPc, e] using h.new_run_uncached r h1 hr v)
    (fun p r _ => complete_mono cfg s t p r)

theorem schedN_mono (cfg : Cfg) (n : Nat) (s : State) (t : Nat) : Mono s (schedN cfg n s t).1 :=
  schedN_ind cfg t (fun s' h => h.trans (micro_mono cfg s' t)) n s (Mono.refl s)

/-- the same facts for one operation; `del` is the only one that removes a value or counts as a deletion -/
theorem step_mono (cfg : Cfg) (s : State) (op : Op) (hop : ∀ i, op ≠ .del i) : Mono s (step cfg s op).1 := by
  cases op with
  | spawn i => exact (access_mono s i).trans (.same rfl rfl rfl rfl)
  | respawn t =>
    simp only [step]; split
    · exact .same rfl rfl rfl rfl
    · exact Mono.refl s
  | sched t => exact schedN_mono cfg _ s t
  | cancel t =>
    simp only [step, cancel]
    split
    · exact .same rfl rfl rfl rfl
    · exact .same rfl rfl rfl rfl
    · rename_i p r k _
      obtain ⟨lk, e⟩ := release_frame cfg s p
      rw [e]
      exact .of_runs rfl (setRunSt_inst s r _) (fun i v h => ⟨v, h⟩) rfl
    · exact Mono.refl s
  | del i => exact absurd rfl (hop i)

theorem cancel_slot (cfg : Cfg) (s : State) (t : Nat) : (cancel cfg s t).1.slot = s.slot := by
  unfold cancel
  split <;> try rfl
  rename_i p r k _
  obtain ⟨lk, e⟩ := release_frame cfg s p
  rw [e]; rfl

theorem step_dels (cfg : Cfg) (s : State) (op : Op) (i : Nat) (hop : op ≠ .del i) :
    (step cfg s op).1.dels i = s.dels i := by
  cases op with
  | del j =>
    have hji : i ≠ j := by intro e; subst e; exact hop rfl
    simp only [step]; split
    · rfl
    · simp [delSlot, hji]
  | _ => rw [(step_mono cfg s _ (by intro k; simp)).dels_eq]

theorem exec_dels (cfg : Cfg) (i : Nat) (ops : List Op) : ∀ s, (∀ op ∈ ops, op ≠ .del i) →
    (exec cfg s ops).dels i = s.dels i := by
  induction ops with
  | nil => intro s _; rfl
  | cons op ops ih =>
    intro s h
    simp only [exec]
    rw [ih _ (fun o ho => h o (List.mem_cons_of_mem _ ho)), step_dels cfg s op i (h op (List.mem_cons_self ..))]

theorem reach_inv' (cfg : Cfg) (ops : List Op) : Inv' cfg (reach cfg ops) :=
  exec_inv' cfg ops _ (init_inv' cfg)

theorem reach_inv (cfg : Cfg) (ops : List Op) : Inv cfg (reach cfg ops) := (reach_inv' cfg ops).toInv

end AsyncVerif.CachedProperty
