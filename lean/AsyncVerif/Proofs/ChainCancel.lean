import AsyncVerif.Proofs.Chain
import AsyncVerif.Proofs.Faithful
/-!
# chain: faithfulness of the handle, and the owner's `aclose()` after a raise (C06, C18, C04 / D19)

`Impl.chain` is `Impl.chainIter` plus "the consumer's `aclose()` also closes every owned iterator".
`Faithful` only speaks about the outcome and the visible log, so it transfers along a `Twin`.
`Impl.closeOwned` — the model of `for it in self._owned_iterators: await it.aclose()` — changes only
sources that are async iterators with `aclose` (`.agen`, `.aobj`): every other source is left as it was.
`OthersFrame s m`: `m` touches no source but `s`.  `chain`'s iterator touches its inputs one at a time,
so when it stops every input is either released or exactly as it was handed in
(`chainIter_unreleased_untouched`); that is the world the owner's later `aclose()` starts from.
-/
namespace AsyncVerif

/-- `Faithful` is a property of the outcome and the visible log only -/
theorem faithful_of_twin {α : Type} {a b : M α} (ht : Twin a b) (hb : Faithful b) : Faithful a := by
  refine ⟨fun w => ?_⟩
  obtain ⟨new, hv, hr⟩ := hb.run w
  obtain ⟨h1, h2⟩ := ht w
  exact ⟨new, by rw [h2, hv], by rw [h1]; exact hr⟩

/-- the `chain` handle is faithful: it differs from its iterator only when the consumer closes it -/
theorem Impl.faithful_chain (srcs : List Nat) (fuel : Nat) : Faithful (Impl.chain srcs fuel) :=
  faithful_of_twin (chain_handle_twin srcs fuel) (faithful_compositional.chainIter fuel srcs)

/-- a source that `chain` does not own (not an async iterator with `aclose`) is not touched by
    `chain.aclose()` -/
theorem closeIfOwned_srcs_unowned (s t : Nat) (w : World)
    (h : ¬ ((w.srcs t).kind = .agen ∨ (w.srcs t).kind = .aobj)) :
    (Impl.closeIfOwned s w).2.srcs t = w.srcs t := by
  unfold Impl.closeIfOwned
  split
  · rename_i hk
    by_cases hts : t = s
    · subst hts; exact absurd hk h
    · exact closeSrc_srcs_other s t w hts
  · rfl

theorem closeOwned_srcs_unowned : ∀ (l : List Nat) (t : Nat) (w : World),
    ¬ ((w.srcs t).kind = .agen ∨ (w.srcs t).kind = .aobj) →
    (Impl.closeOwned l w).2.srcs t = w.srcs t
  | [], _, _, _ => rfl
  | a :: rest, t, w, h => by
    have h1 := closeIfOwned_srcs_unowned a t w h
    rw [closeOwned_cons_apply, closeOwned_srcs_unowned rest t _ (by rw [h1]; exact h), h1]

/-- a source that is not among the arguments is not touched by `chain.aclose()` -/
theorem closeOwned_srcs_other : ∀ (l : List Nat) (t : Nat) (w : World), t ∉ l →
    (Impl.closeOwned l w).2.srcs t = w.srcs t
  | [], _, _, _ => rfl
  | a :: rest, t, w, h => by
    have h1 : (Impl.closeIfOwned a w).2.srcs t = w.srcs t := by
      unfold Impl.closeIfOwned
      split
      · exact closeSrc_srcs_other a t w fun e => h (e ▸ List.mem_cons_self)
      · rfl
    rw [closeOwned_cons_apply, closeOwned_srcs_other rest t _ fun e => h (List.mem_cons_of_mem _ e), h1]

end AsyncVerif

namespace AsyncVerif

def OthersFrame {α : Type} (s : Nat) (m : M α) : Prop :=
  Keeps (fun w w' => ∀ t, t ≠ s → w'.srcs t = w.srcs t) m

theorem othersFrame_order (s : Nat) : SrcsOrder (fun w w' => ∀ t, t ≠ s → w'.srcs t = w.srcs t) :=
  ⟨fun e t _ => congrFun e t, fun h1 h2 t ht => (h2 t ht).trans (h1 t ht)⟩

theorem othersFrame_closeSrc (s : Nat) : OthersFrame s (closeSrc s) :=
  fun w t ht => closeSrc_srcs_other s t w ht

theorem othersFrame_pull (s : Nat) : OthersFrame s (pull s) := by
  intro w t ht
  rw [pull_eq]
  exact w.setSrc_srcs_ne _ ht

theorem othersFrame_passLoop (s fuel : Nat) : OthersFrame s (passLoop s fuel) :=
  (othersFrame_order s).sequential.passLoop (othersFrame_pull s) (othersFrame_order s).yieldV fuel

/-- however `chain`'s iterator ends (fuel aside), an input that is not released at that point has
    not been touched at all: it is exactly as it was handed in -/
theorem chainIter_unreleased_untouched (fuel : Nat) : ∀ (srcs : List Nat) (w : World),
    (Impl.chainIter srcs fuel w).1 ≠ .error .outOfFuel →
    ∀ t ∈ srcs, Released ((Impl.chainIter srcs fuel w).2.srcs t) ∨ (Impl.chainIter srcs fuel w).2.srcs t = w.srcs t := by
  intro srcs
  induction srcs with
  | nil => intro w _ t ht; simp at ht
  | cons a rest ih =>
    intro w hne t ht
    have e1 : Impl.chainIter (a :: rest) fuel = (scopedIter a (passLoop a fuel) >>= fun _ => Impl.chainIter rest fuel) := rfl
    rw [e1] at hne ⊢
    rw [bind_apply] at hne ⊢
    have hfr : OthersFrame a (scopedIter a (passLoop a fuel)) :=
      (othersFrame_order a).tryFinally (othersFrame_passLoop a fuel) (othersFrame_closeSrc a) (closeSrc_quiet a)
    have hfr' := hfr w
    have hrel' := scopedIter_released a (passLoop a fuel) w
    rcases hA : scopedIter a (passLoop a fuel) w with ⟨r, w1⟩
    rw [hA] at hne hfr' hrel'
    simp only at hfr' hrel'
    cases r with
    | error e =>
      simp only at hne ⊢
      by_cases hta : t = a
      · subst hta; exact Or.inl (hrel' hne)
      · exact Or.inr (hfr' t hta)
    | ok u =>
      simp only at hne ⊢
      have hrel : Released (w1.srcs a) := hrel' (by simp)
      by_cases hta : t = a
      · subst hta; exact Or.inl (relMono_chainIter fuel rest w1 t hrel)
      · have htr : t ∈ rest := by
          rcases List.mem_cons.mp ht with h | h
          · exact absurd h hta
          · exact h
        rcases ih w1 hne t htr with h | h
        · exact Or.inl h
        · exact Or.inr (h.trans (hfr' t hta))

theorem chain_eq_chainIter (srcs : List Nat) (fuel : Nat) (w : World)
    (h : (Impl.chain srcs fuel w).1 ≠ .error .genExit) : Impl.chain srcs fuel w = Impl.chainIter srcs fuel w := by
  rcases chain_apply srcs fuel w with ⟨_, e⟩ | ⟨_, e⟩
  · exact e
  · rw [e] at h; exact absurd rfl h

end AsyncVerif
