import AsyncVerif.Proofs.Release
import AsyncVerif.Impl.Aggregations
/-!
# Release when the scope is not the outermost construct (`cycle`, `sorted`)

`SrcsFrame m`: `m` never touches a source (it only yields to the consumer, or computes).  A scoped
first phase followed by a `SrcsFrame` continuation leaves the source exactly as the scope left it.
-/
namespace AsyncVerif

def SrcsFrame {α : Type} (m : M α) : Prop := Keeps (fun w w' => w'.srcs = w.srcs) m

theorem srcsFrame_order : SrcsOrder (fun w w' => w'.srcs = w.srcs) := ⟨id, fun h1 h2 => h2.trans h1⟩

theorem srcsFrame_replay (buffer : List Val) (fuel : Nat) (l : List Val) : SrcsFrame (Std.replay buffer l fuel) :=
  srcsFrame_order.sequential.replay srcsFrame_order.yieldV buffer fuel l

theorem scoped_then_frame_released {α β : Type} (s : Nat) (body : M α) (k : α → M β) (hk : ∀ a, SrcsFrame (k a))
    (w : World) (h : ((scopedIter s body >>= k) w).1 ≠ .error .outOfFuel) :
    Released (((scopedIter s body >>= k) w).2.srcs s) := by
  rw [bind_apply] at h ⊢
  have hrel := scopedIter_released s body w
  rcases hsc : scopedIter s body w with ⟨r, w1⟩
  rw [hsc] at h hrel
  cases r with
  | ok a =>
    simp only at h ⊢
    rw [hk a w1]
    exact hrel (by simp)
  | error e =>
    simp only at h ⊢
    exact hrel (by simpa using h)

end AsyncVerif
