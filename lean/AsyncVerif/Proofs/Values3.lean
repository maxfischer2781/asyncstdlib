import AsyncVerif.Proofs.Values
import AsyncVerif.Proofs.Values2
/-!
# Value lemmas (C01), third part: `compress` and `iter(callable, sentinel)`

* `compressLoop_run`: `compress_next` on two distinct sources.
* `ScriptedFn`, `iterSentinel_spec`: a callable whose successive results are a given list.
-/
namespace AsyncVerif.V1

variable {F : Nat → FnBeh} {D : Nat → Prop}

/-! ## compress -/

theorem compress_nil_left (sels : List Val) : ListSpec.compress [] sels = [] := by
  simp [ListSpec.compress]

theorem compress_nil_right (data : List Val) : ListSpec.compress data [] = [] := by
  simp [ListSpec.compress]

theorem compress_cons (x k : Val) (data sels : List Val) :
    ListSpec.compress (x :: data) (k :: sels)
      = (if k.truthy then [x] else []) ++ ListSpec.compress data sels := by
  cases hk : k.truthy <;> simp [ListSpec.compress, hk]

theorem compressLoop_run {d sel : Nat} (hd : D d) (hsel : D sel) (hne : d ≠ sel) :
    ∀ (data sels : List Val) (fuel : Nat) (σ : St), σ.cons = .run 0 .exhaust → σ.items d = data →
      σ.items sel = sels → min data.length sels.length < fuel →
      Ends F D (Std.compressLoop d sel fuel) σ (.ok ()) (ListSpec.compress data sels) := by
  intro data
  induction data with
  | nil =>
    intro sels fuel σ _ hsd _ hf
    obtain _ | fuel := fuel
    · exact absurd hf (Nat.not_lt_zero _)
    · rw [compress_nil_left]
      exact (Run.pull_nil hd hsd).andThen (Run.pure _ _).ends
  | cons x xs ih =>
    intro sels fuel σ hc hsd hss hf
    obtain _ | fuel := fuel
    · exact absurd hf (Nat.not_lt_zero _)
    · have hss1 : (σ.set d xs).items sel = sels := (σ.set_ne xs fun h => hne h.symm).trans hss
      refine (Run.pull_cons hd hsd).andThen ?_
      cases sels with
      | nil =>
        rw [compress_nil_right]
        exact (Run.pull_nil hsel hss1).andThen (Run.pure _ _).ends
      | cons k ks =>
        have h := ih ks fuel ((σ.set d xs).set sel ks) hc
          (((σ.set d xs).set_ne ks hne).trans (σ.set_same d xs)) (St.set_same _ sel ks)
          (by simp only [List.length_cons] at hf; omega)
        rw [compress_cons]
        refine (Run.pull_cons hsel hss1).andThen ?_
        cases hk : k.truthy with
        | false => simpa [hk] using h
        | true => simpa [hk] using Ends.yield (v := x) (f := fun _ => Std.compressLoop d sel fuel) h hc

/-! ## `iter(callable, sentinel)`

Stated on worlds, not with `Run`: what a scripted callable returns depends on its invocation number
`w.calls f`, which `St` does not record (`Run.call` wants a callable that ignores it). -/

/-- callable `f` is scripted: its next invocations (counted from the current invocation number
    `w.calls f`), called without arguments, return the elements of `rs` one after the other -/
def ScriptedFn (w : World) (f : Nat) (rs : List Val) : Prop :=
  ∀ n (h : n < rs.length), w.fns f (w.calls f + n) [] = .ok rs[n]

theorem call_scripted {f : Nat} {v : Val} {rest : List Val} {w : World}
    (he : Exhausting w) (hr : ScriptedFn w f (v :: rest)) :
    ∃ w', call f [] w = (.ok v, w') ∧ Exhausting w' ∧ ScriptedFn w' f rest
      ∧ yields w'.vis = yields w.vis := by
  have h0 : w.fns f (w.calls f) [] = .ok v := hr 0 (by simp)
  refine ⟨({ w with calls := fun i => if i = f then w.calls f + 1 else w.calls i,
                    vis := w.vis ++ [Ev.call f []] } : World).pushVis (.ret f v),
    by simp only [call, h0], he, ?_, by simp [World.pushVis, yields]⟩
  · intro n hn
    have := hr (n + 1) (by simpa using hn)
    simp only [World.pushVis, if_true]
    rw [show w.calls f + 1 + n = w.calls f + (n + 1) by omega]
    simpa using this

theorem yieldV_ok_scripted (v : Val) {w : World} (he : Exhausting w) {f : Nat} {rs : List Val}
    (hr : ScriptedFn w f rs) :
    ∃ w', yieldV v w = (.ok (), w') ∧ Exhausting w' ∧ ScriptedFn w' f rs
      ∧ yields w'.vis = yields w.vis ++ [v] :=
  ⟨w.pushVis (.yld v), by simp only [yieldV, show w.cons = .run 0 .exhaust from he], he, hr,
    by simp [World.pushVis, yields]⟩

theorem iterSentinel_spec (f : Nat) (sentinel : Val) :
    ∀ (rs : List Val) (fuel : Nat) (w : World), Exhausting w → ScriptedFn w f rs →
      (∃ v ∈ rs, v.pyEq sentinel = true) → (ListSpec.iterSentinel sentinel rs).length < fuel →
      ∃ w', Std.iterSentinel f sentinel fuel w = (.ok (), w') ∧ Exhausting w'
        ∧ yields w'.vis = yields w.vis ++ ListSpec.iterSentinel sentinel rs := by
  intro rs
  induction rs with
  | nil => intro fuel w _ _ hex _; obtain ⟨v, hv, _⟩ := hex; simp at hv
  | cons v rest ih =>
    intro fuel w he hr hex hf
    cases fuel with
    | zero => simp at hf
    | succ fuel =>
      obtain ⟨w1, hc, he1, hr1, hy1⟩ := call_scripted he hr
      cases hv : v.pyEq sentinel with
      | true =>
        exact ⟨w1, by simp [Std.iterSentinel, bind_apply, hc, hv, pure_apply], he1,
          by simp [hy1, ListSpec.iterSentinel, hv]⟩
      | false =>
        obtain ⟨w2, hyv, he2, hr2, hy2⟩ := yieldV_ok_scripted v he1 hr1
        have hex' : ∃ u ∈ rest, u.pyEq sentinel = true := by
          obtain ⟨u, hu, hus⟩ := hex
          rcases List.mem_cons.mp hu with rfl | hu
          · rw [hv] at hus; exact absurd hus (by simp)
          · exact ⟨u, hu, hus⟩
        have hf' : (ListSpec.iterSentinel sentinel rest).length < fuel := by
          simp [ListSpec.iterSentinel, hv] at hf ⊢; omega
        obtain ⟨w3, hl, he3, hy3⟩ := ih fuel w2 he2 hr2 hex' hf'
        exact ⟨w3, by simp [Std.iterSentinel, bind_apply, hc, hv, hyv, hl], he3,
          by simp [hy3, hy2, hy1, ListSpec.iterSentinel, hv]⟩

/-- the specification read by index: if the first result `==` to the sentinel is at index `i`, the
    results yielded are the first `i` ones -/
theorem iterSentinel_take (sentinel : Val) : ∀ (rs : List Val) (i : Nat) (hi : i < rs.length),
    rs[i].pyEq sentinel = true → (∀ j (hj : j < i), rs[j].pyEq sentinel = false) →
    ListSpec.iterSentinel sentinel rs = rs.take i := by
  intro rs
  induction rs with
  | nil => intro i hi; simp at hi
  | cons v rest ih =>
    intro i hi hat hbefore
    cases i with
    | zero =>
      have : v.pyEq sentinel = true := by simpa using hat
      simp [ListSpec.iterSentinel, this]
    | succ i =>
      have hv : v.pyEq sentinel = false := by simpa using hbefore 0 (by omega)
      have := ih i (by simpa using hi) (by simpa using hat)
        (fun j hj => by simpa using hbefore (j + 1) (by omega))
      simp only [ListSpec.iterSentinel] at this
      simp [ListSpec.iterSentinel, hv, this]

end AsyncVerif.V1
