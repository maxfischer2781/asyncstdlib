import AsyncVerif.Proofs.Lru
/-! Helper lemmas for C11: invariants of the machine with overlapping calls, the task layer. -/
namespace AsyncVerif.Lru

/-- invariant of the cache with calls in flight, together with the ghost bookkeeping -/
structure CInv (cfg : Cfg) (x : CSt × Ghost) : Prop where
  inv : Inv cfg x.1.core
  total : x.1.core.hits + x.1.core.misses = x.2.calls
  missed : x.1.core.misses = x.2.invoked
  produced : ∀ e ∈ x.1.core.store, e ∈ x.2.produced

theorem CInv.init (cfg : Cfg) : CInv cfg (CSt.init, Ghost.init) :=
  ⟨Inv.init cfg, rfl, rfl, nofun⟩

theorem begin_counts (cfg : Cfg) (s : St) (p : Pattern) :
    ((Impl.begin cfg s p).2.isSome → (Impl.begin cfg s p).1.hits = s.hits + 1 ∧ (Impl.begin cfg s p).1.misses = s.misses) ∧
    ((Impl.begin cfg s p).2 = none → (Impl.begin cfg s p).1.hits = s.hits ∧ (Impl.begin cfg s p).1.misses = s.misses + 1) := by
  rcases begin_cases cfg s p with ⟨e, st, _, _, hb, _⟩ | ⟨_, hb⟩ <;> rw [hb]
  · exact ⟨fun _ => ⟨rfl, rfl⟩, nofun⟩
  · exact ⟨nofun, fun _ => ⟨rfl, rfl⟩⟩

theorem begin_store_subset (cfg : Cfg) (s : St) (p : Pattern) :
    ∀ e ∈ (Impl.begin cfg s p).1.store, e ∈ s.store := by
  rcases begin_cases cfg s p with ⟨e, st, hf, _, hb, rfl | rfl⟩ | ⟨_, hb⟩ <;> rw [hb]
  · exact fun _ h => h
  · intro x hx
    rcases List.mem_append.mp hx with hx | hx
    · exact mem_erase_of_mem hx
    · exact List.mem_singleton.mp hx ▸ (find_mem hf).1
  · exact fun _ h => h

theorem resume_counts (cfg : Cfg) (s : St) (p : Pattern) (v : Nat) :
    (Impl.resume cfg s p v).hits = s.hits ∧ (Impl.resume cfg s p v).misses = s.misses := by
  rcases resume_cases cfg s p v with hr | ⟨_, _, st, _, hr, _⟩ <;> rw [hr] <;> exact ⟨rfl, rfl⟩

theorem resume_store_subset (cfg : Cfg) (s : St) (p : Pattern) (v : Nat) :
    ∀ e ∈ (Impl.resume cfg s p v).store, e ∈ s.store ∨ e = (p, v) := by
  rcases resume_cases cfg s p v with hr | ⟨_, _, st, hsub, hr, _⟩ <;> rw [hr]
  · exact fun _ h => .inl h
  · exact fun e he => (List.mem_append.mp he).imp (fun h => hsub.subset h) List.mem_singleton.mp

theorem clear_counts (cfg : Cfg) (s : St) (hwf : Wf cfg s) :
    (Impl.clear cfg s).hits = 0 ∧ (Impl.clear cfg s).misses = 0 ∧ (Impl.clear cfg s).store = [] := by
  obtain ⟨var, typed⟩ := cfg
  cases var with
  | uncached => exact ⟨(hwf rfl).1, rfl, (hwf rfl).2⟩
  | memo => exact ⟨rfl, rfl, rfl⟩
  | bounded n => exact ⟨rfl, rfl, rfl⟩

theorem discard_counts (cfg : Cfg) (s : St) (p : Pattern) :
    (Impl.discard cfg s p).hits = s.hits ∧ (Impl.discard cfg s p).misses = s.misses ∧
    ∀ e ∈ (Impl.discard cfg s p).store, e ∈ s.store := by
  obtain ⟨var, typed⟩ := cfg
  cases var with
  | uncached => exact ⟨rfl, rfl, fun _ h => h⟩
  | memo => exact ⟨rfl, rfl, fun e he => mem_erase_of_mem he⟩
  | bounded n => exact ⟨rfl, rfl, fun e he => mem_erase_of_mem he⟩

theorem gstep_inv (cfg : Cfg) (hok : cfg.ok) (x : CSt × Ghost) (h : CInv cfg x) (op : COp) :
    CInv cfg (gstep cfg x op).1 := by
  obtain ⟨s, g⟩ := x
  have ht : s.core.hits + s.core.misses = g.calls := h.total
  have hm : s.core.misses = g.invoked := h.missed
  have hp : ∀ e ∈ s.core.store, e ∈ g.produced := h.produced
  cases op with
  | «begin» c p =>
    simp only [gstep, cstep]
    split
    · exact h
    · have hi := begin_inv cfg s.core h.inv p
      have hs := begin_store_subset cfg s.core p
      rcases begin_cases cfg s.core p with ⟨e, st, -, -, hb, -⟩ | ⟨-, hb⟩ <;> rw [hb] at hi hs ⊢
      · exact ⟨hi, (Nat.add_right_comm ..).trans (congrArg Nat.succ ht), hm, fun e he => hp e (hs e he)⟩
      · exact ⟨hi, congrArg Nat.succ ht, congrArg Nat.succ hm, fun e he => hp e (hs e he)⟩
  | finish c r =>
    cases hl : lookupCall c s.inflight with
    | none => simp only [gstep, cstep, hl]; cases r <;> exact h
    | some p =>
      cases r with
      | ok v =>
        simp only [gstep, cstep, gupd, hl]
        have hc := resume_counts cfg s.core p v
        refine ⟨resume_inv cfg hok s.core h.inv p v, ?_, hc.2.trans hm, fun e he => ?_⟩
        · show (Impl.resume cfg s.core p v).hits + (Impl.resume cfg s.core p v).misses = g.calls
          rw [hc.1, hc.2, ht]
        · exact List.mem_append.mpr ((resume_store_subset cfg s.core p v e he).imp (hp e) List.mem_singleton.mpr)
      | fail e => simp only [gstep, cstep, hl]; exact ⟨h.inv, ht, hm, hp⟩
      | cancel => simp only [gstep, cstep, hl]; exact ⟨h.inv, ht, hm, hp⟩
  | clear =>
    have hc := clear_counts cfg s.core h.inv.wf
    refine ⟨clear_inv cfg s.core h.inv, ?_, hc.2.1, fun e he => ?_⟩
    · show (Impl.clear cfg s.core).hits + (Impl.clear cfg s.core).misses = 0
      rw [hc.1, hc.2.1]
    · rw [show (gstep cfg (s, g) .clear).1.1.core.store = [] from hc.2.2] at he
      cases he
  | discard p =>
    have hc := discard_counts cfg s.core p
    refine ⟨discard_inv cfg s.core h.inv p, ?_, hc.2.1.trans hm, fun e he => hp e (hc.2.2 e he)⟩
    show (Impl.discard cfg s.core p).hits + (Impl.discard cfg s.core p).misses = g.calls
    rw [hc.1, hc.2.1, ht]
  | info => exact h

theorem grun_inv (cfg : Cfg) (hok : cfg.ok) : ∀ (ops : List COp) (x : CSt × Ghost), CInv cfg x →
    CInv cfg (grun cfg x ops) := by
  intro ops
  induction ops with
  | nil => intro x h; exact h
  | cons op rest ih => intro x h; exact ih _ (gstep_inv cfg hok x h op)

theorem grun_fst (cfg : Cfg) : ∀ (ops : List COp) (x : CSt × Ghost), (grun cfg x ops).1 = crun cfg x.1 ops := by
  intro ops
  induction ops with
  | nil => intro x; rfl
  | cons op rest ih => intro x; simp only [grun, crun]; rw [ih]; rfl

theorem crun_append (cfg : Cfg) : ∀ (a b : List COp) (s : CSt), crun cfg s (a ++ b) = crun cfg (crun cfg s a) b := by
  intro a
  induction a with
  | nil => intro b s; rfl
  | cons op rest ih => intro b s; simp only [List.cons_append, crun]; exact ih b _

theorem lookupCall_append_new (c : Nat) (p : Pattern) : ∀ (l : List (Nat × Pattern)),
    lookupCall c l = none → lookupCall c (l ++ [(c, p)]) = some p := by
  intro l
  induction l with
  | nil => intro _; simp [lookupCall]
  | cons e r ih =>
    intro h
    simp only [lookupCall] at h
    by_cases he : e.1 = c
    · simp [he] at h
    · simp only [he, if_false] at h
      simp only [List.cons_append, lookupCall, he, if_false, ih h]

theorem dropCall_append_new (c : Nat) (p : Pattern) : ∀ (l : List (Nat × Pattern)),
    lookupCall c l = none → dropCall c (l ++ [(c, p)]) = l := by
  intro l
  induction l with
  | nil => intro _; simp [dropCall]
  | cons e r ih =>
    intro h
    simp only [lookupCall] at h
    by_cases he : e.1 = c
    · simp [he] at h
    · simp only [he, if_false] at h
      simp only [List.cons_append, dropCall, he, if_false, ih h]

theorem setTask_eq_set (l : List Task) (t : Nat) (tk : Task) : setTask l t tk = l.set t tk := by
  induction l generalizing t with
  | nil => rfl
  | cons x r ih =>
    cases t with
    | zero => rfl
    | succ n => rw [setTask, ih]; rfl

theorem getElem?_setTask (l : List Task) (t : Nat) (tk : Task) (h : t < l.length) :
    (setTask l t tk)[t]? = some tk := by
  rw [setTask_eq_set, List.getElem?_set_self h]

theorem runProg_crun (cfg : Cfg) (t : Nat) : ∀ (prog : List Act) (pc : Nat) (s : CSt),
    (runProg cfg t prog pc s).1 = crun cfg s ((runProg cfg t prog pc s).2.2.map Prod.fst) := by
  intro prog
  induction prog with
  | nil => exact fun _ _ => rfl
  | cons a rest ih =>
    intro pc s
    cases a with
    | call p k r =>
      simp only [runProg]
      split
      next s1 hb =>
        have hs1 : (cstep cfg s (.begin (100 * t + pc) p)).1 = s1 := by rw [hb]
        split
        · simp only [List.map_cons, crun, hs1]; exact ih _ _
        · simp only [List.map_cons, List.map_nil, crun, hs1]
      next s1 o _ hb =>
        have hs1 : (cstep cfg s (.begin (100 * t + pc) p)).1 = s1 := by rw [hb]
        simp only [List.map_cons, crun, hs1]; exact ih _ _
    | clear => simp only [runProg, List.map_cons, crun]; exact ih _ _
    | discard p => simp only [runProg, List.map_cons, crun]; exact ih _ _
    | info => simp only [runProg, List.map_cons, crun]; exact ih _ _

theorem sendTask_crun (cfg : Cfg) (t : Nat) (tk : Task) (s : CSt) :
    (sendTask cfg t tk s).1 = crun cfg s ((sendTask cfg t tk s).2.2.map Prod.fst) := by
  unfold sendTask
  rcases hw : tk.waiting with _ | ⟨c, k, r⟩
  · simp only; exact runProg_crun cfg t _ _ _
  · cases k with
    | zero => simp only [List.map_cons, crun]; rw [runProg_crun]
    | succ k => simp only [List.map_nil, crun]

theorem cancelTask_crun (cfg : Cfg) (t : Nat) (tk : Task) (s : CSt) :
    (cancelTask cfg t tk s).1 = crun cfg s ((cancelTask cfg t tk s).2.2.map Prod.fst) := by
  unfold cancelTask
  rcases hw : tk.waiting with _ | ⟨c, k, r⟩
  · simp only; exact sendTask_crun cfg t tk s
  · simp only [List.map_cons, List.map_nil, crun]

theorem schedStep_crun (cfg : Cfg) (x : CSt × List Task) (op : SOp) :
    (schedStep cfg x op).1.1 = crun cfg x.1 ((schedStep cfg x op).2.map Prod.fst) := by
  cases op with
  | send t =>
    simp only [schedStep]
    cases x.2[t]? with
    | none => rfl
    | some tk => simp only; exact sendTask_crun cfg t tk x.1
  | cancel t =>
    simp only [schedStep]
    cases x.2[t]? with
    | none => rfl
    | some tk => simp only; exact cancelTask_crun cfg t tk x.1

theorem schedFinal_crun (cfg : Cfg) : ∀ (ops : List SOp) (x : CSt × List Task),
    (schedFinal cfg x ops).1 = crun cfg x.1 ((schedEvents cfg x ops).map Prod.fst) := by
  intro ops
  induction ops with
  | nil => intro x; rfl
  | cons op rest ih =>
    intro x
    simp only [schedFinal, schedEvents, List.map_append]
    rw [crun_append, ih, ← schedStep_crun]

end AsyncVerif.Lru
