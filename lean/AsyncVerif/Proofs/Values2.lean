import AsyncVerif.Proofs.Values
/-!
# Value lemmas (C01), second part: `cycle` (a consumer that closes) and `merge`

`merge`: the run of `Std.merge` against the greedy specification `ListSpec.mergeN` (`HeapInv` ties the
heap of the algorithm to the remaining inputs of the specification), then pure list facts: on sorted
inputs the greedy merge is a stable merge (`merge_sorted_stable`).  At the end, facts about the
hand-written specifications `chunksN` and `cycleTake` that C01 states as `C01_…_spec_…`.
-/
namespace AsyncVerif.V1

variable {F : Nat → FnBeh} {D : Nat → Prop}

/-! ## a consumer that closes after `k` more items -/

theorem Run.yieldV_more (v : Val) {σ : St} {k : Nat} {fin : Final} (h : σ.cons = .run (k + 1) fin) :
    Run F D (AsyncVerif.yieldV v) σ (.ok ()) [v] { σ with cons := .run k fin } := by
  intro w hw
  have := hw.cons.trans h
  exact ⟨{ w.pushVis (.yld v) with cons := .run k fin }, by simp only [AsyncVerif.yieldV, this],
    ⟨hw.fns, rfl, hw.has⟩, by simp [World.pushVis, yields]⟩

theorem Run.yieldV_closed (v : Val) {σ : St} (h : σ.cons = .run 0 .close) :
    Run F D (AsyncVerif.yieldV v) σ (.error .genExit) [v] { σ with cons := .done } := by
  intro w hw
  have := hw.cons.trans h
  exact ⟨({ w.pushVis (.yld v) with cons := .done } : World).pushVis .closed,
    by simp only [AsyncVerif.yieldV, this], ⟨hw.fns, rfl, hw.has⟩, by simp [World.pushVis, yields]⟩

/-! ## cycle -/

theorem cycleFirst_closed {s : Nat} (hD : D s) :
    ∀ (items buf : List Val) (k fuel : Nat) (σ : St), σ.items s = items → σ.cons = .run k .close →
      items.length < fuel → k < items.length →
      Ends F D (Std.cycleFirst s buf fuel) σ (.error .genExit) (items.take (k + 1)) := by
  intro items
  induction items with
  | nil => intro buf k fuel σ _ _ _ hk; exact absurd hk (Nat.not_lt_zero _)
  | cons x xs ih =>
    intro buf k fuel σ hs hc hf hk
    obtain _ | fuel := fuel
    · exact absurd hf (Nat.not_lt_zero _)
    · refine (Run.pull_cons hD hs).andThen ?_
      obtain _ | k := k
      · exact (Run.yieldV_closed (σ := σ.set s xs) x hc).bind_error.ends
      · exact (Run.yieldV_more (σ := σ.set s xs) x hc).andThen
          (ih (buf ++ [x]) k fuel { σ.set s xs with cons := .run k .close } (σ.set_same s xs) rfl
            (Nat.lt_of_succ_lt_succ hf) (Nat.lt_of_succ_lt_succ hk))

theorem cycleFirst_done {s : Nat} (hD : D s) :
    ∀ (items buf : List Val) (k fuel : Nat) (σ : St), σ.items s = items → σ.cons = .run k .close →
      items.length < fuel → items.length ≤ k →
      ∃ σ', σ'.cons = .run (k - items.length) .close ∧
        Run F D (Std.cycleFirst s buf fuel) σ (.ok (buf ++ items)) items σ' := by
  intro items
  induction items with
  | nil =>
    intro buf k fuel σ hs hc hf _
    obtain _ | fuel := fuel
    · exact absurd hf (Nat.not_lt_zero _)
    · refine ⟨σ, hc, ?_⟩
      rw [Std.cycleFirst]
      simpa using (Run.pull_nil hD hs).bind (Run.pure buf σ)
  | cons x xs ih =>
    intro buf k fuel σ hs hc hf hk
    obtain _ | fuel := fuel
    · exact absurd hf (Nat.not_lt_zero _)
    · obtain _ | k := k
      · exact absurd hk (Nat.not_succ_le_zero _)
      · obtain ⟨σ', hc', h⟩ := ih (buf ++ [x]) k fuel { σ.set s xs with cons := .run k .close } (σ.set_same s xs) rfl
          (Nat.lt_of_succ_lt_succ hf) (Nat.le_of_succ_le_succ hk)
        refine ⟨σ', by rw [hc', List.length_cons, Nat.succ_sub_succ], ?_⟩
        rw [List.append_assoc] at h
        exact (Run.pull_cons hD hs).bind ((Run.yieldV_more (σ := σ.set s xs) x hc).bind h)

/-- The fuel bound: `replay` spends one unit per item yielded and one per restart of the buffer; the buffer
    is not empty, so there is at most one restart per item, and `min cur.length 1` gives back the restart
    that is not needed while `cur` still has an item. -/
theorem replay_closed (buffer : List Val) (hne : buffer ≠ []) :
    ∀ (fuel k : Nat) (cur : List Val) (σ : St), σ.cons = .run k .close →
      2 * k + 2 ≤ fuel + min cur.length 1 →
      Ends F D (Std.replay buffer cur fuel) σ (.error .genExit) (ListSpec.cycleTake buffer (k + 1) cur) := by
  intro fuel
  induction fuel with
  | zero => intro k cur σ _ hf; omega
  | succ fuel ih =>
    intro k cur σ hc hf
    cases cur with
    | nil =>
      cases hb : buffer with
      | nil => exact absurd hb hne
      | cons b bs =>
        have h := ih k buffer σ hc (by rw [hb]; simp at hf ⊢; omega)
        rw [hb] at h
        simpa [Std.replay, ListSpec.cycleTake] using h
    | cons x rest =>
      obtain _ | k := k
      · exact (Run.yieldV_closed x hc).bind_error.ends
      · exact (Run.yieldV_more x hc).andThen
          (ih k rest { σ with cons := .run k .close } rfl (by simp at hf; omega))

theorem cycleTake_short (items : List Val) : ∀ (cur : List Val) (m : Nat), m ≤ cur.length →
    ListSpec.cycleTake items m cur = cur.take m := by
  intro cur
  induction cur with
  | nil => intro m hm; have : m = 0 := by simpa using hm
           subst this; rfl
  | cons x xs ih =>
    intro m hm
    cases m with
    | zero => rfl
    | succ m => simp [ListSpec.cycleTake, ih m (by simpa using hm)]

theorem cycleTake_restart (items : List Val) (m : Nat) :
    ListSpec.cycleTake items (m + 1) [] = ListSpec.cycleTake items (m + 1) items := by
  cases items with
  | nil => simp [ListSpec.cycleTake]
  | cons x xs => simp [ListSpec.cycleTake]

theorem cycleTake_through (items : List Val) : ∀ (cur : List Val) (m : Nat),
    ListSpec.cycleTake items (cur.length + m) cur = cur ++ ListSpec.cycleTake items m [] := by
  intro cur
  induction cur with
  | nil => intro m; simp
  | cons x xs ih =>
    intro m
    have : (x :: xs).length + m = (xs.length + m) + 1 := by simp; omega
    rw [this]
    simp [ListSpec.cycleTake, ih m]

theorem cycle_result (items : List Val) (k : Nat) :
    (if k < items.length then items.take (k + 1)
     else items ++ ListSpec.cycleTake items (k - items.length + 1) []) = ListSpec.cyclePrefix items (k + 1) := by
  unfold ListSpec.cyclePrefix
  by_cases h : k < items.length
  · rw [if_pos h, cycleTake_restart items k, cycleTake_short items items (k + 1) (by omega)]
  · rw [if_neg h]
    have e : k + 1 = items.length + (k - items.length + 1) := by omega
    conv => rhs; rw [cycleTake_restart items k, e, cycleTake_through]

theorem cycle_run {s : Nat} (hD : D s) (items : List Val) (k fuel : Nat) (σ : St)
    (hs : σ.items s = items) (hc : σ.cons = .run k .close) (hf : items.length + 2 * k + 2 ≤ fuel) :
    Ends F D (Std.cycle s fuel) σ (if items.isEmpty then .ok () else .error .genExit)
      (ListSpec.cyclePrefix items (k + 1)) := by
  rw [← cycle_result]
  by_cases hk : k < items.length
  · have hne : items.isEmpty = false := by cases items <;> simp at hk ⊢
    rw [hne, if_pos hk]
    obtain ⟨σ', h⟩ := cycleFirst_closed (F := F) hD items [] k fuel σ hs hc (by omega) hk
    exact h.bind_error.ends
  · obtain ⟨σ', hc', h⟩ := cycleFirst_done (F := F) hD items [] k fuel σ hs hc (by omega) (by omega)
    rw [if_neg hk]
    cases hi : items with
    | nil =>
      subst hi
      obtain _ | fuel := fuel
      · exact absurd hf (Nat.not_succ_le_zero _)
      · exact h.andThen (Run.pure () σ').ends
    | cons x xs =>
      rw [← hi]
      have hie : items.isEmpty = false := by simp [hi]
      rw [hie]
      exact h.andThen (replay_closed items (by simp [hi]) fuel (k - items.length) [] σ' hc' (by simp; omega))

/-! ## merge: the order on heads -/

/-- the integer a key is ordered by (negated for `reverse`) -/
def rk (reverse : Bool) (v : Val) : Int :=
  match v.key? with
  | some k => if reverse then -k else k
  | none => 0

/-- lexicographic order on (rank, input number) -/
def lexLt (a : Int) (i : Nat) (b : Int) (j : Nat) : Prop := a < b ∨ (a = b ∧ i < j)

theorem goesBefore_iff (reverse : Bool) (ka : Val) (i : Nat) (kb : Val) (j : Nat)
    (ha : ka.key?.isSome = true) (hb : kb.key?.isSome = true) :
    ListSpec.goesBefore reverse ka i kb j = true ↔ lexLt (rk reverse ka) i (rk reverse kb) j := by
  cases hka : ka.key? with
  | none => rw [hka] at ha; simp at ha
  | some x =>
    cases hkb : kb.key? with
    | none => rw [hkb] at hb; simp at hb
    | some y =>
      simp only [ListSpec.goesBefore, hka, hkb, rk, lexLt]
      cases reverse <;> by_cases hxy : x = y <;> simp [hxy] <;> omega

theorem rk_le (kf : Val → Val) (reverse : Bool) {a b : Val} (ha : (kf a).key?.isSome = true)
    (hb : (kf b).key?.isSome = true) :
    rk reverse (kf a) ≤ rk reverse (kf b)
      ↔ Std.keyLe (kf (bif reverse then b else a)) (kf (bif reverse then a else b)) = true := by
  cases hka : (kf a).key? with
  | none => rw [hka] at ha; exact absurd ha (by simp)
  | some x =>
    cases hkb : (kf b).key? with
    | none => rw [hkb] at hb; exact absurd hb (by simp)
    | some y => cases reverse <;> simp [Std.keyLe, rk, hka, hkb]

theorem rk_beq (reverse : Bool) {a : Val} (ha : a.key?.isSome = true) (k : Int) :
    (a.key? == some k) = (rk reverse a == bif reverse then -k else k) := by
  cases hka : a.key? with
  | none => rw [hka] at ha; exact absurd ha (by simp)
  | some x =>
    cases reverse
    · simp [rk, hka]
    · have h : (x == k) = (-x == -k) := by rw [Bool.eq_iff_iff]; simp only [beq_iff_eq]; omega
      simpa [rk, hka] using h

theorem before_eq (reverse : Bool) (a b : Std.Entry) :
    Std.Entry.before reverse a b = ListSpec.goesBefore reverse a.key a.idx b.key b.idx := by
  unfold Std.Entry.before ListSpec.goesBefore
  cases a.key.key? <;> cases b.key.key? <;> rfl

theorem popMin_spec (reverse : Bool) : ∀ (heap : List Std.Entry),
    (∀ e ∈ heap, e.key.key?.isSome = true) → (heap.map (·.idx)).Nodup → heap ≠ [] →
    ∃ m others, Std.popMin reverse heap = some (m, others) ∧ heap.Perm (m :: others)
      ∧ ∀ e ∈ others, lexLt (rk reverse m.key) m.idx (rk reverse e.key) e.idx := by
  intro heap
  induction heap with
  | nil => intro _ _ h; exact absurd rfl h
  | cons e rest ih =>
    intro hk hnd _
    simp only [List.map_cons, List.nodup_cons] at hnd
    obtain ⟨he_notin, hnd'⟩ := hnd
    cases hrest : rest with
    | nil => exact ⟨e, [], by simp [Std.popMin], by simp, by simp⟩
    | cons e2 rest2 =>
      rw [← hrest]
      obtain ⟨m, others, hp, hperm, hmin⟩ := ih (fun x hx => hk x (by simp [hx])) hnd' (by simp [hrest])
      have hm_mem : m ∈ rest := hperm.mem_iff.mpr (by simp)
      have hm_idx : m.idx ≠ e.idx := fun h => he_notin (List.mem_map.mpr ⟨m, hm_mem, h⟩)
      have hkm := hk m (by simp [hm_mem])
      have hke := hk e (by simp)
      by_cases hb : Std.Entry.before reverse m e = true
      · refine ⟨m, e :: others, by simp [Std.popMin, hp, hb], ?_, ?_⟩
        · exact (List.Perm.cons e hperm).trans (List.Perm.swap m e others)
        · intro x hx
          rcases List.mem_cons.mp hx with rfl | hx
          · rw [before_eq] at hb; exact (goesBefore_iff _ _ _ _ _ hkm hke).mp hb
          · exact hmin x hx
      · refine ⟨e, m :: others, by simp [Std.popMin, hp, hb], List.Perm.cons e hperm, ?_⟩
        rw [before_eq] at hb
        have hnot : ¬ lexLt (rk reverse m.key) m.idx (rk reverse e.key) e.idx :=
          fun h => hb ((goesBefore_iff _ _ _ _ _ hkm hke).mpr h)
        have hem : lexLt (rk reverse e.key) e.idx (rk reverse m.key) m.idx := by
          unfold lexLt at hnot ⊢; omega
        intro x hx
        rcases List.mem_cons.mp hx with rfl | hx
        · exact hem
        · have := hmin x hx
          unfold lexLt at this hem ⊢; omega

theorem pickFrom_spec (kf : Val → Val) (reverse : Bool) : ∀ (ls : List (List Val)) (i0 : Nat),
    (∀ l ∈ ls, ∀ x ∈ l, (kf x).key?.isSome = true) →
    match ListSpec.pickFrom kf reverse i0 ls with
    | none => ∀ l ∈ ls, l = []
    | some (i, x) => ∃ k t, i = i0 + k ∧ ls[k]? = some (x :: t)
        ∧ ∀ y u j, ls[j]? = some (y :: u) → j ≠ k → lexLt (rk reverse (kf x)) i (rk reverse (kf y)) (i0 + j) := by
  intro ls
  induction ls with
  | nil => intro i0 _ l hl; exact absurd hl List.not_mem_nil
  | cons l rest ih =>
    intro i0 hk
    have ih' := ih (i0 + 1) (fun l hl => hk l (List.mem_cons_of_mem _ hl))
    cases l with
    | nil =>
      simp only [ListSpec.pickFrom]
      cases hp : ListSpec.pickFrom kf reverse (i0 + 1) rest with
      | none =>
        rw [hp] at ih'
        intro l hl
        rcases List.mem_cons.mp hl with rfl | hl
        · rfl
        · exact ih' l hl
      | some r =>
        obtain ⟨i, x⟩ := r
        rw [hp] at ih'
        obtain ⟨k, t, hi, hkt, hmin⟩ := ih'
        refine ⟨k + 1, t, by omega, hkt, fun y u j hj hne => ?_⟩
        cases j with
        | zero => exact absurd (Option.some.inj hj) (List.cons_ne_nil _ _).symm
        | succ j =>
          have := hmin y u j hj (fun h => hne (congrArg (· + 1) h))
          rwa [Nat.add_right_comm, Nat.add_assoc] at this
    | cons x t =>
      have hkx : (kf x).key?.isSome = true := hk (x :: t) List.mem_cons_self x List.mem_cons_self
      simp only [ListSpec.pickFrom]
      cases hp : ListSpec.pickFrom kf reverse (i0 + 1) rest with
      | none =>
        rw [hp] at ih'
        refine ⟨0, t, rfl, rfl, fun y u j hj hne => ?_⟩
        cases j with
        | zero => exact absurd rfl hne
        | succ j => exact absurd (ih' _ (List.mem_of_getElem? hj)) (List.cons_ne_nil _ _)
      | some r =>
        obtain ⟨j0, y0⟩ := r
        rw [hp] at ih'
        obtain ⟨k0, t0, hj0, hkt0, hmin⟩ := ih'
        have hky0 : (kf y0).key?.isSome = true :=
          hk (y0 :: t0) (List.mem_cons_of_mem _ (List.mem_of_getElem? hkt0)) y0 List.mem_cons_self
        simp only
        by_cases hb : ListSpec.goesBefore reverse (kf y0) j0 (kf x) i0 = true
        · rw [if_pos hb]
          have hlt := (goesBefore_iff _ _ _ _ _ hky0 hkx).mp hb
          refine ⟨k0 + 1, t0, by omega, hkt0, fun y u j hj hne => ?_⟩
          cases j with
          | zero =>
            obtain ⟨rfl, _⟩ := List.cons.inj (Option.some.inj hj)
            exact hlt
          | succ j =>
            have := hmin y u j hj (fun h => hne (congrArg (· + 1) h))
            rwa [Nat.add_right_comm, Nat.add_assoc] at this
        · rw [if_neg hb]
          have hnot : ¬ lexLt (rk reverse (kf y0)) j0 (rk reverse (kf x)) i0 :=
            fun h => hb ((goesBefore_iff _ _ _ _ _ hky0 hkx).mpr h)
          refine ⟨0, t, rfl, rfl, fun y u j hj hne => ?_⟩
          cases j with
          | zero => exact absurd rfl hne
          | succ j =>
            by_cases hjk : j = k0
            · subst hjk
              obtain ⟨rfl, _⟩ := List.cons.inj (Option.some.inj (hkt0.symm.trans hj))
              unfold lexLt at hnot ⊢; omega
            · have := hmin y u j hj hjk
              unfold lexLt at this hnot ⊢; omega

theorem pick_none {kf : Val → Val} {reverse : Bool} {ls : List (List Val)}
    (hk : ∀ l ∈ ls, ∀ x ∈ l, (kf x).key?.isSome = true) (hp : ListSpec.pickFrom kf reverse 0 ls = none) :
    ∀ l ∈ ls, l = [] := by
  have h := pickFrom_spec kf reverse ls 0 hk
  rwa [hp] at h

theorem pick_some {kf : Val → Val} {reverse : Bool} {ls : List (List Val)}
    (hk : ∀ l ∈ ls, ∀ x ∈ l, (kf x).key?.isSome = true) {i : Nat} {x : Val}
    (hp : ListSpec.pickFrom kf reverse 0 ls = some (i, x)) :
    (∃ t, ls[i]? = some (x :: t))
      ∧ ∀ y u j, ls[j]? = some (y :: u) → j ≠ i → lexLt (rk reverse (kf x)) i (rk reverse (kf y)) j := by
  have h := pickFrom_spec kf reverse ls 0 hk
  rw [hp] at h
  obtain ⟨k, t, rfl, hkt, hb⟩ := h
  rw [Nat.zero_add]
  exact ⟨⟨t, hkt⟩, fun y u j hj hne => by simpa using hb y u j hj hne⟩

/-- the head that goes before every other head is the one picked -/
theorem pick_eq_of_min {kf : Val → Val} {reverse : Bool} {ls : List (List Val)}
    (hk : ∀ l ∈ ls, ∀ x ∈ l, (kf x).key?.isSome = true) {i : Nat} {x : Val} {t : List Val}
    (hi : ls[i]? = some (x :: t))
    (hmin : ∀ y u j, ls[j]? = some (y :: u) → j ≠ i → lexLt (rk reverse (kf x)) i (rk reverse (kf y)) j) :
    ListSpec.pickFrom kf reverse 0 ls = some (i, x) := by
  cases hp : ListSpec.pickFrom kf reverse 0 ls with
  | none => exact absurd (pick_none hk hp _ (List.mem_of_getElem? hi)) (List.cons_ne_nil _ _)
  | some r =>
    obtain ⟨i', x'⟩ := r
    obtain ⟨⟨t', hli⟩, hbest⟩ := pick_some hk hp
    by_cases h : i' = i
    · subst h
      obtain ⟨rfl, _⟩ := List.cons.inj (Option.some.inj (hli.symm.trans hi))
      rfl
    · have h1 := hbest x t i hi (fun h' => h h'.symm)
      have h2 := hmin x' t' i' hli h
      unfold lexLt at h1 h2
      omega

/-! ## merge: list facts about `modify … tail` -/

theorem getElem?_modify_tail_same (ls : List (List Val)) (i : Nat) (l : List Val) (h : ls[i]? = some l) :
    (ls.modify i List.tail)[i]? = some l.tail := by
  simp [h]

theorem getElem?_modify_tail_ne (ls : List (List Val)) (i j : Nat) (h : i ≠ j) :
    (ls.modify i List.tail)[j]? = ls[j]? := by
  rw [List.getElem?_modify]
  cases ls[j]? <;> simp [h]

theorem sum_modify_tail : ∀ (ls : List (List Val)) (i : Nat) (x : Val) (t : List Val),
    ls[i]? = some (x :: t) → ((ls.modify i List.tail).map List.length).sum + 1 = (ls.map List.length).sum := by
  intro ls
  induction ls with
  | nil => intro i x t h; simp at h
  | cons l rest ih =>
    intro i x t h
    cases i with
    | zero =>
      simp at h; subst h
      simp [List.modify_zero_cons]; omega
    | succ i =>
      simp at h
      have := ih i x t h
      simp [List.modify_succ_cons]; omega

/-- after `modify i tail` every input is a sublist of an input from before -/
theorem mem_modify_tail (ls : List (List Val)) (i : Nat) (l' : List Val) (h : l' ∈ ls.modify i List.tail) :
    ∃ l ∈ ls, l'.Sublist l := by
  obtain ⟨j, hj⟩ := List.mem_iff_getElem?.mp h
  by_cases hij : i = j
  · subst hij
    cases hl : ls[i]? with
    | none => simp [hl] at hj
    | some l =>
      rw [getElem?_modify_tail_same ls i l hl] at hj
      obtain rfl := Option.some.inj hj
      exact ⟨l, List.mem_of_getElem? hl, List.tail_sublist l⟩
  · rw [getElem?_modify_tail_ne ls i j hij] at hj
    exact ⟨l', List.mem_of_getElem? hj, List.Sublist.refl _⟩

theorem keys_modify_tail {kf : Val → Val} {ls : List (List Val)} (i : Nat)
    (hk : ∀ l ∈ ls, ∀ x ∈ l, (kf x).key?.isSome = true) :
    ∀ l ∈ ls.modify i List.tail, ∀ x ∈ l, (kf x).key?.isSome = true := fun l' hl' y hy =>
  let ⟨l0, hl0, hsub⟩ := mem_modify_tail ls i l' hl'
  hk l0 hl0 y (hsub.subset hy)

theorem sorted_modify_tail {R : Val → Val → Prop} {ls : List (List Val)} (i : Nat)
    (hs : ∀ l ∈ ls, l.Pairwise R) : ∀ l ∈ ls.modify i List.tail, l.Pairwise R := fun l' hl' =>
  let ⟨l0, hl0, hsub⟩ := mem_modify_tail ls i l' hl'
  (hs l0 hl0).sublist hsub

/-! ## merge: the heap of the algorithm against the inputs of the specification -/

/-- the heap `heap` of live entries describes the inputs `ls` (remaining items, current head included) -/
structure HeapInv (srcs : List Nat) (kf : Val → Val) (σ : St) (heap : List Std.Entry)
    (ls : List (List Val)) : Prop where
  nd : (heap.map (·.idx)).Nodup
  ent : ∀ e ∈ heap, ∃ t, ls[e.idx]? = some (e.head :: t) ∧ σ.items e.src = t ∧ e.key = kf e.head
    ∧ srcs[e.idx]? = some e.src
  emp : ∀ i l, ls[i]? = some l → (∀ e ∈ heap, e.idx ≠ i) → l = []

theorem heap_keys {srcs : List Nat} {kf : Val → Val} {σ : St} {heap : List Std.Entry}
    {ls : List (List Val)} (hinv : HeapInv srcs kf σ heap ls)
    (hk : ∀ l ∈ ls, ∀ x ∈ l, (kf x).key?.isSome = true) : ∀ e ∈ heap, e.key.key?.isSome = true := by
  intro e he
  obtain ⟨t, hl, _, hkey, _⟩ := hinv.ent e he
  rw [hkey]
  exact hk _ (List.mem_of_getElem? hl) e.head (by simp)

/-- the minimum of the heap is the input the specification picks -/
theorem pick_agrees {srcs : List Nat} {kf : Val → Val} {reverse : Bool} {σ : St} {heap : List Std.Entry}
    {ls : List (List Val)} (hinv : HeapInv srcs kf σ heap ls)
    (hk : ∀ l ∈ ls, ∀ x ∈ l, (kf x).key?.isSome = true)
    (m : Std.Entry) (others : List Std.Entry) (hperm : heap.Perm (m :: others))
    (hmin : ∀ e ∈ others, lexLt (rk reverse m.key) m.idx (rk reverse e.key) e.idx) :
    ListSpec.pickFrom kf reverse 0 ls = some (m.idx, m.head) := by
  have hm : m ∈ heap := hperm.mem_iff.mpr (by simp)
  obtain ⟨t, hlm, _, hkm, _⟩ := hinv.ent m hm
  refine pick_eq_of_min hk hlm fun y u j hj hne => ?_
  have hex : ∃ e ∈ heap, e.idx = j := Classical.byContradiction fun hno =>
    List.cons_ne_nil _ _ (hinv.emp j _ hj fun e he h => hno ⟨e, he, h⟩)
  obtain ⟨e, he, rfl⟩ := hex
  obtain ⟨te, hle, _, hke, _⟩ := hinv.ent e he
  obtain ⟨rfl, _⟩ := List.cons.inj (Option.some.inj (hle.symm.trans hj))
  have he_oth : e ∈ others := (List.mem_cons.mp (hperm.mem_iff.mp he)).resolve_left fun h => hne (h ▸ rfl)
  have := hmin e he_oth
  rwa [hke, hkm] at this

/-- what stays true of the other entries after the minimum `m` was output and its source advanced -/
theorem heapInv_others {srcs : List Nat} (hsn : srcs.Nodup) {kf : Val → Val} {σ σ' : St}
    {heap : List Std.Entry} {ls : List (List Val)} (hinv : HeapInv srcs kf σ heap ls)
    (m : Std.Entry) (others : List Std.Entry) (hperm : heap.Perm (m :: others))
    (ho : ∀ s, s ≠ m.src → σ'.items s = σ.items s) :
    (others.map (·.idx)).Nodup ∧ m.idx ∉ others.map (·.idx)
    ∧ (∀ e ∈ others, ∃ t, (ls.modify m.idx List.tail)[e.idx]? = some (e.head :: t)
        ∧ σ'.items e.src = t ∧ e.key = kf e.head ∧ srcs[e.idx]? = some e.src)
    ∧ (∀ i l, (ls.modify m.idx List.tail)[i]? = some l → i ≠ m.idx → (∀ e ∈ others, e.idx ≠ i) → l = []) := by
  have hm : m ∈ heap := hperm.mem_iff.mpr (by simp)
  have hnd : ((m :: others).map (·.idx)).Nodup := (hperm.map _).nodup_iff.mp hinv.nd
  simp only [List.map_cons, List.nodup_cons] at hnd
  obtain ⟨hm_notin, hnd'⟩ := hnd
  obtain ⟨_, _, _, _, hsm⟩ := hinv.ent m hm
  refine ⟨hnd', hm_notin, ?_, ?_⟩
  · intro e he
    have heh : e ∈ heap := hperm.mem_iff.mpr (by simp [he])
    have hne : e.idx ≠ m.idx := fun h => hm_notin (List.mem_map.mpr ⟨e, he, h⟩)
    obtain ⟨te, hle, hhas, hke, hse⟩ := hinv.ent e heh
    refine ⟨te, by rw [getElem?_modify_tail_ne ls m.idx e.idx (fun h => hne h.symm)]; exact hle, ?_, hke, hse⟩
    have hsrc : e.src ≠ m.src := by
      intro h
      have hlt : e.idx < srcs.length := (List.getElem?_eq_some_iff.mp hse).1
      have := (List.getElem?_inj hlt hsn (j := m.idx)).mp (by rw [hse, hsm, h])
      exact hne this
    rw [ho e.src hsrc]; exact hhas
  · intro i l hl hi hno
    rw [getElem?_modify_tail_ne ls m.idx i (fun h => hi h.symm)] at hl
    apply hinv.emp i l hl
    intro e he
    rcases List.mem_cons.mp (hperm.mem_iff.mp he) with h | h
    · subst h; exact fun h => hi h.symm
    · exact hno e h

/-- the source of the minimum has ended: the entry is dropped -/
theorem heapInv_drop {srcs : List Nat} (hsn : srcs.Nodup) {kf : Val → Val} {σ σ' : St}
    {heap : List Std.Entry} {ls : List (List Val)} (hinv : HeapInv srcs kf σ heap ls)
    (m : Std.Entry) (others : List Std.Entry) (hperm : heap.Perm (m :: others))
    (hlm : ls[m.idx]? = some [m.head])
    (ho : ∀ s, s ≠ m.src → σ'.items s = σ.items s) :
    HeapInv srcs kf σ' others (ls.modify m.idx List.tail) := by
  obtain ⟨hnd', _, hent, hemp⟩ := heapInv_others hsn hinv m others hperm ho
  refine ⟨hnd', hent, ?_⟩
  intro i l hl hno
  by_cases hi : i = m.idx
  · subst hi
    rw [getElem?_modify_tail_same ls m.idx _ hlm] at hl
    simpa using hl.symm
  · exact hemp i l hl hi hno

/-- the source of the minimum delivered `x`: the entry is replaced -/
theorem heapInv_replace {srcs : List Nat} (hsn : srcs.Nodup) {kf : Val → Val} {σ σ' : St}
    {heap : List Std.Entry} {ls : List (List Val)} (hinv : HeapInv srcs kf σ heap ls)
    (m : Std.Entry) (others : List Std.Entry) (hperm : heap.Perm (m :: others))
    (x : Val) (t' : List Val) (hlm : ls[m.idx]? = some (m.head :: x :: t'))
    (ho : ∀ s, s ≠ m.src → σ'.items s = σ.items s) (hhas : σ'.items m.src = t') :
    HeapInv srcs kf σ' ({ m with head := x, key := kf x } :: others) (ls.modify m.idx List.tail) := by
  obtain ⟨hnd', hm_notin, hent, hemp⟩ := heapInv_others hsn hinv m others hperm ho
  have hm : m ∈ heap := hperm.mem_iff.mpr (by simp)
  obtain ⟨_, _, _, _, hsm⟩ := hinv.ent m hm
  refine ⟨?_, ?_, ?_⟩
  · simp only [List.map_cons, List.nodup_cons]; exact ⟨hm_notin, hnd'⟩
  · intro e he
    rcases List.mem_cons.mp he with rfl | he
    · exact ⟨t', by simp only; rw [getElem?_modify_tail_same ls m.idx _ hlm]; rfl, hhas, rfl, hsm⟩
    · exact hent e he
  · intro i l hl hno
    by_cases hi : i = m.idx
    · exact absurd hi.symm (hno { m with head := x, key := kf x } (by simp))
    · exact hemp i l hl hi (fun e he => hno e (by simp [he]))

/-! ## merge: facts about the specification -/

theorem pickFrom_all_empty (kf : Val → Val) (reverse : Bool) : ∀ (ls : List (List Val)) (i0 : Nat),
    (∀ l ∈ ls, l = []) → ListSpec.pickFrom kf reverse i0 ls = none := by
  intro ls
  induction ls with
  | nil => intro i0 _; rfl
  | cons l rest ih =>
    intro i0 h
    have hl := h l (by simp)
    subst hl
    simp [ListSpec.pickFrom, ih (i0 + 1) (fun l hl => h l (by simp [hl]))]

theorem mergeN_all_empty (kf : Val → Val) (reverse : Bool) (n : Nat) (ls : List (List Val))
    (h : ∀ l ∈ ls, l = []) : ListSpec.mergeN kf reverse n ls = [] := by
  cases n with
  | zero => rfl
  | succ n => simp [ListSpec.mergeN, pickFrom_all_empty kf reverse ls 0 h]

theorem length_le_sum : ∀ (ls : List (List Val)) (i : Nat) (l : List Val), ls[i]? = some l →
    l.length ≤ (ls.map List.length).sum := by
  intro ls
  induction ls with
  | nil => intro i l h; simp at h
  | cons l0 rest ih =>
    intro i l h
    cases i with
    | zero => simp at h; subst h; simp
    | succ i => simp at h; have := ih i l h; simp; omega

theorem pick_single (kf : Val → Val) (reverse : Bool) (ls : List (List Val)) (i : Nat) (x : Val) (t : List Val)
    (hi : ls[i]? = some (x :: t)) (hoth : ∀ j l', ls[j]? = some l' → j ≠ i → l' = [])
    (hk : ∀ l ∈ ls, ∀ x ∈ l, (kf x).key?.isSome = true) :
    ListSpec.pickFrom kf reverse 0 ls = some (i, x) :=
  pick_eq_of_min hk hi fun y u j hj hne => absurd (hoth j _ hj hne) (List.cons_ne_nil _ _)

theorem mergeN_single (kf : Val → Val) (reverse : Bool) : ∀ (l : List Val) (ls : List (List Val)) (n i : Nat),
    ls[i]? = some l → (∀ j l', ls[j]? = some l' → j ≠ i → l' = []) → l.length ≤ n →
    (∀ l ∈ ls, ∀ x ∈ l, (kf x).key?.isSome = true) →
    ListSpec.mergeN kf reverse n ls = l := by
  intro l
  induction l with
  | nil =>
    intro ls n i hi hoth _ _
    apply mergeN_all_empty
    intro l hl
    obtain ⟨j, hj⟩ := List.mem_iff_getElem?.mp hl
    by_cases h : j = i
    · subst h; rw [hi] at hj; simpa using hj.symm
    · exact hoth j l hj h
  | cons x t ih =>
    intro ls n i hi hoth hn hk
    cases n with
    | zero => simp at hn
    | succ n =>
      have hp := pick_single kf reverse ls i x t hi hoth hk
      simp only [ListSpec.mergeN, hp]
      rw [ih (ls.modify i List.tail) n i (getElem?_modify_tail_same ls i _ hi)
        (fun j l' hj hne => by
          rw [getElem?_modify_tail_ne ls i j (fun h => hne h.symm)] at hj
          exact hoth j l' hj hne)
        (by simpa using hn)
        (keys_modify_tail i hk)]

/-! ## merge: the run -/

theorem keyOf_run (fn : Option Nat) (q : List Val → Val) (hq : ∀ f, fn = some f → ∀ n a, F f n a = .ok (q a))
    (x : Val) (σ : St) : Run F D (Std.keyOf fn x) σ (.ok (ListSpec.keyFn fn q x)) [] σ := by
  cases fn with
  | none => exact Run.pure _ _
  | some f => exact Run.call (hq f rfl) [x] σ

/-- the entries `heads` collects: one per non-empty input, numbered by position -/
def entriesOf (kf : Val → Val) (I : Nat → List Val) : List Nat → Nat → List Std.Entry
  | [], _ => []
  | s :: rest, idx =>
    match I s with
    | [] => entriesOf kf I rest (idx + 1)
    | x :: _ => { head := x, key := kf x, src := s, idx := idx } :: entriesOf kf I rest (idx + 1)

theorem entriesOf_mem (kf : Val → Val) (I : Nat → List Val) : ∀ (l : List Nat) (idx : Nat) (e : Std.Entry),
    e ∈ entriesOf kf I l idx →
    ∃ k, e.idx = idx + k ∧ l[k]? = some e.src ∧ ∃ t, I e.src = e.head :: t ∧ e.key = kf e.head := by
  intro l
  induction l with
  | nil => intro idx e h; simp [entriesOf] at h
  | cons s rest ih =>
    intro idx e h
    have hrec : e ∈ entriesOf kf I rest (idx + 1) →
        ∃ k, e.idx = idx + k ∧ (s :: rest)[k]? = some e.src ∧ ∃ t, I e.src = e.head :: t ∧ e.key = kf e.head := by
      intro h
      obtain ⟨k, h1, h2, h3⟩ := ih (idx + 1) e h
      exact ⟨k + 1, by omega, by simpa using h2, h3⟩
    cases hI : I s with
    | nil => simp only [entriesOf, hI] at h; exact hrec h
    | cons x t =>
      simp only [entriesOf, hI, List.mem_cons] at h
      rcases h with rfl | h
      · exact ⟨0, by simp, by simp, t, hI, rfl⟩
      · exact hrec h

theorem entriesOf_nodup (kf : Val → Val) (I : Nat → List Val) : ∀ (l : List Nat) (idx : Nat),
    ((entriesOf kf I l idx).map (·.idx)).Nodup := by
  intro l
  induction l with
  | nil => intro idx; simp [entriesOf]
  | cons s rest ih =>
    intro idx
    cases hI : I s with
    | nil => simp only [entriesOf, hI]; exact ih (idx + 1)
    | cons x t =>
      simp only [entriesOf, hI, List.map_cons, List.nodup_cons]
      refine ⟨?_, ih (idx + 1)⟩
      intro hmem
      obtain ⟨e, he, hidx⟩ := List.mem_map.mp hmem
      obtain ⟨k, hk, _⟩ := entriesOf_mem kf I rest (idx + 1) e he
      omega

theorem entriesOf_complete (kf : Val → Val) (I : Nat → List Val) : ∀ (l : List Nat) (idx k s : Nat),
    l[k]? = some s → I s ≠ [] → ∃ e ∈ entriesOf kf I l idx, e.idx = idx + k := by
  intro l
  induction l with
  | nil => intro idx k s h; simp at h
  | cons s0 rest ih =>
    intro idx k s h hne
    cases k with
    | zero =>
      simp at h; subst h
      cases hI : I s0 with
      | nil => exact absurd hI hne
      | cons x t => exact ⟨_, by simp only [entriesOf, hI]; exact List.mem_cons_self, by simp⟩
    | succ k =>
      simp at h
      obtain ⟨e, he, hidx⟩ := ih (idx + 1) k s h hne
      refine ⟨e, ?_, by omega⟩
      cases hI : I s0 with
      | nil => simp only [entriesOf, hI]; exact he
      | cons x t => simp only [entriesOf, hI]; exact List.mem_cons_of_mem _ he

/-- `I` is what the sources of `l` hold on entry -/
theorem heads_run (fn : Option Nat) (q : List Val → Val) (I : Nat → List Val)
    (hq : ∀ f, fn = some f → ∀ n a, F f n a = .ok (q a)) :
    ∀ (l : List Nat) (idx : Nat) (acc : List Std.Entry) (σ : St), l.Nodup → (∀ s ∈ l, D s) →
      (∀ s ∈ l, σ.items s = I s) →
      Run F D (Std.heads fn l idx acc) σ (.ok (acc ++ entriesOf (ListSpec.keyFn fn q) I l idx)) [] (σ.tails l) := by
  intro l
  induction l with
  | nil =>
    intro idx acc σ _ _ _
    rw [Std.heads, St.tails_nil]
    simpa [entriesOf] using Run.pure acc σ
  | cons s rest ih =>
    intro idx acc σ hnd hD hag
    obtain ⟨hs_notin, hnd'⟩ := List.nodup_cons.mp hnd
    have hσ := hag s List.mem_cons_self
    have hD' : ∀ t ∈ rest, D t := fun t ht => hD t (List.mem_cons_of_mem _ ht)
    rw [Std.heads]
    cases hI : I s with
    | nil =>
      rw [St.tails_cons_nil _ (hσ.trans hI)]
      refine (Run.pull_nil (hD s List.mem_cons_self) (hσ.trans hI)).bind ?_
      simpa [entriesOf, hI] using ih (idx + 1) acc σ hnd' hD' fun t ht => hag t (List.mem_cons_of_mem _ ht)
    | cons x t =>
      rw [← St.set_tails (hσ.trans hI) hs_notin]
      refine (Run.pull_cons (hD s List.mem_cons_self) (hσ.trans hI)).bind ((keyOf_run fn q hq x _).bind ?_)
      have h := ih (idx + 1) (acc ++ [{ head := x, key := ListSpec.keyFn fn q x, src := s, idx := idx }])
        (σ.set s t) hnd' hD' fun u hu => by
          rw [σ.set_ne t (show u ≠ s from fun h => hs_notin (h ▸ hu))]
          exact hag u (List.mem_cons_of_mem _ hu)
      rw [List.append_assoc] at h
      simp only [entriesOf, hI]
      exact h

theorem heapInv_init (srcs : List Nat) (kf : Val → Val) (I : Nat → List Val) (σ : St)
    (hh : ∀ s ∈ srcs, σ.items s = (I s).tail) :
    HeapInv srcs kf σ (entriesOf kf I srcs 0) (srcs.map I) := by
  refine ⟨entriesOf_nodup kf I srcs 0, ?_, ?_⟩
  · intro e he
    obtain ⟨k, hk, hsk, t, hI, hkey⟩ := entriesOf_mem kf I srcs 0 e he
    have hk' : e.idx = k := by omega
    refine ⟨t, by rw [hk', List.getElem?_map, hsk]; simp [hI], ?_, hkey, by rw [hk']; exact hsk⟩
    have := hh e.src (List.mem_of_getElem? hsk)
    rwa [hI] at this
  · intro i l hl hno
    rw [List.getElem?_map] at hl
    cases hs : srcs[i]? with
    | none => rw [hs] at hl; simp at hl
    | some s =>
      rw [hs] at hl; simp at hl
      apply Classical.byContradiction
      intro hne
      obtain ⟨e, he, hidx⟩ := entriesOf_complete kf I srcs 0 i s hs (by rw [hl]; exact hne)
      exact hno e he (by omega)

theorem mergeLoop_run (fn : Option Nat) (q : List Val → Val) (reverse : Bool)
    (srcs : List Nat) (hsn : srcs.Nodup) (hD : ∀ s ∈ srcs, D s)
    (hq : ∀ f, fn = some f → ∀ n a, F f n a = .ok (q a)) :
    ∀ (n : Nat) (heap : List Std.Entry) (ls : List (List Val)) (fuel : Nat) (σ : St), σ.cons = .run 0 .exhaust →
      HeapInv srcs (ListSpec.keyFn fn q) σ heap ls →
      (∀ l ∈ ls, ∀ x ∈ l, (ListSpec.keyFn fn q x).key?.isSome = true) →
      (ls.map List.length).sum ≤ n → n < fuel →
      Ends F D (Std.mergeLoop fn reverse heap fuel) σ (.ok ()) (ListSpec.mergeN (ListSpec.keyFn fn q) reverse n ls) := by
  intro n
  induction n with
  | zero =>
    intro heap ls fuel σ _ hinv hk hn hf
    obtain _ | fuel := fuel
    · exact absurd hf (Nat.not_lt_zero _)
    · cases heap with
      | nil => exact (Run.pure _ _).ends
      | cons e rest =>
        obtain ⟨t, hle, _⟩ := hinv.ent e (by simp)
        have := length_le_sum ls e.idx _ hle
        simp at this; omega
  | succ n ih =>
    intro heap ls fuel σ hc hinv hk hn hf
    obtain _ | fuel := fuel
    · exact absurd hf (Nat.not_lt_zero _)
    · match heap, hinv with
      | [], hinv =>
        have he : ∀ l ∈ ls, l = [] := fun l hl => by
          obtain ⟨j, hj⟩ := List.mem_iff_getElem?.mp hl
          exact hinv.emp j l hj (by simp)
        rw [mergeN_all_empty _ _ _ _ he]
        exact (Run.pure _ _).ends
      | [e], hinv =>
        obtain ⟨t, hle, hhas, _, hsrc⟩ := hinv.ent e (by simp)
        have hlen := length_le_sum ls e.idx _ hle
        simp at hlen
        rw [mergeN_single (ListSpec.keyFn fn q) reverse (e.head :: t) ls (n + 1) e.idx hle
          (fun j l' hj hne => hinv.emp j l' hj (by simp; exact fun h => hne h.symm)) (by simp; omega) hk]
        exact Ends.yield (passThrough_run (hD _ (List.mem_of_getElem? hsrc)) t fuel σ hc hhas (by omega)).ends hc
      | e1 :: e2 :: rest, hinv =>
        obtain ⟨m, others, hp, hperm, hmin⟩ := popMin_spec reverse (e1 :: e2 :: rest) (heap_keys hinv hk)
          hinv.nd (by simp)
        have hpick := pick_agrees hinv hk m others hperm hmin
        have hm : m ∈ e1 :: e2 :: rest := hperm.mem_iff.mpr (by simp)
        obtain ⟨t, hlm, hhas, _, hsrc⟩ := hinv.ent m hm
        have hDm := hD _ (List.mem_of_getElem? hsrc)
        have hsum := sum_modify_tail ls m.idx m.head t hlm
        have hk' := keys_modify_tail (kf := ListSpec.keyFn fn q) m.idx hk
        have hspec : ListSpec.mergeN (ListSpec.keyFn fn q) reverse (n + 1) ls
            = m.head :: ListSpec.mergeN (ListSpec.keyFn fn q) reverse n (ls.modify m.idx List.tail) := by
          simp [ListSpec.mergeN, hpick]
        rw [hspec]
        simp only [Std.mergeLoop, hp]
        cases t with
        | nil =>
          have hinv' := heapInv_drop hsn hinv m others hperm hlm (σ' := σ) (fun _ _ => rfl)
          exact Ends.yield ((Run.pull_nil hDm hhas).andThen
            (ih others _ fuel σ hc hinv' hk' (by omega) (by omega))) hc
        | cons x t' =>
          have hinv' := heapInv_replace hsn hinv m others hperm x t' hlm (σ' := σ.set m.src t')
            (fun s hs => σ.set_ne t' hs) (σ.set_same _ _)
          exact Ends.yield ((Run.pull_cons hDm hhas).andThen ((keyOf_run fn q hq x _).andThen
            (ih _ _ fuel (σ.set m.src t') hc hinv' hk' (by omega) (by omega)))) hc

theorem merge_run (fn : Option Nat) (q : List Val → Val) (reverse : Bool)
    (srcs : List Nat) (hsn : srcs.Nodup) (hD : ∀ s ∈ srcs, D s)
    (hq : ∀ f, fn = some f → ∀ n a, F f n a = .ok (q a))
    (fuel : Nat) (σ : St) (hc : σ.cons = .run 0 .exhaust)
    (hk : ∀ s ∈ srcs, ∀ x ∈ σ.items s, (ListSpec.keyFn fn q x).key?.isSome = true)
    (hf : ((srcs.map σ.items).map List.length).sum < fuel) :
    Ends F D (Std.merge fn reverse srcs fuel) σ (.ok ())
      (ListSpec.merge (ListSpec.keyFn fn q) reverse (srcs.map σ.items)) := by
  have hhd := heads_run (F := F) (D := D) fn q σ.items hq srcs 0 [] σ hsn hD (fun _ _ => rfl)
  rw [List.nil_append] at hhd
  exact hhd.andThen (mergeLoop_run fn q reverse srcs hsn hD hq _ _ _ fuel (σ.tails srcs) hc
    (heapInv_init srcs _ σ.items _ fun s hs => σ.tails_mem hs)
    (fun l hl x hx => by
      obtain ⟨s, hs, rfl⟩ := List.mem_map.mp hl
      exact hk s hs x hx)
    (Nat.le_refl _) hf)

/-! ## merge on sorted inputs is a stable merge (pure list facts about the specification) -/

theorem flatten_modify_tail_perm : ∀ (ls : List (List Val)) (i : Nat) (x : Val) (t : List Val),
    ls[i]? = some (x :: t) → ls.flatten.Perm (x :: (ls.modify i List.tail).flatten) := by
  intro ls
  induction ls with
  | nil => intro i x t h; simp at h
  | cons l0 rest ih =>
    intro i x t h
    cases i with
    | zero => simp at h; subst h; simp [List.modify_zero_cons]
    | succ i =>
      simp at h
      have := ih i x t h
      simp only [List.modify_succ_cons, List.flatten_cons]
      exact (List.Perm.append_left l0 this).trans List.perm_middle

theorem filter_flatten_hit (p : Val → Bool) : ∀ (ls : List (List Val)) (i : Nat) (x : Val) (t : List Val),
    ls[i]? = some (x :: t) → (∀ j, j < i → ∀ l, ls[j]? = some l → ∀ y ∈ l, p y = false) → p x = true →
    ls.flatten.filter p = x :: (ls.modify i List.tail).flatten.filter p := by
  intro ls
  induction ls with
  | nil => intro i x t h; simp at h
  | cons l0 rest ih =>
    intro i x t h hbefore hx
    cases i with
    | zero => simp at h; subst h; simp [List.modify_zero_cons, hx]
    | succ i =>
      simp at h
      have h0 : l0.filter p = [] := by
        apply List.filter_eq_nil_iff.mpr
        intro y hy
        have := hbefore 0 (by omega) l0 (by simp) y hy
        simp [this]
      have := ih i x t h (fun j hj l hl y hy => hbefore (j + 1) (by omega) l (by simpa using hl) y hy) hx
      simp only [List.modify_succ_cons, List.flatten_cons, List.filter_append, h0, List.nil_append, this]

theorem filter_flatten_miss (p : Val → Bool) : ∀ (ls : List (List Val)) (i : Nat) (x : Val) (t : List Val),
    ls[i]? = some (x :: t) → p x = false →
    ls.flatten.filter p = (ls.modify i List.tail).flatten.filter p := by
  intro ls
  induction ls with
  | nil => intro i x t h; simp at h
  | cons l0 rest ih =>
    intro i x t h hx
    cases i with
    | zero => simp at h; subst h; simp [List.modify_zero_cons, hx]
    | succ i =>
      simp at h
      have := ih i x t h hx
      simp only [List.modify_succ_cons, List.flatten_cons, List.filter_append, this]

theorem sum_zero_all_empty (ls : List (List Val)) (h : (ls.map List.length).sum = 0) : ∀ l ∈ ls, l = [] := by
  intro l hl
  obtain ⟨i, hi⟩ := List.mem_iff_getElem?.mp hl
  have := length_le_sum ls i l hi
  exact List.length_eq_zero_iff.mp (by omega)

theorem flatten_all_empty (ls : List (List Val)) (h : ∀ l ∈ ls, l = []) : ls.flatten = [] := by
  induction ls with
  | nil => rfl
  | cons l rest ih =>
    have := h l (by simp)
    subst this
    simpa using ih (fun l hl => h l (by simp [hl]))

theorem mergeN_perm (kf : Val → Val) (reverse : Bool) : ∀ (n : Nat) (ls : List (List Val)),
    (∀ l ∈ ls, ∀ x ∈ l, (kf x).key?.isSome = true) → (ls.map List.length).sum ≤ n →
    (ListSpec.mergeN kf reverse n ls).Perm ls.flatten := by
  intro n
  induction n with
  | zero =>
    intro ls _ hn
    rw [flatten_all_empty ls (sum_zero_all_empty ls (by omega))]
    exact List.Perm.refl _
  | succ n ih =>
    intro ls hk hn
    cases hpk : ListSpec.pickFrom kf reverse 0 ls with
    | none =>
      rw [flatten_all_empty ls (pick_none hk hpk)]
      simp [ListSpec.mergeN, hpk]
    | some r =>
      obtain ⟨i, x⟩ := r
      obtain ⟨⟨t, hli⟩, _⟩ := pick_some hk hpk
      have hsum := sum_modify_tail ls i x t hli
      have := ih (ls.modify i List.tail) (keys_modify_tail i hk) (by omega)
      simp only [ListSpec.mergeN, hpk]
      exact (List.Perm.cons x this).trans (flatten_modify_tail_perm ls i x t hli).symm

/-- everything still to come ranks at least the chosen head; what comes from earlier inputs ranks higher -/
theorem pick_le_all (kf : Val → Val) (reverse : Bool) (ls : List (List Val))
    (hk : ∀ l ∈ ls, ∀ x ∈ l, (kf x).key?.isSome = true)
    (hs : ∀ l ∈ ls, l.Pairwise (fun a b => rk reverse (kf a) ≤ rk reverse (kf b)))
    (i : Nat) (x : Val) (hpk : ListSpec.pickFrom kf reverse 0 ls = some (i, x)) :
    ∀ j l, ls[j]? = some l → ∀ y ∈ l, rk reverse (kf x) ≤ rk reverse (kf y)
      ∧ (j < i → rk reverse (kf x) < rk reverse (kf y)) := by
  obtain ⟨⟨t, hli⟩, hb⟩ := pick_some hk hpk
  intro j l hl y hy
  by_cases hji : j = i
  · subst hji
    rw [hli] at hl; simp at hl; subst hl
    refine ⟨?_, fun h => absurd h (Nat.lt_irrefl _)⟩
    rcases List.mem_cons.mp hy with rfl | hy
    · exact Int.le_refl _
    · exact (List.pairwise_cons.mp (hs _ (List.mem_of_getElem? hli))).1 y hy
  · cases l with
    | nil => simp at hy
    | cons y0 u =>
      have h1 := hb y0 u j hl hji
      have h2 : rk reverse (kf y0) ≤ rk reverse (kf y) := by
        rcases List.mem_cons.mp hy with rfl | hy
        · exact Int.le_refl _
        · exact (List.pairwise_cons.mp (hs _ (List.mem_of_getElem? hl))).1 y hy
      unfold lexLt at h1
      refine ⟨by omega, fun h => by omega⟩

theorem mergeN_sorted (kf : Val → Val) (reverse : Bool) : ∀ (n : Nat) (ls : List (List Val)),
    (∀ l ∈ ls, ∀ x ∈ l, (kf x).key?.isSome = true) →
    (∀ l ∈ ls, l.Pairwise (fun a b => rk reverse (kf a) ≤ rk reverse (kf b))) →
    (ls.map List.length).sum ≤ n →
    (ListSpec.mergeN kf reverse n ls).Pairwise (fun a b => rk reverse (kf a) ≤ rk reverse (kf b)) := by
  intro n
  induction n with
  | zero => intro ls _ _ _; simp [ListSpec.mergeN]
  | succ n ih =>
    intro ls hk hs hn
    cases hpk : ListSpec.pickFrom kf reverse 0 ls with
    | none => simp [ListSpec.mergeN, hpk]
    | some r =>
      obtain ⟨i, x⟩ := r
      obtain ⟨⟨t, hli⟩, _⟩ := pick_some hk hpk
      have hsum := sum_modify_tail ls i x t hli
      have hk' := keys_modify_tail (kf := kf) i hk
      simp only [ListSpec.mergeN, hpk]
      refine List.pairwise_cons.mpr ⟨?_, ih _ hk' (sorted_modify_tail i hs) (by omega)⟩
      intro y hy
      have hy' : y ∈ (ls.modify i List.tail).flatten :=
        (mergeN_perm kf reverse n _ hk' (by omega)).mem_iff.mp hy
      obtain ⟨l', hl', hyl⟩ := List.mem_flatten.mp hy'
      obtain ⟨l0, hl0, hsub⟩ := mem_modify_tail ls i l' hl'
      obtain ⟨j, hj⟩ := List.mem_iff_getElem?.mp hl0
      exact (pick_le_all kf reverse ls hk hs i x hpk j l0 hj y (hsub.subset hyl)).1

theorem mergeN_stable (kf : Val → Val) (reverse : Bool) (k : Int) : ∀ (n : Nat) (ls : List (List Val)),
    (∀ l ∈ ls, ∀ x ∈ l, (kf x).key?.isSome = true) →
    (∀ l ∈ ls, l.Pairwise (fun a b => rk reverse (kf a) ≤ rk reverse (kf b))) →
    (ls.map List.length).sum ≤ n →
    (ListSpec.mergeN kf reverse n ls).filter (fun x => rk reverse (kf x) == k)
      = ls.flatten.filter (fun x => rk reverse (kf x) == k) := by
  intro n
  induction n with
  | zero =>
    intro ls _ _ hn
    rw [flatten_all_empty ls (sum_zero_all_empty ls (by omega))]
    simp [ListSpec.mergeN]
  | succ n ih =>
    intro ls hk hs hn
    cases hpk : ListSpec.pickFrom kf reverse 0 ls with
    | none =>
      rw [flatten_all_empty ls (pick_none hk hpk)]
      simp [ListSpec.mergeN, hpk]
    | some r =>
      obtain ⟨i, x⟩ := r
      obtain ⟨⟨t, hli⟩, _⟩ := pick_some hk hpk
      have hsum := sum_modify_tail ls i x t hli
      have hrec := ih _ (keys_modify_tail (kf := kf) i hk) (sorted_modify_tail i hs) (by omega)
      simp only [ListSpec.mergeN, hpk]
      by_cases hx : rk reverse (kf x) = k
      · have hxb : (rk reverse (kf x) == k) = true := by simp [hx]
        simp only [List.filter_cons, hxb, ↓reduceIte]
        rw [hrec]
        rw [filter_flatten_hit (fun x => rk reverse (kf x) == k) ls i x t hli ?_ hxb]
        intro j hj l hl y hy
        have := (pick_le_all kf reverse ls hk hs i x hpk j l hl y hy).2 hj
        have hne : ¬ rk reverse (kf y) = k := by omega
        simp [hne]
      · have hxb : (rk reverse (kf x) == k) = false := by simp [hx]
        simp only [List.filter_cons, hxb, Bool.false_eq_true, ↓reduceIte]
        rw [hrec]
        exact (filter_flatten_miss (fun x => rk reverse (kf x) == k) ls i x t hli hxb).symm

/-- On inputs each sorted by key (descending for `reverse`), the greedy merge is a stable merge: a
    permutation of the concatenation, sorted the same way, with equal keys in the order of the concatenation. -/
theorem merge_sorted_stable (kf : Val → Val) (reverse : Bool) (ls : List (List Val))
    (hk : ∀ l ∈ ls, ∀ x ∈ l, (kf x).key?.isSome = true)
    (hsorted : ∀ l ∈ ls, l.Pairwise (fun a b =>
      Std.keyLe (kf (bif reverse then b else a)) (kf (bif reverse then a else b)) = true)) :
    (ListSpec.merge kf reverse ls).Perm ls.flatten
    ∧ (ListSpec.merge kf reverse ls).Pairwise (fun a b =>
        Std.keyLe (kf (bif reverse then b else a)) (kf (bif reverse then a else b)) = true)
    ∧ ∀ k : Int, (ListSpec.merge kf reverse ls).filter (fun x => (kf x).key? == some k)
        = ls.flatten.filter (fun x => (kf x).key? == some k) := by
  have hs' : ∀ l ∈ ls, l.Pairwise (fun a b => rk reverse (kf a) ≤ rk reverse (kf b)) := fun l hl =>
    (hsorted l hl).imp_of_mem fun ha hb h => (rk_le kf reverse (hk l hl _ ha) (hk l hl _ hb)).mpr h
  have hperm := mergeN_perm kf reverse _ ls hk (Nat.le_refl _)
  have hkey_flat : ∀ x ∈ ls.flatten, (kf x).key?.isSome = true := by
    intro x hx
    obtain ⟨l, hl, hxl⟩ := List.mem_flatten.mp hx
    exact hk l hl x hxl
  have hkey_out : ∀ x ∈ ListSpec.merge kf reverse ls, (kf x).key?.isSome = true :=
    fun x hx => hkey_flat x (hperm.mem_iff.mp hx)
  refine ⟨hperm, ?_, fun k => ?_⟩
  · exact (mergeN_sorted kf reverse _ ls hk hs' (Nat.le_refl _)).imp_of_mem
      fun ha hb h => (rk_le kf reverse (hkey_out _ ha) (hkey_out _ hb)).mp h
  · rw [List.filter_congr fun x hx => rk_beq reverse (hkey_out x hx) k,
      List.filter_congr fun x hx => rk_beq reverse (hkey_flat x hx) k]
    exact mergeN_stable kf reverse _ _ ls hk hs' (Nat.le_refl _)

/-! ## what `pull`, `call`, `yieldV` do to the sources, in *every* world (faults, any consumer) -/

theorem pull_some_shrinks {s : Nat} {w w' : World} {x : Val} (h : pull s w = (.ok (some x), w')) :
    (w'.srcs s).script.length + 1 = (w.srcs s).script.length := by
  unfold pull at h
  by_cases hl : (w.srcs s).status.live = true
  · simp only [hl, if_true] at h
    cases hs : (w.srcs s).script with
    | nil => rw [hs] at h; simp at h
    | cons r rest =>
      rw [hs] at h
      cases r with
      | item v =>
        simp only [Prod.mk.injEq] at h
        obtain ⟨_, rfl⟩ := h
        simp [World.pushVis, World.setSrc]
      | err e => simp at h
  · simp only [hl] at h
    by_cases hv : (w.srcs s).kind.repollVisible = true
    · simp [hv] at h
    · simp [hv] at h

theorem call_srcs (f : Nat) (args : List Val) (w : World) : (call f args w).2.srcs = w.srcs := by
  cases h : w.fns f (w.calls f) args <;> simp [call, h, World.pushVis]

theorem yieldV_srcs (v : Val) (w : World) : (yieldV v w).2.srcs = w.srcs := by
  unfold yieldV
  cases hc : w.cons with
  | done => simp [World.pushVis]
  | run n fin =>
    cases n with
    | succ n => simp [World.pushVis]
    | zero => cases fin <;> simp [World.pushVis]

/-! ## sanity of the hand-written specifications -/

theorem chunksN_flatten (n : Nat) (hn : 1 ≤ n) : ∀ (k : Nat) (l : List Val), l.length ≤ k →
    (ListSpec.chunksN n k l).flatten = l := by
  intro k
  induction k with
  | zero => intro l hl; have : l = [] := by simpa using hl
            subst this; rfl
  | succ k ih =>
    intro l hl
    cases hl' : l with
    | nil => simp [ListSpec.chunksN]
    | cons x xs =>
      rw [← hl']
      have hne : l.isEmpty = false := by simp [hl']
      have hlen : 1 ≤ l.length := by simp [hl']
      simp only [ListSpec.chunksN, hne, Bool.false_eq_true, if_false, List.flatten_cons]
      rw [ih (l.drop n) (by simp; omega), List.take_append_drop]

/-- element `i` of `cycleTake items m cur`: from `cur` while it lasts, then `items` round and round -/
theorem cycleTake_getElem? (items : List Val) (hne : items ≠ []) : ∀ (m : Nat) (cur : List Val) (i : Nat), i < m →
    (ListSpec.cycleTake items m cur)[i]? =
      if i < cur.length then cur[i]? else items[(i - cur.length) % items.length]? := by
  intro m
  induction m with
  | zero => intro cur i hi; omega
  | succ m ih =>
    intro cur i hi
    cases cur with
    | cons x c =>
      cases i with
      | zero => simp [ListSpec.cycleTake]
      | succ i =>
        simp only [ListSpec.cycleTake, List.getElem?_cons_succ, List.length_cons]
        rw [ih c i (by omega)]
        by_cases h : i < c.length
        · simp [h]
        · have h' : ¬ i + 1 < c.length + 1 := by omega
          simp only [h, h', if_false]
          rw [show i + 1 - (c.length + 1) = i - c.length by omega]
    | nil =>
      cases hi' : items with
      | nil => exact absurd hi' hne
      | cons x rest =>
        rw [hi'] at ih
        cases i with
        | zero => simp [ListSpec.cycleTake]
        | succ i =>
          simp only [ListSpec.cycleTake, List.getElem?_cons_succ, List.length_nil, Nat.not_lt_zero, if_false,
            Nat.sub_zero, List.length_cons]
          rw [ih rest i (by omega)]
          by_cases h : i < rest.length
          · have h1 : (i + 1) % (rest.length + 1) = i + 1 := Nat.mod_eq_of_lt (by omega)
            simp [h, h1]
          · simp only [h, if_false, List.length_cons]
            have e : i + 1 = (i - rest.length) + (rest.length + 1) := by omega
            conv => rhs; rw [e, Nat.add_mod_right]

end AsyncVerif.V1
