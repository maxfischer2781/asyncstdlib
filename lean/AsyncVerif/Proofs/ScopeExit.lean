import AsyncVerif.Machines.ScopeExit
/-!
# Leaving a nest of `scoped_iter` blocks: the lemmas behind `Properties/C08ScopeExit.lean`

Pulls: what a pull on handle `k` may change (`Pulled`) and what it can see (`AgreeUpTo`, `pullH_agree`).
`__aexit__`: below the outermost scope it retires the scope's own handle and returns `None`, whichever
order its two awaits are in (`aexit_inner`, `aexitSwapped_inner`).  So leaving the whole nest is "all inner
scopes" (`leaveN_inner`) followed by the outermost `__aexit__` (`exit_split`), the one place where the order
matters: `exitAll_spec` against `exitSwapped_fail_spec`.
The nest the harness builds is a reachable state (`nest_spec`), with every wrapper open while the items last
(`nest_open`).
-/
namespace AsyncVerif.ScopeExit

theorem getD_set_false (l : List Bool) (k i : Nat) :
    (l.set k false).getD i false = if i = k then false else l.getD i false := by
  simp only [List.getD_eq_getElem?_getD, List.getElem?_set]
  by_cases h : k = i
  · subst h
    by_cases hl : k < l.length <;> simp [hl]
  · rw [if_neg h, if_neg (Ne.symm h)]

theorem getD_of_length_le (l : List Bool) (i : Nat) (h : l.length ≤ i) : l.getD i false = false := by
  rw [List.getD_eq_getElem?_getD, List.getElem?_eq_none h]; rfl

@[simp] theorem wopen_finish (s : St) (k i : Nat) :
    (s.finish k).wopen i = if i = k then false else s.wopen i :=
  getD_set_false s.wrappers k i

@[simp] theorem wopen_closeWrapper (s : St) (k i : Nat) :
    (closeWrapper k s).wopen i = if i = k then false else s.wopen i := by
  simp only [St.wopen, closeWrapper, getD_set_false]

/-- the handles of scopes that were already left are retired (invariant of every reachable state) -/
def Retired (s : St) : Prop := ∀ i, s.active ≤ i → s.wopen i = false

theorem Retired.all_closed {s t : St} (hr : Retired s) (hlt : ∀ i, i < s.active → t.wopen i = false)
    (hge : ∀ i, s.active ≤ i → t.wopen i = s.wopen i) (i : Nat) : t.wopen i = false := by
  by_cases c : i < s.active
  · exact hlt i c
  · rw [hge i (Nat.le_of_not_lt c)]; exact hr i (Nat.le_of_not_lt c)

/-- what a wrapper generator does with its parent's answer: an item is passed on; when the parent yields
    nothing the generator expression runs to its end -/
def passOn (k : Nat) (r : St × Option Val) : St × Option Val :=
  match r with
  | (s1, some v) => (s1, some v)
  | (s1, none) => (s1.finish k, none)

/-- `__anext__` of what handle `k` was opened on: the iterator, or handle `k-1` -/
def pullParent : Nat → St → St × Option Val
  | 0, s => pullU s
  | k + 1, s => pullH k s

theorem pullH_eq (k : Nat) (s : St) :
    pullH k s = if s.wopen k then passOn k (pullParent k s) else (s, none) := by
  cases k <;> rfl

theorem pullH_closed (k : Nat) (s : St) (h : s.wopen k = false) : pullH k s = (s, none) := by
  rw [pullH_eq, h]; rfl

/-- `s'` arises from `s` by pulls: the iterator may have advanced and wrappers may have finished, nothing
    else has changed -/
structure Pulled (s s' : St) : Prop where
  active : s'.active = s.active
  beh : s'.beh = s.beh
  uclosed : s'.uclosed = s.uclosed
  closes : s'.closes = s.closes
  log : s'.log = s.log
  wopen : ∀ i, s'.wopen i = true → s.wopen i = true

theorem Pulled.refl (s : St) : Pulled s s := ⟨rfl, rfl, rfl, rfl, rfl, fun _ h => h⟩

theorem Pulled.trans {s s' s'' : St} (h : Pulled s s') (h' : Pulled s' s'') : Pulled s s'' :=
  ⟨h'.active.trans h.active, h'.beh.trans h.beh, h'.uclosed.trans h.uclosed, h'.closes.trans h.closes,
    h'.log.trans h.log, fun i hi => h.wopen i (h'.wopen i hi)⟩

theorem Pulled.retired {s s' : St} (h : Pulled s s') (hr : Retired s) : Retired s' := by
  intro i hi
  cases hw : s'.wopen i
  · rfl
  · rw [h.active] at hi
    have := hr i hi
    rw [h.wopen i hw] at this
    exact this

theorem pulled_finish (s : St) (k : Nat) : Pulled s (s.finish k) := by
  refine ⟨rfl, rfl, rfl, rfl, rfl, fun i hi => ?_⟩
  rw [wopen_finish] at hi
  split at hi
  · cases hi
  · exact hi

theorem pulled_pullU (s : St) : Pulled s (pullU s).1 := by
  unfold pullU
  split
  · exact .refl s
  · split
    · exact .refl s
    · exact ⟨rfl, rfl, rfl, rfl, rfl, fun _ h => h⟩

theorem pulled_passOn {s : St} (k : Nat) {r : St × Option Val} (h : Pulled s r.1) : Pulled s (passOn k r).1 := by
  obtain ⟨s1, _ | v⟩ := r
  · exact h.trans (pulled_finish s1 k)
  · exact h

theorem pulled_pullH (k : Nat) (s : St) : Pulled s (pullH k s).1 := by
  induction k with
  | zero =>
    rw [pullH_eq]
    split
    · exact pulled_passOn 0 (pulled_pullU s)
    · exact .refl s
  | succ k ih =>
    rw [pullH_eq]
    split
    · exact pulled_passOn (k + 1) ih
    · exact .refl s

theorem pullH_retired (k : Nat) (s : St) (h : Retired s) : Retired (pullH k s).1 :=
  (pulled_pullH k s).retired h

/-- a handle all of whose wrappers down to the iterator are open passes the iterator's next item on -/
theorem pullH_item (k : Nat) (s : St) (c : Nat) (ho : ∀ j, j ≤ k → s.wopen j = true)
    (hu : s.uclosed = false) (hn : s.n = c + 1) :
    pullH k s = ({ s with n := c, pos := s.pos + 1 }, some s.pos) := by
  induction k with
  | zero =>
    rw [pullH_eq, ho 0 (Nat.le_refl _)]
    simp only [pullParent, pullU, hu, hn]
    rfl
  | succ k ih =>
    rw [pullH_eq, ho (k + 1) (Nat.le_refl _)]
    show passOn (k + 1) (pullH k s) = _
    rw [ih (fun j hj => ho j (Nat.le_succ_of_le hj))]
    rfl

theorem takeH_closed (k c : Nat) (s : St) (h : s.wopen k = false) : takeH k c s = (s, []) := by
  cases c
  · rfl
  · simp only [takeH, pullH_closed k s h]

/-- a consumer of such a handle gets the iterator's next `c` items -/
theorem takeH_open (k c : Nat) (s : St) (ho : ∀ j, j ≤ k → s.wopen j = true)
    (hu : s.uclosed = false) (hn : c ≤ s.n) :
    takeH k c s = ({ s with n := s.n - c, pos := s.pos + c }, List.range' s.pos c) := by
  induction c generalizing s with
  | zero => rfl
  | succ c ih =>
    obtain ⟨m, hm⟩ : ∃ m, s.n = m + 1 := ⟨s.n - 1, by omega⟩
    simp only [takeH, pullH_item k s m ho hu hm, List.range'_succ]
    rw [ih { s with n := m, pos := s.pos + 1 } ho hu (by show c ≤ m; omega)]
    show (({ s with n := m - c, pos := s.pos + 1 + c } : St), _) = _
    rw [hm, Nat.add_sub_add_right, Nat.add_assoc, Nat.add_comm 1 c]

theorem pulled_takeH (k c : Nat) (s : St) : Pulled s (takeH k c s).1 := by
  induction c generalizing s with
  | zero => exact .refl s
  | succ c ih =>
    have hp := pulled_pullH k s
    unfold takeH
    split
    · next s1 v he =>
      rw [he] at hp
      exact hp.trans (ih s1)
    · next s1 he =>
      rw [he] at hp
      exact hp

/-- two states that agree on the iterator and on the wrappers `0 … k` -/
def AgreeUpTo (k : Nat) (s t : St) : Prop :=
  (∀ j, j ≤ k → s.wopen j = t.wopen j) ∧ s.n = t.n ∧ s.pos = t.pos ∧ s.uclosed = t.uclosed

theorem agree_pullU {K : Nat} {s t : St} (h : AgreeUpTo K s t) :
    (pullU s).2 = (pullU t).2 ∧ AgreeUpTo K (pullU s).1 (pullU t).1 := by
  obtain ⟨hw, hn, hp, hu⟩ := h
  unfold pullU
  rw [hu, hn, hp]
  split
  · exact ⟨rfl, hw, hn, hp, hu⟩
  · split
    · exact ⟨rfl, hw, hn, hp, hu⟩
    · exact ⟨rfl, hw, rfl, rfl, rfl⟩

theorem agree_passOn {K : Nat} (k : Nat) {r r' : St × Option Val} (h2 : r.2 = r'.2) (h : AgreeUpTo K r.1 r'.1) :
    (passOn k r).2 = (passOn k r').2 ∧ AgreeUpTo K (passOn k r).1 (passOn k r').1 := by
  obtain ⟨s1, o⟩ := r
  obtain ⟨t1, o'⟩ := r'
  cases h2
  cases o with
  | some v => exact ⟨rfl, h⟩
  | none =>
    refine ⟨rfl, fun j hj => ?_, h.2⟩
    show (s1.finish k).wopen j = (t1.finish k).wopen j
    rw [wopen_finish, wopen_finish, h.1 j hj]

/-- a pull on handle `k` sees nothing but the iterator and the wrappers `0 … k` -/
theorem pullH_agree_le {k K : Nat} (hk : k ≤ K) (s t : St) (h : AgreeUpTo K s t) :
    (pullH k s).2 = (pullH k t).2 ∧ AgreeUpTo K (pullH k s).1 (pullH k t).1 := by
  induction k with
  | zero =>
    rw [pullH_eq, pullH_eq, h.1 0 hk]
    split
    · exact agree_passOn 0 (agree_pullU h).1 (agree_pullU h).2
    · exact ⟨rfl, h⟩
  | succ k ih =>
    rw [pullH_eq, pullH_eq, h.1 (k + 1) hk]
    split
    · exact agree_passOn (k + 1) (ih (Nat.le_of_succ_le hk)).1 (ih (Nat.le_of_succ_le hk)).2
    · exact ⟨rfl, h⟩

theorem pullH_agree (k : Nat) (s t : St) (h : AgreeUpTo k s t) :
    (pullH k s).2 = (pullH k t).2 ∧ AgreeUpTo k (pullH k s).1 (pullH k t).1 :=
  pullH_agree_le (Nat.le_refl k) s t h

/-- the state after `__aexit__` of an inner scope `a` -/
def retire1 (a : Nat) (s : St) : St :=
  { s with wrappers := s.wrappers.set a false, log := s.log ++ [.wclose a], active := a }

@[simp] theorem retire1_active (a : Nat) (s : St) : (retire1 a s).active = a := rfl
@[simp] theorem retire1_closes (a : Nat) (s : St) : (retire1 a s).closes = s.closes := rfl
@[simp] theorem retire1_n (a : Nat) (s : St) : (retire1 a s).n = s.n := rfl
@[simp] theorem retire1_pos (a : Nat) (s : St) : (retire1 a s).pos = s.pos := rfl
@[simp] theorem retire1_beh (a : Nat) (s : St) : (retire1 a s).beh = s.beh := rfl
@[simp] theorem retire1_uclosed (a : Nat) (s : St) : (retire1 a s).uclosed = s.uclosed := rfl
@[simp] theorem retire1_log (a : Nat) (s : St) : (retire1 a s).log = s.log ++ [.wclose a] := rfl
@[simp] theorem retire1_wopen (a : Nat) (s : St) (i : Nat) :
    (retire1 a s).wopen i = if i = a then false else s.wopen i :=
  getD_set_false s.wrappers a i

theorem aexit_inner (s : St) (a : Nat) (h : s.active = a + 2) :
    aexit s = (retire1 (a + 1) s, none) := by
  simp [aexit, h, closeTarget, closeWrapper, retire1]

theorem aexitSwapped_inner (s : St) (a : Nat) (h : s.active = a + 2) : aexitSwapped s = aexit s := by
  simp [aexit, aexitSwapped, h, closeTarget, closeWrapper]

theorem closeU_eq (k : Nat) (s : St) :
    closeU k s = ({ s with closes := s.closes + 1, log := s.log ++ [.uclose k],
                           uclosed := s.uclosed || s.beh.failure.isNone }, s.beh.failure) := by
  unfold closeU
  cases s.beh.failure <;> simp

/-- the outermost scope's `__aexit__`, as written -/
theorem aexit_outer (s : St) (h : s.active = 1) :
    aexit s = closeU 0 { closeWrapper 0 s with active := 0 } := by
  simp only [aexit, h, closeTarget, if_true]

theorem leaveOneWith_eq (ax : St → St × Option Leave) (m : Leave) (s : St) :
    leaveOneWith ax m s = ((ax s).1, (ax s).2.getD m) := by
  unfold leaveOneWith
  split <;> simp [*]

/-- what the `__aexit__`s do does not depend on how the block is left -/
theorem leaveNWith_fst_mode (ax : St → St × Option Leave) (k : Nat) (m m' : Leave) (s : St) :
    (leaveNWith ax k m s).1 = (leaveNWith ax k m' s).1 := by
  induction k generalizing m m' s with
  | zero => rfl
  | succ k ih =>
    simp only [leaveNWith, leaveOneWith_eq]
    exact ih _ _ _

theorem leaveNWith_add (ax : St → St × Option Leave) (j k : Nat) (m : Leave) (s : St) :
    leaveNWith ax (j + k) m s = leaveNWith ax k (leaveNWith ax j m s).2 (leaveNWith ax j m s).1 := by
  induction j generalizing m s with
  | zero => rw [Nat.zero_add]; rfl
  | succ j ih =>
    rw [Nat.add_right_comm]
    exact ih _ _

/-- the events of leaving the scopes `lo + cnt - 1, …, lo`, innermost first -/
def wcloses (lo cnt : Nat) : List Ev := (List.range' lo cnt).reverse.map Ev.wclose

theorem wcloses_succ (lo cnt : Nat) : wcloses lo (cnt + 1) = Ev.wclose (lo + cnt) :: wcloses lo cnt := by
  simp [wcloses, List.range'_concat]

/-- below the outermost scope, `__aexit__` retires the scope's own handle and returns `None` -/
theorem leaveN_succ_inner (k : Nat) (m : Leave) (s : St) (a : Nat) (h : s.active = a + 2) :
    leaveN (k + 1) m s = leaveN k m (retire1 (a + 1) s) := by
  simp only [leaveN, leaveNWith, leaveOneWith_eq, aexit_inner s a h]
  rfl

/-- Leaving `k` scopes, fewer than are open: exactly their wrappers are closed, innermost first; nothing else
    happens and the block's outcome arrives unchanged. -/
theorem leaveN_inner (k : Nat) (m : Leave) (s : St) (h : k < s.active) :
    (leaveN k m s).2 = m
    ∧ (leaveN k m s).1.active = s.active - k
    ∧ (∀ i, (leaveN k m s).1.wopen i = if s.active - k ≤ i ∧ i < s.active then false else s.wopen i)
    ∧ (leaveN k m s).1.closes = s.closes
    ∧ (leaveN k m s).1.n = s.n ∧ (leaveN k m s).1.pos = s.pos
    ∧ (leaveN k m s).1.beh = s.beh ∧ (leaveN k m s).1.uclosed = s.uclosed
    ∧ (leaveN k m s).1.log = s.log ++ wcloses (s.active - k) k := by
  induction k generalizing s with
  | zero =>
    refine ⟨rfl, rfl, fun i => ?_, rfl, rfl, rfl, rfl, rfl, (List.append_nil _).symm⟩
    rw [if_neg (fun c => Nat.lt_irrefl _ (Nat.lt_of_lt_of_le c.2 c.1))]
    rfl
  | succ k ih =>
    obtain ⟨a, ha⟩ : ∃ a, s.active = a + 2 :=
      Nat.exists_eq_add_of_le' (Nat.lt_of_le_of_lt (Nat.le_add_left 1 k) h)
    have hk : k < a + 1 := by rw [ha] at h; exact Nat.lt_of_succ_lt_succ h
    -- the fields of `retire1 (a + 1) s` in the induction hypothesis reduce by unfolding
    obtain ⟨i1, i2, i3, i4, i5, i6, i7, i8, i9⟩ := ih (retire1 (a + 1) s) hk
    have e : s.active - (k + 1) = a + 1 - k := by rw [ha]; exact Nat.add_sub_add_right (a + 1) 1 k
    rw [leaveN_succ_inner k m s a ha, e]
    refine ⟨i1, i2, fun i => ?_, i4, i5, i6, i7, i8, ?_⟩
    · rw [i3 i, retire1_wopen, ha]
      show (if a + 1 - k ≤ i ∧ i < a + 1 then false else if i = a + 1 then false else s.wopen i) = _
      by_cases c1 : a + 1 - k ≤ i ∧ i < a + 1
      · rw [if_pos c1, if_pos ⟨c1.1, Nat.lt_succ_of_lt c1.2⟩]
      · rw [if_neg c1]
        by_cases c2 : i = a + 1
        · rw [if_pos c2, if_pos ⟨c2 ▸ Nat.sub_le _ _, c2 ▸ Nat.lt_succ_self _⟩]
        · rw [if_neg c2, if_neg fun c => c1 ⟨c.1, Nat.lt_of_le_of_ne (Nat.le_of_lt_succ c.2) c2⟩]
    · rw [i9, wcloses_succ, Nat.sub_add_cancel (Nat.le_of_lt hk)]
      exact List.append_assoc _ _ _

theorem leaveNWith_swapped_inner (k : Nat) (m : Leave) (s : St) (h : k < s.active) :
    leaveNWith aexitSwapped k m s = leaveNWith aexit k m s := by
  induction k generalizing s m with
  | zero => rfl
  | succ k ih =>
    obtain ⟨a, ha⟩ : ∃ a, s.active = a + 2 := ⟨s.active - 2, by omega⟩
    simp only [leaveNWith, leaveOneWith, aexitSwapped_inner s a ha]
    apply ih
    simp only [aexit_inner s a ha, retire1_active]
    omega

/-- blocks left one by one (each exception handled in the enclosing block) do the same as one exception
    travelling through them, and every outcome arrives unchanged -/
theorem leaveEach_inner (ms : List Leave) (s : St) (h : ms.length < s.active) :
    (leaveEach ms s).2 = ms ∧ (leaveEach ms s).1 = (leaveN ms.length .normal s).1 := by
  induction ms generalizing s with
  | nil => exact ⟨rfl, rfl⟩
  | cons m ms ih =>
    have h' : ms.length + 1 < s.active := h
    obtain ⟨a, ha⟩ : ∃ a, s.active = a + 2 := ⟨s.active - 2, by omega⟩
    obtain ⟨j1, j2⟩ := ih (retire1 (a + 1) s) (by show ms.length < a + 1; omega)
    have hs : leaveOneWith aexit m s = (retire1 (a + 1) s, m) := by
      rw [leaveOneWith_eq, aexit_inner s a ha]; rfl
    simp only [leaveEach, hs, j1, j2, List.length_cons, leaveN_succ_inner _ _ s a ha, and_self]

/-- The whole nest is left: all scopes but the outermost as in `leaveN_inner`, reaching a state `t`, then the
    outermost scope's `__aexit__` runs in `t` (below the outermost scope the order of the two awaits is
    immaterial). -/
theorem exit_split (m : Leave) (s : St) (h : 0 < s.active) :
    ∃ t, exitAll m s = leaveOneWith aexit m t ∧ exitSwapped m s = leaveOneWith aexitSwapped m t
      ∧ t.active = 1 ∧ (∀ i, t.wopen i = if 1 ≤ i ∧ i < s.active then false else s.wopen i)
      ∧ t.closes = s.closes ∧ t.n = s.n ∧ t.pos = s.pos ∧ t.beh = s.beh ∧ t.uclosed = s.uclosed
      ∧ t.log = s.log ++ wcloses 1 (s.active - 1) := by
  obtain ⟨a, ha⟩ : ∃ a, s.active = a + 1 := ⟨s.active - 1, by omega⟩
  obtain ⟨i1, i2, i3, i4, i5, i6, i7, i8, i9⟩ := leaveN_inner a m s (by omega)
  rw [ha, Nat.add_sub_cancel_left] at i2 i3 i9
  refine ⟨(leaveN a m s).1, ?_, ?_, i2, by rw [ha]; exact i3, i4, i5, i6, i7, i8, by rw [ha]; exact i9⟩
  · unfold exitAll
    rw [ha, leaveNWith_add aexit a 1 m s]
    show leaveOneWith aexit (leaveN a m s).2 _ = _
    rw [i1]
    rfl
  · unfold exitSwapped
    rw [ha, leaveNWith_add aexitSwapped a 1 m s, leaveNWith_swapped_inner a m s (by omega)]
    show leaveOneWith aexitSwapped (leaveN a m s).2 _ = _
    rw [i1]
    rfl

theorem wcloses_zero_succ (cnt : Nat) : wcloses 0 (cnt + 1) = wcloses 1 cnt ++ [Ev.wclose 0] := by
  simp [wcloses, List.range'_succ]

/-- Leaving the whole nest with `__aexit__` as written. -/
theorem exitAll_spec (m : Leave) (s : St) (h : 0 < s.active) :
    (exitAll m s).2 = s.beh.failure.getD m
    ∧ (exitAll m s).1.active = 0
    ∧ (∀ i, i < s.active → (exitAll m s).1.wopen i = false)
    ∧ (∀ i, s.active ≤ i → (exitAll m s).1.wopen i = s.wopen i)
    ∧ (exitAll m s).1.closes = s.closes + 1
    ∧ (exitAll m s).1.n = s.n ∧ (exitAll m s).1.pos = s.pos
    ∧ (exitAll m s).1.beh = s.beh
    ∧ (exitAll m s).1.uclosed = (s.uclosed || s.beh.failure.isNone)
    ∧ (exitAll m s).1.log = s.log ++ wcloses 0 s.active ++ [.uclose 0] := by
  obtain ⟨t, e, _, h1, i3, i4, i5, i6, i7, i8, i9⟩ := exit_split m s h
  -- own wrapper first, then the iterator's `aclose()`: the result is an explicit update of `t`
  rw [e, leaveOneWith_eq, aexit_outer t h1, closeU_eq]
  refine ⟨?_, rfl, fun i hi => ?_, fun i hi => ?_, congrArg (· + 1) i4, i5, i6, i7, ?_, ?_⟩
  · show t.beh.failure.getD m = _
    rw [i7]
  · show (closeWrapper 0 t).wopen i = false
    rw [wopen_closeWrapper, i3 i]
    by_cases c : i = 0
    · rw [if_pos c]
    · rw [if_neg c, if_pos ⟨Nat.pos_of_ne_zero c, hi⟩]
  · show (closeWrapper 0 t).wopen i = s.wopen i
    rw [wopen_closeWrapper, i3 i, if_neg (Nat.ne_of_gt (Nat.lt_of_lt_of_le h hi)),
      if_neg fun c => Nat.lt_irrefl _ (Nat.lt_of_lt_of_le c.2 hi)]
  · show (t.uclosed || t.beh.failure.isNone) = _
    rw [i8, i7]
  · show t.log ++ [.wclose 0] ++ [.uclose 0] = _
    obtain ⟨a, ha⟩ : ∃ a, s.active = a + 1 := Nat.exists_eq_add_of_le' h
    rw [i9, ha, wcloses_zero_succ, Nat.add_sub_cancel, List.append_assoc s.log]

/-- the outermost scope's `__aexit__` in the wrong order, the underlying `aclose()` failing: the own wrapper
    is never closed -/
theorem leaveOne_outer_swapped_fail (m x : Leave) (s : St) (h : s.active = 1) (hf : s.beh.failure = some x) :
    leaveOneWith aexitSwapped m s
      = ({ s with active := 0, closes := s.closes + 1, log := s.log ++ [.uclose 0] }, x) := by
  simp only [leaveOneWith, aexitSwapped, h, closeTarget, closeU, hf, if_true]

/-- … and when the underlying `aclose()` succeeds the order is immaterial, up to the order of the log -/
theorem leaveOne_outer_swapped_ok (m : Leave) (s : St) (h : s.active = 1) (hf : s.beh.failure = none) :
    leaveOneWith aexitSwapped m s
      = (closeWrapper 0 { s with active := 0, closes := s.closes + 1, log := s.log ++ [.uclose 0],
                                 uclosed := true }, m) := by
  simp only [leaveOneWith, aexitSwapped, h, closeTarget, closeU, hf, if_true]

/-- Leaving the whole nest with every `__aexit__` in the wrong order, the underlying `aclose()` failing. -/
theorem exitSwapped_fail_spec (m x : Leave) (s : St) (h : 0 < s.active) (hf : s.beh.failure = some x) :
    (exitSwapped m s).2 = x
    ∧ (exitSwapped m s).1.active = 0
    ∧ (exitSwapped m s).1.wopen 0 = s.wopen 0
    ∧ (∀ i, 0 < i → i < s.active → (exitSwapped m s).1.wopen i = false)
    ∧ (∀ i, s.active ≤ i → (exitSwapped m s).1.wopen i = s.wopen i)
    ∧ (exitSwapped m s).1.closes = s.closes + 1
    ∧ (exitSwapped m s).1.n = s.n ∧ (exitSwapped m s).1.pos = s.pos
    ∧ (exitSwapped m s).1.uclosed = s.uclosed
    ∧ (exitSwapped m s).1.log = s.log ++ wcloses 1 (s.active - 1) ++ [.uclose 0] := by
  obtain ⟨t, _, e, h1, i3, i4, i5, i6, i7, i8, i9⟩ := exit_split m s h
  rw [e, leaveOne_outer_swapped_fail m x t h1 (by rw [i7]; exact hf)]
  refine ⟨rfl, rfl, ?_, fun i h0 hi => ?_, fun i hi => ?_, congrArg (· + 1) i4, i5, i6, i8, congrArg (· ++ _) i9⟩
  · exact (i3 0).trans (if_neg (by omega))
  · exact (i3 i).trans (if_pos ⟨h0, hi⟩)
  · exact (i3 i).trans (if_neg (by omega))

/-- … and the underlying `aclose()` succeeding: every handle is retired all the same. -/
theorem exitSwapped_ok_spec (m : Leave) (s : St) (h : 0 < s.active) (hf : s.beh.failure = none) :
    (exitSwapped m s).2 = m
    ∧ (∀ i, i < s.active → (exitSwapped m s).1.wopen i = false)
    ∧ (∀ i, s.active ≤ i → (exitSwapped m s).1.wopen i = s.wopen i)
    ∧ (exitSwapped m s).1.closes = s.closes + 1 := by
  obtain ⟨t, _, e, h1, i3, i4, _, _, i7, _, _⟩ := exit_split m s h
  rw [e, leaveOne_outer_swapped_ok m t h1 (by rw [i7]; exact hf)]
  refine ⟨rfl, fun i hi => ?_, fun i hi => ?_, congrArg (· + 1) i4⟩
  · rw [wopen_closeWrapper]
    show (if i = 0 then false else t.wopen i) = false
    rw [i3 i]
    by_cases c : i = 0
    · rw [if_pos c]
    · rw [if_neg c, if_pos ⟨Nat.pos_of_ne_zero c, hi⟩]
  · rw [wopen_closeWrapper]
    show (if i = 0 then false else t.wopen i) = _
    rw [i3 i, if_neg (by omega), if_neg (by omega)]

theorem enter_retired (s : St) : Retired (enter s) := by
  intro i hi
  apply getD_of_length_le
  simp only [enter, List.length_append, List.length_take, List.length_cons, List.length_nil] at hi ⊢
  omega

theorem build_spec (taken d : Nat) (s : St) (h : Retired s) :
    (build taken d s).active = s.active + d ∧ Retired (build taken d s)
    ∧ (build taken d s).beh = s.beh ∧ (build taken d s).closes = s.closes
    ∧ (build taken d s).uclosed = s.uclosed ∧ (build taken d s).log = s.log := by
  induction d generalizing s with
  | zero => exact ⟨rfl, h, rfl, rfl, rfl, rfl⟩
  | succ d ih =>
    have p := pulled_takeH ((enter s).active - 1) taken (enter s)
    obtain ⟨g1, g2, g3, g4, g5, g6⟩ := ih _ (p.retired (enter_retired s))
    refine ⟨g1.trans ?_, g2, g3.trans p.beh, g4.trans p.closes, g5.trans p.uclosed, g6.trans p.log⟩
    rw [p.active]
    exact Nat.add_right_comm s.active 1 d

theorem nest_spec (depth n : Nat) (beh : CloseBeh) (taken : Nat) :
    (nest depth n beh taken).active = depth ∧ Retired (nest depth n beh taken)
    ∧ (nest depth n beh taken).beh = beh ∧ (nest depth n beh taken).closes = 0
    ∧ (nest depth n beh taken).uclosed = false ∧ (nest depth n beh taken).log = [] := by
  obtain ⟨g1, g⟩ := build_spec taken depth (init n beh) (fun _ _ => rfl)
  exact ⟨g1.trans (Nat.zero_add depth), g⟩

/-- every scope is still entered, every wrapper is open, the iterator was not closed -/
def AllOpen (s : St) : Prop :=
  s.wrappers.length = s.active ∧ (∀ j, j < s.active → s.wopen j = true) ∧ s.uclosed = false

theorem enter_allOpen (s : St) (h : AllOpen s) : AllOpen (enter s) := by
  obtain ⟨hl, ho, hu⟩ := h
  have hw : (enter s).wrappers = s.wrappers ++ [true] := by
    show s.wrappers.take s.active ++ [true] = _
    rw [← hl, List.take_length]
  refine ⟨by rw [hw, List.length_append, hl]; rfl, fun j hj => ?_, hu⟩
  show (enter s).wrappers.getD j false = true
  rw [hw, List.getD_eq_getElem?_getD]
  by_cases c : j < s.active
  · rw [List.getElem?_append_left (by omega), ← List.getD_eq_getElem?_getD]
    exact ho j c
  · have : j = s.wrappers.length := by have : j < s.active + 1 := hj; omega
    subst this
    simp

theorem build_open (taken d : Nat) (s : St) (h : AllOpen s) (hn : d * taken ≤ s.n) :
    AllOpen (build taken d s) ∧ (build taken d s).n = s.n - d * taken
    ∧ (build taken d s).pos = s.pos + d * taken := by
  induction d generalizing s with
  | zero => exact ⟨h, by rw [Nat.zero_mul]; rfl, by rw [Nat.zero_mul]; rfl⟩
  | succ d ih =>
    have hm : (d + 1) * taken = d * taken + taken := Nat.succ_mul d taken
    have hn' : d * taken + taken ≤ s.n := hm ▸ hn
    have e := enter_allOpen s h
    have hT : (takeH ((enter s).active - 1) taken (enter s)).1
        = { enter s with n := s.n - taken, pos := s.pos + taken } :=
      congrArg Prod.fst (takeH_open _ taken (enter s) (fun j hj => e.2.1 j (Nat.lt_succ_of_le hj)) e.2.2
        (Nat.le_trans (Nat.le_add_left _ _) hn'))
    simp only [build]
    rw [hT]
    obtain ⟨g1, g2, g3⟩ := ih { enter s with n := s.n - taken, pos := s.pos + taken } e
      (Nat.le_sub_of_add_le hn')
    refine ⟨g1, g2.trans ?_, g3.trans ?_⟩
    · show s.n - taken - d * taken = s.n - (d + 1) * taken
      rw [hm, Nat.sub_sub, Nat.add_comm]
    · show s.pos + taken + d * taken = s.pos + (d + 1) * taken
      rw [hm, Nat.add_assoc, Nat.add_comm taken]

/-- while the items last, every wrapper of the harness's nest is open -/
theorem nest_open (depth n : Nat) (beh : CloseBeh) (taken : Nat) (hn : depth * taken ≤ n) :
    (∀ j, j < depth → (nest depth n beh taken).wopen j = true)
    ∧ (nest depth n beh taken).n = n - depth * taken ∧ (nest depth n beh taken).pos = depth * taken := by
  obtain ⟨⟨_, g1, _⟩, g2, g3⟩ :=
    build_open taken depth (init n beh) ⟨rfl, fun j hj => absurd hj (Nat.not_lt_zero j), rfl⟩ hn
  refine ⟨fun j hj => g1 j ?_, g2, g3.trans (Nat.zero_add _)⟩
  rw [← nest, (nest_spec depth n beh taken).1]
  exact hj

end AsyncVerif.ScopeExit
