import AsyncVerif.Machines.ExitStackEnter
/-! ExitStack.enter_context with suspending managers, for `Properties/C14Enter.lean`: the ExitStack task
simulates the literally nested statements (`SimPc` … `run_sim`, loop invariant `LInv`); which exits
have run in every reachable state (`Entering`, `UnwSt`, `InvP` … `run_inv`); every run can be
completed (measure `mu`, `sends_finish`). -/
namespace AsyncVerif.ExitStackEnter
open AsyncVerif.ExitStack (ExcId ExitResp Outcome)

/-- loop invariant of `__aexit__`: the loop variables encode the outcome of the innermost blocks
    already left -/
def LInv (recv : Outcome) (ls : Impl.Loop) (o : Outcome) : Prop :=
  ls.exc = o.exc ∧ Impl.outcome recv ls = o

theorem linv_init (recv : Outcome) : LInv recv (Impl.loopInit recv) recv := by
  cases recv <;> simp [LInv, Impl.loopInit, Impl.outcome, Outcome.exc]

theorem linv_react {recv : Outcome} {ls : Impl.Loop} {o : Outcome} (h : LInv recv ls o)
    (r : ExitResp) : LInv recv (Impl.react ls r) (Nested.combine o r) := by
  cases r with
  | truthy => cases recv <;> simp [LInv, Impl.react, Nested.combine, Impl.outcome, Outcome.exc]
  | falsy => exact h
  | raise e => simp [LInv, Impl.react, Nested.combine, Impl.outcome, Outcome.exc]

/-- corresponding control points -/
inductive SimPc : Impl.Pc → Nested.Pc → Prop
  | enter (s m l t) : SimPc (.enter s m l t) (.enter s m l t)
  | body (s l) : SimPc (.body s l) (.body s l)
  | exit (r m l) {ls recv o} : LInv recv ls o → SimPc (.exit r m l ls recv) (.exit r m l o)
  | done (o) : SimPc (.done o) (.done o)

/-- corresponding results of a run-to-next-suspension -/
def SimR (a : Impl.Pc × List Ev) (b : Nested.Pc × List Ev) : Prop := SimPc a.1 b.1 ∧ a.2 = b.2

theorem unwind_sim (recv : Outcome) (rest : List Mgr) (ls : Impl.Loop) (o : Outcome)
    (h : LInv recv ls o) : SimR (Impl.unwind recv rest ls) (Nested.unwind rest o) := by
  induction rest generalizing ls o with
  | nil =>
    simp only [Impl.unwind, Nested.unwind, SimR, and_true]
    rw [h.2]; exact .done o
  | cons m rest ih =>
    simp only [Impl.unwind, Nested.unwind, h.1]
    rcases m.xSusp with _ | k
    · have := ih _ _ (linv_react h m.resp)
      exact ⟨this.1, by simp only [this.2]⟩
    · exact ⟨.exit rest m k h, rfl⟩

theorem fail_sim (stack : List Mgr) (e : ExcId) :
    SimR (Impl.fail stack e) (Nested.unwind stack (.raises e)) :=
  unwind_sim _ _ _ _ (linv_init _)

theorem runBody_sim (cfg : Cfg) (stack : List Mgr) :
    SimR (Impl.runBody cfg stack) (Nested.runBody cfg stack) := by
  unfold Impl.runBody Nested.runBody
  rcases cfg.bodySusp with _ | k
  · exact unwind_sim _ _ _ _ (linv_init _)
  · exact ⟨.body stack k, rfl⟩

theorem SimR.cons {a : Impl.Pc × List Ev} {b : Nested.Pc × List Ev} (h : SimR a b) (evs : List Ev) :
    SimR (a.1, evs ++ a.2) (b.1, evs ++ b.2) :=
  ⟨h.1, congrArg _ h.2⟩

theorem enterFrom_sim (cfg : Cfg) (stack todo : List Mgr) :
    SimR (Impl.enterFrom cfg stack todo) (Nested.enterFrom cfg stack todo) := by
  fun_induction Impl.enterFrom cfg stack todo with
  | case1 stack => exact runBody_sim cfg stack
  | case2 stack m todo hf r ih => simp only [Nested.enterFrom, hf]; exact ih.cons [_]
  | case3 stack m todo k hk hf =>
    unfold Nested.enterFrom; split
    · contradiction
    · simp only [hk]; exact ⟨.enter stack m k todo, rfl⟩
  | case4 stack m todo hk v hv r hf ih =>
    unfold Nested.enterFrom; split
    · contradiction
    · simp only [hk, hv]; exact ih.cons [_, _]
  | case5 stack m todo hk e he r hf =>
    unfold Nested.enterFrom; split
    · contradiction
    · simp only [hk, he]; exact (fail_sim stack e).cons [_]

theorem finishEnter_sim (cfg : Cfg) (stack : List Mgr) (m : Mgr) (todo : List Mgr) :
    SimR (Impl.finishEnter cfg stack m todo) (Nested.finishEnter cfg stack m todo) := by
  unfold Impl.finishEnter Nested.finishEnter
  cases m.enter with
  | ok v => exact (enterFrom_sim cfg (m :: stack) todo).cons [_]
  | raises e => exact fail_sim stack e

theorem next_sim (cfg : Cfg) {p : Impl.Pc} {q : Nested.Pc} (h : SimPc p q) (op : Op) :
    SimR (Impl.next cfg p op) (Nested.next cfg q op) := by
  cases h with
  | enter s m l t =>
    cases op with
    | send =>
      cases l with
      | zero => exact finishEnter_sim cfg s m t
      | succ k => exact ⟨.enter s m k t, rfl⟩
    | throw e => cases l <;> exact fail_sim s e
  | body s l =>
    cases op with
    | send =>
      cases l with
      | zero => exact unwind_sim _ _ _ _ (linv_init _)
      | succ k => exact ⟨.body s k, rfl⟩
    | throw e => cases l <;> exact fail_sim s e
  | exit r m l hl =>
    cases op with
    | send =>
      cases l with
      | zero => exact unwind_sim _ _ _ _ (linv_react hl m.resp)
      | succ k => exact ⟨.exit r m k hl, rfl⟩
    | throw e => cases l <;> exact unwind_sim _ _ _ _ (linv_react hl (.raise e))
  | done o => cases op <;> exact ⟨.done o, rfl⟩

theorem out_sim {p : Impl.Pc} {q : Nested.Pc} (h : SimPc p q) : p.out = q.out := by
  cases h <;> rfl

theorem result_sim {p : Impl.Pc} {q : Nested.Pc} (h : SimPc p q) : p.result = q.result := by
  cases h <;> rfl

/-- corresponding task states -/
def SimSt (a : Impl.St) (b : Nested.St) : Prop := SimPc a.pc b.pc ∧ a.log = b.log ∧ a.outs = b.outs

theorem init_sim (cfg : Cfg) : SimSt (Impl.init cfg) (Nested.init cfg) := by
  have h := enterFrom_sim cfg [] cfg.mgrs
  exact ⟨h.1, h.2, by simp only [Impl.init, Nested.init, out_sim h.1]⟩

theorem step_sim (cfg : Cfg) {a : Impl.St} {b : Nested.St} (h : SimSt a b) (op : Op) :
    SimSt (Impl.step cfg a op) (Nested.step cfg b op) := by
  obtain ⟨pa, la, oa⟩ := a
  obtain ⟨pb, lb, ob⟩ := b
  obtain ⟨hp, hl, ho⟩ := h
  simp only at hp hl ho
  subst hl ho
  have hn := next_sim cfg hp op
  cases hp with
  | done o => exact ⟨.done o, rfl, rfl⟩
  | _ => exact ⟨hn.1, congrArg (la ++ ·) hn.2, congrArg (fun o => oa ++ [o]) (out_sim hn.1)⟩

theorem run_sim (cfg : Cfg) (ops : List Op) : SimSt (Impl.run cfg ops) (Nested.run cfg ops) := by
  unfold Impl.run Nested.run
  generalize Impl.init cfg = a, Nested.init cfg = b, init_sim cfg = h
  induction ops generalizing a b with
  | nil => exact h
  | cons op ops ih => exact ih _ _ (step_sim cfg h op)

theorem enteredIds_append (a b : List Ev) : enteredIds (a ++ b) = enteredIds a ++ enteredIds b := by
  induction a with
  | nil => rfl
  | cons x r ih => cases x <;> simp [enteredIds, ih]

theorem exitIds_append (a b : List Ev) : exitIds (a ++ b) = exitIds a ++ exitIds b := by
  induction a with
  | nil => rfl
  | cons x r ih => cases x <;> simp [exitIds, ih]

theorem range_succ_reverse (n : Nat) : (List.range (n + 1)).reverse = n :: (List.range n).reverse := by
  simp [List.range_succ]

theorem range_reverse_nodup (k : Nat) : (List.range k).reverse.Nodup :=
  (List.reverse_perm _).nodup_iff.mpr List.nodup_range

/-- the exits that ran so far (`ex`) plus those still on the stack are the managers `k-1 .. 0` -/
def UnwP (k : Nat) (pc : Impl.Pc) (ex : List Nat) : Prop :=
  match pc with
  | .exit rest _ _ _ _ => ex ++ (List.range rest.length).reverse = (List.range k).reverse
  | .done _ => ex = (List.range k).reverse
  | _ => False

/-- the task is unwinding (or done) and `k` managers had been entered when the unwinding began -/
def UnwSt (k : Nat) (pc : Impl.Pc) (log : List Ev) : Prop :=
  enteredIds log = List.range k ∧ UnwP k pc (exitIds log)

/-- calling the exit of the topmost of `n + 1` managers still to be left -/
theorem exit_logged {k n : Nat} {log : List Ev} (hd : Option ExcId)
    (h1 : enteredIds log = List.range k)
    (h2 : exitIds log ++ (List.range (n + 1)).reverse = (List.range k).reverse) :
    enteredIds (log ++ [.exit n hd]) = List.range k ∧
    exitIds (log ++ [.exit n hd]) ++ (List.range n).reverse = (List.range k).reverse := by
  rw [enteredIds_append, exitIds_append, h1, ← h2, range_succ_reverse]
  simp [enteredIds, exitIds]

theorem unwind_unwSt (recv : Outcome) (rest : List Mgr) (ls : Impl.Loop) (k : Nat) (log : List Ev)
    (h1 : enteredIds log = List.range k)
    (h2 : exitIds log ++ (List.range rest.length).reverse = (List.range k).reverse) :
    UnwSt k (Impl.unwind recv rest ls).1 (log ++ (Impl.unwind recv rest ls).2) := by
  fun_induction Impl.unwind recv rest ls generalizing log with
  | case1 ls => exact ⟨by rwa [List.append_nil], by simpa [UnwP] using h2⟩
  | case2 m rest ls ev hx r ih =>
    have h := exit_logged (m.handed ls.exc) h1 h2
    have := ih _ h.1 h.2
    rwa [List.append_assoc] at this
  | case3 m rest ls ev x hx => exact exit_logged (m.handed ls.exc) h1 h2

theorem fail_unwSt (stack : List Mgr) (e : ExcId) (log : List Ev)
    (h1 : enteredIds log = List.range stack.length) (h2 : exitIds log = []) :
    UnwSt stack.length (Impl.fail stack e).1 (log ++ (Impl.fail stack e).2) :=
  unwind_unwSt _ _ _ _ _ h1 (by rw [h2]; rfl)

/-- the task is still entering (or in the body): `stack` entered, `todo` to come, nothing exited -/
def Entering (cfg : Cfg) (stack todo : List Mgr) (log : List Ev) : Prop :=
  stack.reverse ++ todo = cfg.mgrs ∧ enteredIds log = List.range stack.length ∧ exitIds log = []

/-- events of an enter in progress or failed -/
theorem Entering.quiet {cfg : Cfg} {stack todo : List Mgr} {log : List Ev} (h : Entering cfg stack todo log)
    (evs : List Ev) (he : enteredIds evs = []) (hx : exitIds evs = []) :
    Entering cfg stack todo (log ++ evs) :=
  ⟨h.1, by rw [enteredIds_append, he, List.append_nil, h.2.1], by rw [exitIds_append, hx, h.2.2]; rfl⟩

/-- events of a completed enter of `m`, the manager number `stack.length` -/
theorem Entering.push {cfg : Cfg} {stack todo : List Mgr} {m : Mgr} {log : List Ev}
    (h : Entering cfg stack (m :: todo) log)
    (evs : List Ev) (he : enteredIds evs = [stack.length]) (hx : exitIds evs = []) :
    Entering cfg (m :: stack) todo (log ++ evs) :=
  ⟨by rw [← h.1, List.reverse_cons, List.append_assoc]; rfl,
   by rw [enteredIds_append, he, h.2.1, List.length_cons, List.range_succ],
   by rw [exitIds_append, hx, h.2.2]; rfl⟩

/-- invariant of every reachable state of the ExitStack task -/
def InvP (cfg : Cfg) (pc : Impl.Pc) (log : List Ev) : Prop :=
  match pc with
  | .enter stack m _ todo => Entering cfg stack (m :: todo) log
  | .body stack _ => Entering cfg stack [] log
  | pc => ∃ k, UnwSt k pc log

theorem invP_of_unwSt {cfg : Cfg} {k : Nat} {pc : Impl.Pc} {log : List Ev} (h : UnwSt k pc log) :
    InvP cfg pc log := by
  cases pc with
  | enter _ _ _ _ => exact h.2.elim
  | body _ _ => exact h.2.elim
  | exit _ _ _ _ _ => exact ⟨k, h⟩
  | done _ => exact ⟨k, h⟩

theorem unwind_inv {cfg : Cfg} {stack todo : List Mgr} {log : List Ev} (h : Entering cfg stack todo log)
    (recv : Outcome) (ls : Impl.Loop) :
    InvP cfg (Impl.unwind recv stack ls).1 (log ++ (Impl.unwind recv stack ls).2) :=
  invP_of_unwSt (unwind_unwSt _ _ _ _ _ h.2.1 (by rw [h.2.2]; rfl))

theorem runBody_inv (cfg : Cfg) (stack : List Mgr) (log : List Ev) (h : Entering cfg stack [] log) :
    InvP cfg (Impl.runBody cfg stack).1 (log ++ (Impl.runBody cfg stack).2) := by
  unfold Impl.runBody
  rcases cfg.bodySusp with _ | k
  · exact unwind_inv h _ _
  · exact (List.append_nil log).symm ▸ h

theorem enterFrom_inv (cfg : Cfg) (stack todo : List Mgr) (log : List Ev)
    (h : Entering cfg stack todo log) :
    InvP cfg (Impl.enterFrom cfg stack todo).1 (log ++ (Impl.enterFrom cfg stack todo).2) := by
  fun_induction Impl.enterFrom cfg stack todo generalizing log with
  | case1 stack => exact runBody_inv cfg stack log h
  | case2 stack m todo hf r ih =>
    have := ih _ (h.push [.pushed stack.length] rfl rfl)
    rwa [List.append_assoc] at this
  | case3 stack m todo k hk hf => exact h.quiet [.enter stack.length] rfl rfl
  | case4 stack m todo hk v hv r hf ih =>
    have := ih _ (h.push [.enter stack.length, .entered stack.length v] rfl rfl)
    rwa [List.append_assoc] at this
  | case5 stack m todo hk e he r hf =>
    have := unwind_inv (h.quiet [.enter stack.length] rfl rfl) (.raises e) (Impl.loopInit (.raises e))
    rwa [List.append_assoc] at this

theorem finishEnter_inv (cfg : Cfg) (stack : List Mgr) (m : Mgr) (todo : List Mgr) (log : List Ev)
    (h : Entering cfg stack (m :: todo) log) :
    InvP cfg (Impl.finishEnter cfg stack m todo).1 (log ++ (Impl.finishEnter cfg stack m todo).2) := by
  unfold Impl.finishEnter
  cases m.enter with
  | ok v =>
    have := enterFrom_inv cfg (m :: stack) todo _ (h.push [.entered stack.length v] rfl rfl)
    rwa [List.append_assoc] at this
  | raises e => exact unwind_inv h _ _

/-- once unwinding, every operation keeps the task unwinding the same `k` managers -/
theorem next_unwSt (cfg : Cfg) (k : Nat) (pc : Impl.Pc) (log : List Ev) (op : Op)
    (h : UnwSt k pc log) :
    UnwSt k (Impl.next cfg pc op).1 (log ++ (Impl.next cfg pc op).2) := by
  cases pc with
  | enter _ _ _ _ => exact h.2.elim
  | body _ _ => exact h.2.elim
  | done o => cases op <;> exact (List.append_nil log).symm ▸ h
  | exit rest m l ls recv =>
    have hu : ∀ ls', UnwSt k (Impl.unwind recv rest ls').1 (log ++ (Impl.unwind recv rest ls').2) :=
      fun ls' => unwind_unwSt recv rest ls' k log h.1 h.2
    cases op with
    | send =>
      cases l with
      | zero => exact hu _
      | succ x => exact (List.append_nil log).symm ▸ h
    | throw e => cases l <;> exact hu _

theorem next_inv (cfg : Cfg) (pc : Impl.Pc) (log : List Ev) (op : Op) (h : InvP cfg pc log) :
    InvP cfg (Impl.next cfg pc op).1 (log ++ (Impl.next cfg pc op).2) := by
  cases pc with
  | enter stack m l todo =>
    cases op with
    | send =>
      cases l with
      | zero => exact finishEnter_inv cfg stack m todo log h
      | succ x => exact (List.append_nil log).symm ▸ h
    | throw e => cases l <;> exact unwind_inv h _ _
  | body stack l =>
    cases op with
    | send =>
      cases l with
      | zero => exact unwind_inv h _ _
      | succ x => exact (List.append_nil log).symm ▸ h
    | throw e => cases l <;> exact unwind_inv h _ _
  | exit rest m l ls recv =>
    obtain ⟨k, hk⟩ := h
    exact invP_of_unwSt (next_unwSt cfg k _ log op hk)
  | done o =>
    obtain ⟨k, hk⟩ := h
    exact invP_of_unwSt (next_unwSt cfg k _ log op hk)

theorem step_pc_log (cfg : Cfg) (s : Impl.St) (op : Op) :
    (Impl.step cfg s op).pc = (Impl.next cfg s.pc op).1 ∧
    (Impl.step cfg s op).log = s.log ++ (Impl.next cfg s.pc op).2 := by
  obtain ⟨pc, log, outs⟩ := s
  cases pc with
  | done o => cases op <;> exact ⟨rfl, (List.append_nil log).symm⟩
  | _ => exact ⟨rfl, rfl⟩

theorem foldl_step {cfg : Cfg} {P : Impl.Pc → List Ev → Prop}
    (hP : ∀ pc log op, P pc log → P (Impl.next cfg pc op).1 (log ++ (Impl.next cfg pc op).2))
    (ops : List Op) (s : Impl.St) (h : P s.pc s.log) :
    P (ops.foldl (Impl.step cfg) s).pc (ops.foldl (Impl.step cfg) s).log := by
  induction ops generalizing s with
  | nil => exact h
  | cons op ops ih =>
    refine ih _ ?_
    rw [(step_pc_log cfg s op).1, (step_pc_log cfg s op).2]
    exact hP _ _ op h

theorem foldl_unwSt (cfg : Cfg) (k : Nat) (ops : List Op) (s : Impl.St) (h : UnwSt k s.pc s.log) :
    UnwSt k (ops.foldl (Impl.step cfg) s).pc (ops.foldl (Impl.step cfg) s).log :=
  foldl_step (next_unwSt cfg k) ops s h

theorem run_inv (cfg : Cfg) (ops : List Op) :
    InvP cfg (Impl.run cfg ops).pc (Impl.run cfg ops).log :=
  foldl_step (next_inv cfg) ops _ (enterFrom_inv cfg [] cfg.mgrs [] ⟨rfl, rfl, rfl⟩)

theorem done_of_finished {s : Impl.St} (h : s.finished = true) : ∃ o, s.pc = .done o := by
  obtain ⟨pc, _, _⟩ := s
  cases pc with
  | done o => exact ⟨o, rfl⟩
  | _ => cases h

theorem enter_of_entering {pc : Impl.Pc} {i : Nat} (h : pc.entering = some i) :
    ∃ stack m left todo, pc = .enter stack m left todo ∧ stack.length = i := by
  cases pc with
  | enter stack m left todo => exact ⟨stack, m, left, todo, rfl, Option.some.inj h⟩
  | _ => cases h

theorem run_append (cfg : Cfg) (a b : List Op) :
    Impl.run cfg (a ++ b) = b.foldl (Impl.step cfg) (Impl.run cfg a) := by
  simp [Impl.run, List.foldl_append]

def xSum : List Mgr → Nat
  | [] => 0
  | m :: r => m.xSusp + xSum r

def wSum : List Mgr → Nat
  | [] => 0
  | m :: r => m.eSusp + m.xSusp + wSum r

/-- `send`s that entering `todo` on top of `stack`, the body and the unwinding can absorb -/
def bound (cfg : Cfg) (stack todo : List Mgr) : Nat := wSum todo + cfg.bodySusp + xSum stack

/-- entering `m` spends its enter suspensions; its exit suspensions stay due -/
theorem bound_cons (cfg : Cfg) (stack : List Mgr) (m : Mgr) (todo : List Mgr) :
    bound cfg stack (m :: todo) = m.eSusp + bound cfg (m :: stack) todo := by
  simp only [bound, wSum, xSum]; omega

/-- an upper bound of the number of `send`s the task can still absorb: those left at this
    suspension point, one to get past it, and what comes after it -/
def mu (cfg : Cfg) : Impl.Pc → Nat
  | .enter stack m left todo => left + 1 + bound cfg (m :: stack) todo
  | .body stack left => left + 1 + xSum stack
  | .exit rest _ left _ _ => left + 1 + xSum rest
  | .done _ => 0

theorem unwind_mu (cfg : Cfg) (recv : Outcome) (rest : List Mgr) (ls : Impl.Loop) :
    mu cfg (Impl.unwind recv rest ls).1 ≤ xSum rest := by
  fun_induction Impl.unwind recv rest ls with
  | case1 ls => exact Nat.le_refl _
  | case2 m rest ls ev hx r ih => exact Nat.le_trans ih (Nat.le_add_left ..)
  | case3 m rest ls ev x hx => rw [xSum, hx]; exact Nat.le_refl _

theorem runBody_mu (cfg : Cfg) (stack : List Mgr) :
    mu cfg (Impl.runBody cfg stack).1 ≤ bound cfg stack [] := by
  rw [bound, wSum, Nat.zero_add]
  unfold Impl.runBody
  split
  · exact Nat.le_trans (unwind_mu ..) (Nat.le_add_left ..)
  · rw [‹cfg.bodySusp = _›]; exact Nat.le_refl _

theorem enterFrom_mu (cfg : Cfg) (stack todo : List Mgr) :
    mu cfg (Impl.enterFrom cfg stack todo).1 ≤ bound cfg stack todo := by
  fun_induction Impl.enterFrom cfg stack todo with
  | case1 stack => exact runBody_mu cfg stack
  | case2 stack m todo _ r ih | case4 stack m todo _ _ _ r _ ih =>
    rw [bound_cons]; exact Nat.le_trans ih (Nat.le_add_left ..)
  | case3 stack m todo k hk => rw [bound_cons, hk]; exact Nat.le_refl _
  | case5 stack m todo _ e _ r => exact Nat.le_trans (unwind_mu ..) (Nat.le_add_left ..)

theorem finishEnter_mu (cfg : Cfg) (stack : List Mgr) (m : Mgr) (todo : List Mgr) :
    mu cfg (Impl.finishEnter cfg stack m todo).1 ≤ bound cfg (m :: stack) todo := by
  unfold Impl.finishEnter
  cases m.enter with
  | ok v => exact enterFrom_mu cfg (m :: stack) todo
  | raises e =>
    exact Nat.le_trans (unwind_mu ..) (Nat.le_trans (Nat.le_add_left _ m.xSusp) (Nat.le_add_left ..))

/-- a `send` gets past a suspension (`left + 1` becomes `left`) or past the suspension point
    (`0 + 1 + b` becomes at most `b`) -/
theorem next_send_mu (cfg : Cfg) (pc : Impl.Pc) :
    mu cfg (Impl.next cfg pc .send).1 ≤ mu cfg pc - 1 := by
  have tick : ∀ k b : Nat, k + 1 + b ≤ k + 1 + 1 + b - 1 := fun k b =>
    Nat.le_sub_one_of_lt (Nat.add_lt_add_right (Nat.lt_succ_self _) b)
  have last : ∀ {a b : Nat}, a ≤ b → a ≤ 0 + 1 + b - 1 := fun h =>
    Nat.le_sub_one_of_lt (Nat.lt_of_le_of_lt h (Nat.lt_add_of_pos_left (Nat.succ_pos 0)))
  cases pc with
  | enter stack m l todo =>
    cases l with
    | zero => exact last (finishEnter_mu cfg stack m todo)
    | succ k => exact tick k _
  | body stack l =>
    cases l with
    | zero => exact last (unwind_mu ..)
    | succ k => exact tick k _
  | exit rest m l ls recv =>
    cases l with
    | zero => exact last (unwind_mu ..)
    | succ k => exact tick k _
  | done o => exact Nat.zero_le _

theorem finished_of_mu_zero (cfg : Cfg) (s : Impl.St) (h : mu cfg s.pc = 0) : s.finished = true := by
  obtain ⟨pc, log, outs⟩ := s
  cases pc with
  | done o => rfl
  | _ => exact absurd h (Nat.ne_of_gt (Nat.lt_of_lt_of_le (Nat.succ_pos _) (Nat.le_add_right ..)))

theorem sends_finish (cfg : Cfg) (n : Nat) (s : Impl.St) (h : mu cfg s.pc ≤ n) :
    ((List.replicate n Op.send).foldl (Impl.step cfg) s).finished = true := by
  induction n generalizing s with
  | zero => exact finished_of_mu_zero cfg s (Nat.le_zero.mp h)
  | succ n ih =>
    rw [List.replicate_succ, List.foldl_cons]
    apply ih
    rw [(step_pc_log cfg s .send).1]
    exact Nat.le_trans (next_send_mu cfg s.pc) (Nat.sub_le_of_le_add h)

end AsyncVerif.ExitStackEnter
