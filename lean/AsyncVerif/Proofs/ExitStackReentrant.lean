import AsyncVerif.Machines.ExitStackReentrant
import AsyncVerif.Proofs.ExitStack
/-! The re-entrant ExitStack machine (`Machines/ExitStackReentrant.lean`), for
`Properties/C14Reentrant.lean`.  In this order: asyncstdlib's loop and CPython's compute the same
(`Rel`, `unwind_eq`); what the stack actions of a running exit can do (`Acted`), hence the fuel of
`unwind` suffices (`loop_done`); the invariant "every exit is in exactly one place" (`HInv`, `Inv`,
instances of `Places` / `Complete` of `Proofs/ExitStack.lean`); the loop one iteration at a time —
an exit registered last runs next, `pop_all` from inside an exit; exits without stack actions give
the machine of `Machines/ExitStack.lean` (`quietRecs`, `unwind_quiet`); the harness history is a
history (`history_eq_run`). -/
namespace AsyncVerif.ExitStackRe
open AsyncVerif.ExitStack

/-- the local variables of the two `__aexit__` correspond -/
def Rel (ls : Impl.Loop) (ss : Spec.Loop) : Prop :=
  ss.details = ls.exc ∧ ss.suppressed = ls.suppress ∧ ss.pending = ls.reraise ∧
    (ls.reraise = true → ls.exc.isSome = true)

theorem rel_init (body : Outcome) : Rel ⟨body.exc, false, false⟩ ⟨body.exc, false, false⟩ := by
  simp [Rel]

theorem rel_react {ls ss} (h : Rel ls ss) (r : ExitResp) : Rel (Impl.react ls r) (Spec.react ss r) := by
  obtain ⟨h1, h2, h3, h4⟩ := h
  cases r with
  | truthy => exact ⟨rfl, rfl, rfl, Bool.noConfusion⟩
  | falsy => exact ⟨h1, h2, h3, h4⟩
  | raise e => exact ⟨rfl, h2, rfl, fun _ => rfl⟩

theorem loop_eq (sc : Script) (sid : Nat) (fuel : Nat) : ∀ (st : St) (ls : Impl.Loop) (ss : Spec.Loop),
    Rel ls ss →
    (Impl.loop sc sid fuel st ls).1 = (Spec.loop sc sid fuel st ss).1 ∧
    Rel (Impl.loop sc sid fuel st ls).2 (Spec.loop sc sid fuel st ss).2 := by
  induction fuel with
  | zero => intro st ls ss h; exact ⟨rfl, h⟩
  | succ f ih =>
    intro st ls ss h
    unfold Impl.loop Spec.loop
    split
    · exact ⟨rfl, h⟩
    · rw [h.1]
      exact ih _ _ _ (rel_react h _)

theorem outcome_eq {ls ss} (h : Rel ls ss) (body : Outcome) :
    Impl.outcome body ls = Spec.outcome body ss := by
  obtain ⟨h1, h2, h3, h4⟩ := h
  unfold Impl.outcome Spec.outcome
  rw [h1, h2, h3]
  cases hr : ls.reraise
  · simp
  · simp [h4 hr]

theorem unwind_eq (sc : Script) (st : St) (sid : Nat) (body : Outcome) :
    Impl.unwind sc st sid body = Spec.unwind sc st sid body := by
  have h := loop_eq sc sid ((st.stacks sid).length + st.budget) st _ _ (rel_init body)
  unfold Impl.unwind Spec.unwind
  simp only [h.1, outcome_eq h.2]

theorem unwind_fun_eq (sc : Script) : Impl.unwind sc = Spec.unwind sc := by
  funext st sid body; exact unwind_eq sc st sid body


@[simp] theorem setStack_stacks (st : St) (sid : Nat) (v : List Item) (j : Nat) :
    (st.setStack sid v).stacks j = if j = sid then v else st.stacks j := rfl
@[simp] theorem setStack_nstacks (st : St) (sid : Nat) (v : List Item) :
    (st.setStack sid v).nstacks = st.nstacks := rfl
@[simp] theorem setStack_log (st : St) (sid : Nat) (v : List Item) : (st.setStack sid v).log = st.log := rfl
@[simp] theorem setStack_outs (st : St) (sid : Nat) (v : List Item) : (st.setStack sid v).outs = st.outs := rfl
@[simp] theorem setStack_regs (st : St) (sid : Nat) (v : List Item) : (st.setStack sid v).regs = st.regs := rfl
@[simp] theorem setStack_budget (st : St) (sid : Nat) (v : List Item) :
    (st.setStack sid v).budget = st.budget := rfl

@[simp] theorem popAllAt_stacks (st : St) (sid j : Nat) :
    (popAllAt st sid).stacks j =
      if j = sid then [] else if j = st.nstacks then st.stacks sid else st.stacks j := rfl
@[simp] theorem popAllAt_nstacks (st : St) (sid : Nat) : (popAllAt st sid).nstacks = st.nstacks + 1 := rfl
@[simp] theorem popAllAt_log (st : St) (sid : Nat) : (popAllAt st sid).log = st.log := rfl
@[simp] theorem popAllAt_outs (st : St) (sid : Nat) : (popAllAt st sid).outs = st.outs := rfl
@[simp] theorem popAllAt_regs (st : St) (sid : Nat) : (popAllAt st sid).regs = st.regs := rfl
@[simp] theorem popAllAt_budget (st : St) (sid : Nat) : (popAllAt st sid).budget = st.budget := rfl

@[simp] theorem registerAt_stacks (st : St) (sid : Nat) (it : Item) (j : Nat) :
    (registerAt st sid it).stacks j = if j = sid then it :: st.stacks sid else st.stacks j := rfl
@[simp] theorem registerAt_nstacks (st : St) (sid : Nat) (it : Item) :
    (registerAt st sid it).nstacks = st.nstacks := rfl
@[simp] theorem registerAt_log (st : St) (sid : Nat) (it : Item) : (registerAt st sid it).log = st.log := rfl
@[simp] theorem registerAt_outs (st : St) (sid : Nat) (it : Item) : (registerAt st sid it).outs = st.outs := rfl
@[simp] theorem registerAt_regs (st : St) (sid : Nat) (it : Item) :
    (registerAt st sid it).regs = st.regs ++ [it.id] := rfl
@[simp] theorem registerAt_budget (st : St) (sid : Nat) (it : Item) :
    (registerAt st sid it).budget = st.budget := rfl

def itemIds (l : List Item) : List Nat := l.map (·.id)
def St.logIds (st : St) : List Nat := st.log.map (·.id)

@[simp] theorem itemIds_nil : itemIds [] = [] := rfl
@[simp] theorem itemIds_cons (it : Item) (l : List Item) : itemIds (it :: l) = it.id :: itemIds l := rfl

/-- the exits `recs` of stack `sid` have been popped and logged; `keep` is left on the deque -/
def St.ran (st : St) (sid : Nat) (keep : List Item) (recs : List Rec) : St :=
  { st with stacks := fun j => if j = sid then keep else st.stacks j, log := st.log ++ recs }

theorem St.ran_ran (st : St) (sid : Nat) (k k' : List Item) (r r' : List Rec) :
    (st.ran sid k r).ran sid k' r' = st.ran sid k' (r ++ r') := by
  unfold St.ran
  congr 1
  · funext j; dsimp only; split <;> rfl
  · exact List.append_assoc ..

theorem St.ran_self (st : St) (sid : Nat) : st.ran sid (st.stacks sid) [] = st := by
  have : (fun j => if j = sid then st.stacks sid else st.stacks j) = st.stacks :=
    funext fun j => by split <;> simp [*]
  simp only [St.ran, this, List.append_nil]

theorem St.ran_stacks (st : St) (sid : Nat) (k : List Item) (r : List Rec) :
    (st.ran sid k r).stacks sid = k :=
  if_pos rfl

/-- the item an action registers, if any -/
def Act.item? : Act → Option Item
  | .popAll => none
  | .push id => some ⟨id, false⟩
  | .callback id => some ⟨id, true⟩

theorem lateRegister_pos (st : St) (sid : Nat) (it : Item) (h : 0 < st.budget) :
    lateRegister st sid it = registerAt { st with budget := st.budget - 1 } sid it :=
  if_neg (Nat.ne_of_gt h)

theorem applyAct_cases (sid : Nat) (st : St) (a : Act) :
    applyAct sid st a = popAllAt st sid ∨ applyAct sid st a = st ∨
      0 < st.budget ∧ ∃ it, applyAct sid st a = registerAt { st with budget := st.budget - 1 } sid it := by
  have late : ∀ it, lateRegister st sid it = st ∨ 0 < st.budget ∧
      ∃ it', lateRegister st sid it = registerAt { st with budget := st.budget - 1 } sid it' := by
    intro it
    by_cases h : st.budget = 0
    · exact .inl (if_pos h)
    · exact .inr ⟨Nat.pos_of_ne_zero h, it, if_neg h⟩
  cases a with
  | popAll => exact .inl rfl
  | push id => exact .inr (late _)
  | callback id => exact .inr (late _)

/-- what the stack actions of an exit running on stack `sid` can have done when the state went
    from `s` to `t`: they neither run nor finish anything, leave the other existing stacks alone,
    do not increase `len(deque) + budget`, and what is on the deque afterwards was there before or
    was registered meanwhile -/
structure Acted (sid : Nat) (s t : St) : Prop where
  log : t.log = s.log
  outs : t.outs = s.outs
  nstacks : s.nstacks ≤ t.nstacks
  measure : (t.stacks sid).length + t.budget ≤ (s.stacks sid).length + s.budget
  frame : ∀ j, j ≠ sid → j < s.nstacks → t.stacks j = s.stacks j
  sub : ∃ new, t.regs = s.regs ++ new ∧
    ∀ x, x ∈ itemIds (t.stacks sid) → x ∈ itemIds (s.stacks sid) ∨ x ∈ new

theorem Acted.refl (sid : Nat) (s : St) : Acted sid s s :=
  ⟨rfl, rfl, Nat.le_refl _, Nat.le_refl _, fun _ _ _ => rfl,
    [], (List.append_nil _).symm, fun _ h => .inl h⟩

theorem Acted.trans {sid : Nat} {s t u : St} (h1 : Acted sid s t) (h2 : Acted sid t u) :
    Acted sid s u := by
  obtain ⟨n1, e1, s1⟩ := h1.sub
  obtain ⟨n2, e2, s2⟩ := h2.sub
  refine ⟨h2.log.trans h1.log, h2.outs.trans h1.outs, Nat.le_trans h1.nstacks h2.nstacks,
    Nat.le_trans h2.measure h1.measure,
    fun j hj hlt => (h2.frame j hj (Nat.lt_of_lt_of_le hlt h1.nstacks)).trans (h1.frame j hj hlt),
    n1 ++ n2, by rw [e2, e1, List.append_assoc], fun x hx => ?_⟩
  rcases s2 x hx with h | h
  · exact (s1 x h).imp_right (List.mem_append_left _)
  · exact .inr (List.mem_append_right _ h)

theorem Acted.act (sid : Nat) (st : St) (a : Act) : Acted sid st (applyAct sid st a) := by
  rcases applyAct_cases sid st a with h | h | ⟨hb, it, h⟩ <;> rw [h]
  · exact ⟨rfl, rfl, Nat.le_succ _, by simp, fun j hj hlt => by simp [hj, Nat.ne_of_lt hlt],
      [], (List.append_nil _).symm, fun x hx => by simp at hx⟩
  · exact .refl sid st
  · exact ⟨rfl, rfl, Nat.le_refl _, by simp; omega, fun j hj _ => if_neg hj,
      [it.id], rfl, fun x hx => by simpa [or_comm] using hx⟩

theorem Acted.acts (sid : Nat) (acts : List Act) : ∀ st, Acted sid st (acts.foldl (applyAct sid) st) := by
  induction acts with
  | nil => exact Acted.refl sid
  | cons a r ih => exact fun st => (Acted.act sid st a).trans (ih _)

theorem invoke_acted (sc : Script) (sid : Nat) (st : St) (it : Item) (rest : List Item)
    (infl : Option ExcId) :
    Acted sid (st.ran sid rest [⟨it.id, sid, it.cb, it.handed infl⟩]) (invoke sc sid st it rest infl).1 :=
  Acted.acts sid _ _

theorem invoke_log (sc : Script) (sid : Nat) (st : St) (it : Item) (rest : List Item) (infl : Option ExcId) :
    (invoke sc sid st it rest infl).1.log = st.log ++ [⟨it.id, sid, it.cb, it.handed infl⟩] :=
  (invoke_acted ..).log

theorem invoke_measure (sc : Script) (sid : Nat) (st : St) (it : Item) (rest : List Item)
    (infl : Option ExcId) :
    ((invoke sc sid st it rest infl).1.stacks sid).length + (invoke sc sid st it rest infl).1.budget
      ≤ rest.length + st.budget := by
  have h := (invoke_acted sc sid st it rest infl).measure
  rwa [St.ran_stacks] at h

theorem invoke_stack_sub (sc : Script) (sid : Nat) (st : St) (it : Item) (rest : List Item)
    (infl : Option ExcId) :
    ∃ new, (invoke sc sid st it rest infl).1.regs = st.regs ++ new ∧
      ∀ x, x ∈ itemIds ((invoke sc sid st it rest infl).1.stacks sid) → x ∈ itemIds rest ∨ x ∈ new := by
  have h := (invoke_acted sc sid st it rest infl).sub
  rwa [St.ran_stacks] at h

theorem loop_succ_cons (sc : Script) (sid : Nat) (f : Nat) (st : St) (ls : Impl.Loop) (it : Item)
    (rest : List Item) (heq : st.stacks sid = it :: rest) :
    Impl.loop sc sid (f + 1) st ls =
      Impl.loop sc sid f (invoke sc sid st it rest ls.exc).1
        (Impl.react ls (invoke sc sid st it rest ls.exc).2) := by
  simp only [Impl.loop, heq]

theorem loop_nil (sc : Script) (sid : Nat) (f : Nat) (st : St) (ls : Impl.Loop)
    (heq : st.stacks sid = []) : Impl.loop sc sid f st ls = (st, ls) := by
  cases f with
  | zero => rfl
  | succ f => simp only [Impl.loop, heq]

/-- the fuel `unwind` hands to the loop is enough: the deque is empty when the loop ends -/
theorem loop_done (sc : Script) (sid : Nat) (fuel : Nat) (st : St) (ls : Impl.Loop)
    (h : (st.stacks sid).length + st.budget ≤ fuel) : (Impl.loop sc sid fuel st ls).1.stacks sid = [] := by
  fun_induction Impl.loop sc sid fuel st ls with
  | case1 st ls => exact List.eq_nil_of_length_eq_zero (Nat.le_zero.mp (Nat.le_trans (Nat.le_add_right ..) h))
  | case2 fuel st ls heq => exact heq
  | case3 fuel st ls it rest heq r ih =>
    have : (r.1.stacks sid).length + r.1.budget ≤ rest.length + st.budget := invoke_measure ..
    rw [heq, List.length_cons] at h
    exact ih (by omega)

theorem loop_frame (sc : Script) (sid : Nat) (j : Nat) (hj : j ≠ sid) (fuel : Nat) (st : St)
    (ls : Impl.Loop) (hlt : j < st.nstacks) : (Impl.loop sc sid fuel st ls).1.stacks j = st.stacks j := by
  fun_induction Impl.loop sc sid fuel st ls with
  | case1 | case2 => rfl
  | case3 fuel st ls it rest heq r ih =>
    have ha := invoke_acted sc sid st it rest ls.exc
    exact (ih (Nat.lt_of_lt_of_le hlt ha.nstacks)).trans ((ha.frame j hj hlt).trans (if_neg hj))

theorem loop_outs (sc : Script) (sid : Nat) (fuel : Nat) : ∀ (st : St) (ls : Impl.Loop),
    (Impl.loop sc sid fuel st ls).1.outs = st.outs := by
  intro st ls
  fun_induction Impl.loop sc sid fuel st ls with
  | case1 | case2 => rfl
  | case3 fuel st ls it rest heq r ih => exact ih.trans (invoke_acted ..).outs

theorem loop_ran_from (sc : Script) (sid : Nat) (fuel : Nat) (st : St) (ls : Impl.Loop) :
    ∃ tail new, (Impl.loop sc sid fuel st ls).1.log = st.log ++ tail ∧
      (Impl.loop sc sid fuel st ls).1.regs = st.regs ++ new ∧
      ∀ r, r ∈ tail → r.sid = sid ∧ (r.id ∈ itemIds (st.stacks sid) ∨ r.id ∈ new) := by
  fun_induction Impl.loop sc sid fuel st ls with
  | case1 | case2 => exact ⟨[], [], by simp⟩
  | case3 fuel st ls it rest heq r ih =>
    obtain ⟨n1, e1, s1⟩ := invoke_stack_sub sc sid st it rest ls.exc
    obtain ⟨tail, n2, hl, hr, hs⟩ := ih
    refine ⟨⟨it.id, sid, it.cb, it.handed ls.exc⟩ :: tail, n1 ++ n2, ?_, ?_, ?_⟩
    · rw [hl, invoke_log, List.append_assoc]; rfl
    · rw [hr, e1, List.append_assoc]
    · intro r' hr'
      rcases List.mem_cons.mp hr' with h | h
      · subst h; exact ⟨rfl, .inl (by simp [heq])⟩
      · refine ⟨(hs r' h).1, ?_⟩
        rcases (hs r' h).2 with h2 | h2
        · rcases s1 _ h2 with h3 | h3
          · exact .inl (by simp [heq, h3])
          · exact .inr (List.mem_append_left _ h3)
        · exact .inr (List.mem_append_right _ h2)


/-- every registered exit is either in the log (it ran, once) or on exactly one stack (once) -/
structure HInv (st : St) : Prop where
  logNodup : st.logIds.Nodup
  stackNodup : ∀ sid, (itemIds (st.stacks sid)).Nodup
  logStack : ∀ sid x, x ∈ itemIds (st.stacks sid) → x ∉ st.logIds
  stackStack : ∀ s1 s2 x, s1 ≠ s2 → x ∈ itemIds (st.stacks s1) → x ∉ itemIds (st.stacks s2)
  known : ∀ x, (x ∈ st.logIds ∨ ∃ sid, x ∈ itemIds (st.stacks sid)) → x ∈ st.regs
  complete : ∀ x, x ∈ st.regs → x ∈ st.logIds ∨ ∃ sid, x ∈ itemIds (st.stacks sid)

/-- stacks that do not exist yet are empty -/
def Fresh (st : St) : Prop := ∀ j, st.nstacks ≤ j → st.stacks j = []

/-- the invariant: unconditional part + the part that needs distinct registrations -/
def Inv (st : St) : Prop := Fresh st ∧ (st.regs.Nodup → HInv st)

theorem hinv_places {st : St} : HInv st ↔
    Places st.logIds (fun s => itemIds (st.stacks s)) st.regs ∧
    Complete st.logIds (fun s => itemIds (st.stacks s)) st.regs :=
  ⟨fun ⟨a, b, c, d, e, f⟩ => ⟨⟨a, b, c, d, e⟩, f⟩, fun ⟨⟨a, b, c, d, e⟩, f⟩ => ⟨a, b, c, d, e, f⟩⟩

theorem HInv.congr {st st' : St} (h : HInv st) (h1 : st'.stacks = st.stacks) (h2 : st'.log = st.log)
    (h3 : st'.regs = st.regs) : HInv st' := by
  rw [hinv_places] at h ⊢
  rwa [St.logIds, h1, h2, h3]

/-- `callback = self._exit_callbacks.pop()` + the invocation is logged -/
theorem HInv.pop {st : St} (h : HInv st) (sid : Nat) (it : Item) (rest : List Item)
    (heq : st.stacks sid = it :: rest) (r : Rec) (hr : r.id = it.id) :
    HInv (st.ran sid rest [r]) := by
  obtain ⟨p, c⟩ := hinv_places.mp h
  have hp : (itemIds (st.stacks sid)).Perm (itemIds rest ++ [it.id]) := by
    rw [heq]; exact List.perm_append_comm (l₁ := [it.id])
  have hl : (st.ran sid rest [r]).logIds = st.logIds ++ [it.id] := by
    simp only [St.ran, St.logIds, List.map_append, List.map_cons, List.map_nil, hr]
  have hs : itemIds ((st.ran sid rest [r]).stacks sid) = itemIds rest := congrArg itemIds (if_pos rfl)
  have ho : ∀ j, j ≠ sid → itemIds ((st.ran sid rest [r]).stacks j) = itemIds (st.stacks j) :=
    fun j hj => congrArg itemIds (if_neg hj)
  rw [hinv_places, hl]
  exact ⟨p.run sid hp hs ho, c.run sid hp hs ho⟩

/-- `self._exit_callbacks.append(...)` of a new object -/
theorem HInv.register {st : St} (h : HInv st) (sid : Nat) (it : Item) (hfresh : it.id ∉ st.regs) :
    HInv (registerAt st sid it) := by
  obtain ⟨p, c⟩ := hinv_places.mp h
  have hs : (itemIds ((registerAt st sid it).stacks sid)).Perm (it.id :: itemIds (st.stacks sid)) := by
    rw [registerAt_stacks, if_pos rfl]; exact .refl _
  have ho : ∀ j, j ≠ sid → itemIds ((registerAt st sid it).stacks j) = itemIds (st.stacks j) :=
    fun j hj => congrArg itemIds (if_neg hj)
  exact hinv_places.mpr ⟨p.register sid it.id hfresh hs ho, c.register sid it.id hs ho⟩

/-- `pop_all` into a stack slot that is still empty -/
theorem HInv.popAll {st : St} (h : HInv st) (sid : Nat) (hne : sid ≠ st.nstacks)
    (hempty : st.stacks st.nstacks = []) : HInv (popAllAt st sid) := by
  obtain ⟨p, c⟩ := hinv_places.mp h
  have hs : ∀ j, itemIds ((popAllAt st sid).stacks j) =
      if j = sid then [] else if j = st.nstacks then itemIds (st.stacks sid) else itemIds (st.stacks j) := by
    intro j; rw [popAllAt_stacks, apply_ite itemIds, apply_ite itemIds]; rfl
  have ht := congrArg itemIds hempty
  exact hinv_places.mpr ⟨p.popAll sid _ ht hs, c.popAll sid _ ht hs⟩


theorem Inv.lt_of_cons {st : St} (h : Inv st) {sid : Nat} {it : Item} {rest : List Item}
    (heq : st.stacks sid = it :: rest) : sid < st.nstacks := by
  apply Nat.lt_of_not_le
  intro hle
  have := h.1 sid hle
  rw [heq] at this; cases this

theorem Inv.pop {st : St} (h : Inv st) (sid : Nat) (it : Item) (rest : List Item)
    (heq : st.stacks sid = it :: rest) (r : Rec) (hr : r.id = it.id) :
    Inv (st.ran sid rest [r]) :=
  ⟨fun j hj => (if_neg (Nat.ne_of_gt (Nat.lt_of_lt_of_le (h.lt_of_cons heq) hj))).trans (h.1 j hj),
    fun hnd => (h.2 hnd).pop sid it rest heq r hr⟩

theorem Inv.registerAt {st : St} (h : Inv st) (sid : Nat) (it : Item) (hs : sid < st.nstacks) :
    Inv (registerAt st sid it) := by
  refine ⟨fun j hj => (if_neg (Nat.ne_of_gt (Nat.lt_of_lt_of_le hs hj))).trans (h.1 j hj), fun hnd => ?_⟩
  have hnd' := List.nodup_append.mp hnd
  exact (h.2 hnd'.1).register sid it fun hm => hnd'.2.2 _ hm _ (List.mem_singleton.mpr rfl) rfl

theorem Inv.budget {st : St} (h : Inv st) (b : Nat) : Inv { st with budget := b } :=
  ⟨h.1, fun hnd => (h.2 hnd).congr rfl rfl rfl⟩

theorem Inv.outs {st : St} (h : Inv st) (o : List Left) : Inv { st with outs := o } :=
  ⟨h.1, fun hnd => (h.2 hnd).congr rfl rfl rfl⟩

theorem Inv.popAllAt {st : St} (h : Inv st) (sid : Nat) (hs : sid < st.nstacks) :
    Inv (popAllAt st sid) := by
  constructor
  · intro j hj
    have hj' : st.nstacks + 1 ≤ j := hj
    simp only [popAllAt_stacks]
    rw [if_neg (by omega), if_neg (by omega)]
    exact h.1 j (by omega)
  · intro hnd
    exact (h.2 hnd).popAll sid (by omega) (h.1 _ (Nat.le_refl _))

theorem Inv.applyAct {st : St} (h : Inv st) (sid : Nat) (a : Act) (hs : sid < st.nstacks) :
    Inv (applyAct sid st a) := by
  rcases applyAct_cases sid st a with e | e | ⟨-, it, e⟩ <;> rw [e]
  · exact h.popAllAt sid hs
  · exact h
  · exact (h.budget _).registerAt sid it hs

theorem Inv.applyActs (sid : Nat) (acts : List Act) : ∀ {st : St}, Inv st → sid < st.nstacks →
    Inv (acts.foldl (ExitStackRe.applyAct sid) st) := by
  induction acts with
  | nil => intro st h _; exact h
  | cons a r ih =>
    intro st h hs
    exact ih (h.applyAct sid a hs) (Nat.lt_of_lt_of_le hs (Acted.act sid st a).nstacks)

theorem Inv.invoke {st : St} (h : Inv st) (sc : Script) (sid : Nat) (it : Item) (rest : List Item)
    (heq : st.stacks sid = it :: rest) (infl : Option ExcId) :
    Inv (invoke sc sid st it rest infl).1 := by
  simp only [ExitStackRe.invoke]
  exact Inv.applyActs sid _ (h.pop sid it rest heq _ rfl) (h.lt_of_cons heq)

theorem Inv.loop (sc : Script) (sid : Nat) (fuel : Nat) {st : St} (ls : Impl.Loop) (h : Inv st) :
    Inv (Impl.loop sc sid fuel st ls).1 := by
  fun_induction Impl.loop sc sid fuel st ls with
  | case1 | case2 => exact h
  | case3 fuel st ls it rest heq r ih => exact ih (h.invoke sc sid it rest heq ls.exc)

theorem Inv.unwind {st : St} (h : Inv st) (sc : Script) (sid : Nat) (body : Outcome) :
    Inv (Impl.unwind sc st sid body) := by
  unfold Impl.unwind
  exact (Inv.loop sc sid _ _ h).outs _

theorem Inv.step {st : St} (h : Inv st) (sc : Script) (op : Op) :
    Inv (stepWith (Impl.unwind sc) st op) := by
  cases op with
  | register sid it =>
    simp only [stepWith]; split
    · rename_i hs; exact h.registerAt sid it hs
    · exact h
  | leave sid body => exact h.unwind sc sid body
  | aclose sid => exact h.unwind sc sid .normal
  | popAll sid =>
    simp only [stepWith]; split
    · rename_i hs; exact h.popAllAt sid hs
    · exact h

theorem Inv.run (sc : Script) (ops : List Op) : ∀ {st : St}, Inv st → Inv (Impl.run sc ops st) := by
  induction ops with
  | nil => intro st h; exact h
  | cons op r ih =>
    intro st h
    exact ih (h.step sc op)

theorem Inv.init (items : List Item) (budget : Nat) : Inv (St.init items budget) := by
  have hr : (St.init items budget).regs = (itemIds items).reverse := List.map_reverse
  refine ⟨fun j hj => if_neg (Nat.ne_of_gt hj), fun hnd => hinv_places.mpr ⟨?_, fun x hx => ?_⟩⟩
  · rw [hr] at hnd ⊢
    exact Places.single ((List.reverse_perm _).nodup_iff.mp hnd) (fun x hx => List.mem_reverse.mpr hx) 0
      rfl fun j hj => congrArg itemIds (if_neg hj)
  · exact .inr ⟨0, List.mem_reverse.mp (hr ▸ hx)⟩


theorem loop_cons_log (sc : Script) (sid fuel : Nat) {st : St} {it : Item} {rest : List Item}
    (ls : Impl.Loop) (heq : st.stacks sid = it :: rest) :
    ∃ tail, (Impl.loop sc sid (fuel + 1) st ls).1.log =
      st.log ++ ⟨it.id, sid, it.cb, it.handed ls.exc⟩ :: tail := by
  obtain ⟨tail, _, ht, -, -⟩ := loop_ran_from sc sid fuel (invoke sc sid st it rest ls.exc).1
    (Impl.react ls (invoke sc sid st it rest ls.exc).2)
  exact ⟨tail, by rw [loop_succ_cons sc sid fuel st ls it rest heq, ht, invoke_log, List.append_assoc]; rfl⟩

theorem applyAct_budget (sid : Nat) (st : St) (a : Act) :
    st.budget ≤ (applyAct sid st a).budget + 1 := by
  rcases applyAct_cases sid st a with h | h | ⟨hb, it, h⟩ <;> rw [h]
  · exact Nat.le_succ _
  · exact Nat.le_succ _
  · exact Nat.le_of_eq (Nat.sub_add_cancel hb).symm

theorem applyActs_budget (sid : Nat) (acts : List Act) : ∀ (st : St),
    st.budget ≤ (acts.foldl (applyAct sid) st).budget + acts.length := by
  induction acts with
  | nil => intro st; simp
  | cons a r ih =>
    intro st
    have h1 := applyAct_budget sid st a
    have h2 := ih (applyAct sid st a)
    simp only [List.foldl_cons, List.length_cons]
    omega

/-- a registering action with budget left puts its item on top of the deque being unwound -/
theorem applyAct_item (sid : Nat) (st : St) (a : Act) (it' : Item) (ha : a.item? = some it')
    (hb : 0 < st.budget) : (applyAct sid st a).stacks sid = it' :: st.stacks sid := by
  cases a with
  | popAll => simp [Act.item?] at ha
  | push id =>
    simp only [Act.item?, Option.some.injEq] at ha; subst ha
    simp only [applyAct]; rw [lateRegister_pos _ _ _ hb]; simp
  | callback id =>
    simp only [Act.item?, Option.some.injEq] at ha; subst ha
    simp only [applyAct]; rw [lateRegister_pos _ _ _ hb]; simp

/-- if the last stack action of the running exit registers `it'` (and the budget allows it),
    `it'` is on top of the deque when the exit returns -/
theorem invoke_last_register (sc : Script) (sid : Nat) (st : St) (it : Item) (rest : List Item)
    (infl : Option ExcId) (pre : List Act) (a : Act) (it' : Item) (ha : a.item? = some it')
    (hacts : (sc.beh it.id (it.handed infl)).1 = pre ++ [a]) (hbud : pre.length < st.budget) :
    ∃ below, (invoke sc sid st it rest infl).1.stacks sid = it' :: below := by
  simp only [invoke, hacts, List.foldl_append, List.foldl_cons, List.foldl_nil]
  refine ⟨_, applyAct_item sid _ a it' ha ?_⟩
  have key : ∀ st1 : St, st1.budget = st.budget → 0 < (pre.foldl (applyAct sid) st1).budget := by
    intro st1 h1
    have := applyActs_budget sid pre st1
    omega
  exact key _ rfl

/-- the exit registered last by a running exit is the next one to run on that stack, and is
    handed the exception in flight after the registering exit answered -/
theorem loop_runs_registered_next (sc : Script) (sid : Nat) (fuel : Nat) (st : St) (ls : Impl.Loop)
    (it : Item) (rest : List Item) (heq : st.stacks sid = it :: rest)
    (pre : List Act) (a : Act) (it' : Item) (ha : a.item? = some it')
    (hacts : (sc.beh it.id (it.handed ls.exc)).1 = pre ++ [a]) (hbud : pre.length < st.budget) :
    ∃ tail, (Impl.loop sc sid (fuel + 2) st ls).1.log =
      st.log ++ [⟨it.id, sid, it.cb, it.handed ls.exc⟩,
                 ⟨it'.id, sid, it'.cb,
                  it'.handed (Impl.react ls (it.resp (sc.beh it.id (it.handed ls.exc)).2)).exc⟩] ++ tail := by
  obtain ⟨below, hb⟩ := invoke_last_register sc sid st it rest ls.exc pre a it' ha hacts hbud
  obtain ⟨tail, ht⟩ := loop_cons_log sc sid fuel (Impl.react ls (invoke sc sid st it rest ls.exc).2) hb
  exact ⟨tail, by rw [loop_succ_cons sc sid (fuel + 1) st ls it rest heq, ht, invoke_log]; simp [invoke]⟩

theorem invoke_popAll (sc : Script) (sid : Nat) (st : St) (it : Item) (rest : List Item)
    (infl : Option ExcId) (hs : sid < st.nstacks) (post : List Act)
    (hacts : (sc.beh it.id (it.handed infl)).1 = .popAll :: post) :
    (invoke sc sid st it rest infl).1.stacks st.nstacks = rest ∧
    st.nstacks < (invoke sc sid st it rest infl).1.nstacks ∧
    ∃ new, (invoke sc sid st it rest infl).1.regs = st.regs ++ new ∧
      ∀ x, x ∈ itemIds ((invoke sc sid st it rest infl).1.stacks sid) → x ∈ new := by
  have ha : Acted sid (popAllAt (st.ran sid rest [⟨it.id, sid, it.cb, it.handed infl⟩]) sid)
      (invoke sc sid st it rest infl).1 := by
    simp only [invoke, hacts, List.foldl_cons]; exact Acted.acts sid post _
  obtain ⟨n, hn, hsub⟩ := ha.sub
  refine ⟨(ha.frame st.nstacks (Nat.ne_of_gt hs) (Nat.lt_succ_self _)).trans ?_,
    Nat.lt_of_lt_of_le (Nat.lt_succ_self _) ha.nstacks, n, hn,
    fun x hx => (hsub x hx).resolve_left (by simp)⟩
  simp [St.ran, Nat.ne_of_gt hs]

theorem loop_popAll (sc : Script) (sid fuel : Nat) (st : St) (ls : Impl.Loop)
    (it : Item) (rest : List Item) (post : List Act)
    (hs : sid < st.nstacks) (heq : st.stacks sid = it :: rest)
    (hacts : (sc.beh it.id (it.handed ls.exc)).1 = .popAll :: post) :
    (Impl.loop sc sid (fuel + 1) st ls).1.stacks st.nstacks = rest ∧
    ∃ tail new, (Impl.loop sc sid (fuel + 1) st ls).1.log =
        st.log ++ ⟨it.id, sid, it.cb, it.handed ls.exc⟩ :: tail ∧
      (Impl.loop sc sid (fuel + 1) st ls).1.regs = st.regs ++ new ∧
      ∀ r, r ∈ tail → r.sid = sid ∧ r.id ∈ new := by
  obtain ⟨hmoved, hn, n1, e1, s1⟩ := invoke_popAll sc sid st it rest ls.exc hs post hacts
  obtain ⟨tail, n2, hl, hr, hran⟩ := loop_ran_from sc sid fuel (invoke sc sid st it rest ls.exc).1
    (Impl.react ls (invoke sc sid st it rest ls.exc).2)
  rw [loop_succ_cons sc sid fuel st ls it rest heq]
  refine ⟨by rw [loop_frame sc sid st.nstacks (Nat.ne_of_gt hs) fuel _ _ hn, hmoved], tail, n1 ++ n2,
    by rw [hl, invoke_log, List.append_assoc]; rfl, by rw [hr, e1, List.append_assoc], fun r hr' => ?_⟩
  exact ⟨(hran r hr').1, (hran r hr').2.elim (fun h => List.mem_append_left _ (s1 _ h))
    (List.mem_append_right _)⟩


/-- the entry of `Machines/ExitStack.lean` that answers like the item and does nothing else -/
def entryOf (sc : Script) (it : Item) : Entry := ⟨it.id, it.cb, fun h => (sc.beh it.id h).2⟩

def toLoopSt (ls : Impl.Loop) (log : ExitLog) : LoopSt := ⟨ls.exc, ls.suppress, ls.reraise, log⟩

/-- the records a loop over action-free items produces ... -/
def quietRecs (sc : Script) (sid : Nat) : List Item → Impl.Loop → List Rec
  | [], _ => []
  | it :: rest, ls =>
    ⟨it.id, sid, it.cb, it.handed ls.exc⟩ ::
      quietRecs sc sid rest (Impl.react ls (it.resp (sc.beh it.id (it.handed ls.exc)).2))

/-- ... and its final local variables -/
def quietEnd (sc : Script) : List Item → Impl.Loop → Impl.Loop
  | [], ls => ls
  | it :: rest, ls => quietEnd sc rest (Impl.react ls (it.resp (sc.beh it.id (it.handed ls.exc)).2))

def Rec.pair (r : Rec) : Nat × Option ExcId := (r.id, r.handed)

theorem quietRecs_sid (sc : Script) (sid : Nat) (items : List Item) : ∀ (ls : Impl.Loop) (r : Rec),
    r ∈ quietRecs sc sid items ls → r.sid = sid := by
  induction items with
  | nil => intro ls r h; simp [quietRecs] at h
  | cons it rest ih =>
    intro ls r h
    simp only [quietRecs, List.mem_cons] at h
    rcases h with h | h
    · subst h; rfl
    · exact ih _ r h

theorem quietRecs_ids (sc : Script) (sid : Nat) (items : List Item) : ∀ (ls : Impl.Loop),
    (quietRecs sc sid items ls).map (·.id) = itemIds items := by
  induction items with
  | nil => intro ls; rfl
  | cons it rest ih => intro ls; simp [quietRecs, ih]

/-- one iteration of the loop of `Machines/ExitStack.lean`, in this machine's words -/
theorem stepLoop_toLoopSt (ls : Impl.Loop) (log : ExitLog) (en : Entry) :
    stepLoop (toLoopSt ls log) en =
      toLoopSt (Impl.react ls (en.run ls.exc)) (log ++ [(en.id, if en.isCallback then none else ls.exc)]) := by
  unfold stepLoop toLoopSt
  dsimp only
  cases en.run ls.exc <;> rfl

theorem entryOf_run (sc : Script) (it : Item) (infl : Option ExcId) :
    (entryOf sc it).run infl = it.resp (sc.beh it.id (it.handed infl)).2 := by
  obtain ⟨id, cb⟩ := it
  cases cb <;> rfl

theorem foldl_quiet (sc : Script) (sid : Nat) (items : List Item) : ∀ (ls : Impl.Loop) (log : ExitLog),
    (items.map (entryOf sc)).foldl stepLoop (toLoopSt ls log) =
      toLoopSt (quietEnd sc items ls) (log ++ (quietRecs sc sid items ls).map Rec.pair) := by
  induction items with
  | nil => intro ls log; simp [quietRecs, quietEnd]
  | cons it rest ih =>
    intro ls log
    simp only [List.map_cons, List.foldl_cons, stepLoop_toLoopSt, entryOf_run, ih, quietRecs, quietEnd,
      List.append_assoc, List.cons_append, List.nil_append]
    rfl

theorem outcome_toLoopSt (body : Outcome) (ls : Impl.Loop) (log : ExitLog) :
    Impl.outcome body ls = stOutcome body (toLoopSt ls log) := rfl

/-- `implExit` of `Machines/ExitStack.lean` on the corresponding entries (registration order) -/
theorem implExit_quiet (sc : Script) (sid : Nat) (items : List Item) (body : Outcome) :
    implExit (items.reverse.map (entryOf sc)) body =
      (Impl.outcome body (quietEnd sc items ⟨body.exc, false, false⟩),
       (quietRecs sc sid items ⟨body.exc, false, false⟩).map Rec.pair) := by
  have h := foldl_quiet sc sid items ⟨body.exc, false, false⟩ []
  have e : loopInit body = toLoopSt ⟨body.exc, false, false⟩ [] := rfl
  simp only [implExit, e, ← List.map_reverse, List.reverse_reverse, h, List.nil_append]
  rfl

theorem invoke_quiet (sc : Script) (sid : Nat) (st : St) (it : Item) (rest : List Item) (infl : Option ExcId)
    (h : (sc.beh it.id (it.handed infl)).1 = []) :
    invoke sc sid st it rest infl =
      (st.ran sid rest [⟨it.id, sid, it.cb, it.handed infl⟩], it.resp (sc.beh it.id (it.handed infl)).2) := by
  simp only [invoke, h, List.foldl_nil, St.ran, St.setStack]

/-- a loop over a deque of action-free exits: pop, run, next -/
theorem loop_quiet (sc : Script) (sid : Nat) (fuel : Nat) (st : St) (ls : Impl.Loop)
    (hq : ∀ it, it ∈ st.stacks sid → ∀ h, (sc.beh it.id h).1 = []) (hlen : (st.stacks sid).length ≤ fuel) :
    Impl.loop sc sid fuel st ls =
      (st.ran sid [] (quietRecs sc sid (st.stacks sid) ls), quietEnd sc (st.stacks sid) ls) := by
  have nil : ∀ (st : St) ls, st.stacks sid = [] →
      (st, ls) = (st.ran sid [] (quietRecs sc sid (st.stacks sid) ls), quietEnd sc (st.stacks sid) ls) := by
    intro st ls h
    have := st.ran_self sid
    rw [h] at this ⊢
    simp only [quietRecs, quietEnd, this]
  fun_induction Impl.loop sc sid fuel st ls with
  | case1 st ls => exact nil st ls (List.eq_nil_of_length_eq_zero (Nat.le_zero.mp hlen))
  | case2 fuel st ls heq => exact nil st ls heq
  | case3 fuel st ls it rest heq r ih =>
    rw [heq] at hq hlen ⊢
    simp only [r, invoke_quiet _ _ _ _ _ _ (hq it List.mem_cons_self _), St.ran_stacks] at ih ⊢
    rw [ih (fun i hi => hq i (List.mem_cons_of_mem _ hi)) (Nat.le_of_succ_le_succ hlen), St.ran_ran]
    rfl

/-- `__aexit__` on a deque of action-free exits -/
theorem unwind_quiet (sc : Script) (st : St) (sid : Nat) (body : Outcome)
    (hq : ∀ it, it ∈ st.stacks sid → ∀ h, (sc.beh it.id h).1 = []) :
    Impl.unwind sc st sid body =
      { st.setStack sid [] with
        log := st.log ++ quietRecs sc sid (st.stacks sid) ⟨body.exc, false, false⟩
        outs := st.outs ++ [⟨sid, Impl.outcome body (quietEnd sc (st.stacks sid) ⟨body.exc, false, false⟩),
                  (st.log ++ quietRecs sc sid (st.stacks sid) ⟨body.exc, false, false⟩).length⟩] } := by
  unfold Impl.unwind
  rw [loop_quiet sc sid _ st _ hq (Nat.le_add_right _ _)]
  rfl

theorem react_none {ls : Impl.Loop} {r : ExitResp} (h1 : ls.exc = none) (h2 : ls.reraise = false)
    (hr : ∀ e, r ≠ .raise e) : (Impl.react ls r).exc = none ∧ (Impl.react ls r).reraise = false := by
  cases r with
  | falsy => exact ⟨h1, h2⟩
  | truthy => exact ⟨rfl, rfl⟩
  | raise e => exact absurd rfl (hr e)

/-- nobody raises when handed nothing: everybody is handed nothing, and a normal block stays normal -/
theorem quiet_none (sc : Script) (sid : Nat) (items : List Item)
    (hnr : ∀ it, it ∈ items → ∀ e, it.resp (sc.beh it.id none).2 ≠ .raise e) :
    ∀ (ls : Impl.Loop), ls.exc = none → ls.reraise = false →
      quietRecs sc sid items ls = items.map (fun it => ⟨it.id, sid, it.cb, none⟩) ∧
      Impl.outcome .normal (quietEnd sc items ls) = .normal := by
  induction items with
  | nil => intro ls _ h2; exact ⟨rfl, by simp [quietEnd, Impl.outcome, h2]⟩
  | cons it rest ih =>
    intro ls h1 h2
    have hh : it.handed ls.exc = none := by rw [h1]; unfold Item.handed; split <;> rfl
    obtain ⟨e1, e2⟩ := react_none h1 h2 (hnr it List.mem_cons_self)
    obtain ⟨a, b⟩ := ih (fun i hi => hnr i (List.mem_cons_of_mem _ hi)) _ e1 e2
    simp only [quietRecs, quietEnd, hh, List.map_cons, a, b, and_self]

theorem foldl_aclose (uw : St → Nat → Outcome → St) (l : List Nat) : ∀ (st : St),
    (l.map Op.aclose).foldl (stepWith uw) st = l.foldl (fun s j => uw s j .normal) st := by
  induction l with
  | nil => intro st; rfl
  | cons a r ih => intro st; simp only [List.map_cons, List.foldl_cons, stepWith, ih]

theorem history_eq_run (uw : St → Nat → Outcome → St) (st : St) (body : Outcome) :
    historyWith uw st body = (harnessOps body (uw st 0 body).nstacks).foldl (stepWith uw) st := by
  simp only [historyWith, harnessOps, List.foldl_append, List.foldl_cons, List.foldl_nil, stepWith,
    foldl_aclose]

end AsyncVerif.ExitStackRe
