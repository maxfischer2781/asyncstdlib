import AsyncVerif.Machines.GroupByFault

/-!
# groupby under faults (`Machines/GroupByFault.lean`)

* `step_eq`, `sim_eq`: on a state satisfying `Inv`, `stepIF` (asyncstdlib) and `stepSF` (CPython) return the same
  state and the same output.  `advI` is "detach, `maybe_step`, then `afterStep`" (`advI_unfold`); `advS` is
  `post ∘ loopL`.  From a state that holds a key, `post ∘ loopL` is `afterStep` (`post_loopL`); from a state whose
  buffer is empty, `Inv` makes CPython's loop head take the very step `maybe_step` takes (`mustStep_of_consumed`).
  That is the only use of `Inv`; the group operations are equal on every state (`grpNext_eq`).
* `OpSpec`, `stepIF_spec`: what one operation of asyncstdlib does to the invariant, to the script (`Pulled`) and to
  what groups can still deliver (`pend`); `run_raised`, `run_delivered` add it up over a run.
* `stepIF_embed`, `stepSF_embed`, `run_embed`: on fault-free scripts (`ofItems`, `embed`) the two machines are those of
  `Machines/GroupBy.lean`.  `Proofs/GroupBy.lean` gets every fact about the fault-free machines from here.
-/
namespace AsyncVerif.GroupByFault
open AsyncVerif.GroupBy (Val Key Op)

/-! ## `advI` in the shape of `advS` -/

/-- Invariant of reachable states; it does not mention the script.
    `consumed`: the buffer is only ever emptied by the current group, which takes a value of its own key — so with an
    empty buffer `current_key` is still the target, and CPython's `tgtkey == currkey` test steps exactly where
    `maybe_step` does.  `grpTgt` is there to re-establish `consumed` when a group takes the value (`grpNextI_spec`). -/
structure Inv (s : St) : Prop where
  consumed : s.cur = none → s.curKey = none ∨ s.tgt = s.curKey
  haskey : s.cur.isSome → s.curKey.isSome
  notgt : s.curKey = none → s.tgt = none
  grpTgt : ∀ g, s.grp = some g → s.groups[g]? = s.tgt ∧ s.tgt.isSome

theorem Inv.setScript {s : St} (h : Inv s) (l : List Resp) : Inv { s with script := l } :=
  ⟨h.consumed, h.haskey, h.notgt, h.grpTgt⟩

theorem Inv.setGrpNone {s : St} (h : Inv s) : Inv { s with grp := none } :=
  ⟨h.consumed, h.haskey, h.notgt, nofun⟩

theorem inv_of_cur {s : St} (hc : s.cur.isSome) (hk : s.curKey.isSome) (hg : s.grp = none) : Inv s := by
  constructor
  · intro h; rw [h] at hc; cases hc
  · exact fun _ => hk
  · intro h; rw [h] at hk; cases hk
  · intro g h; rw [hg] at h; cases h

theorem stepOn_script (x : Resp) (r : List Resp) (s : St) : (stepOn x r s).1.script = r := by
  cases x <;> rfl

theorem stepOn_exc {x : Resp} {r : List Resp} {s s1 : St} {e : Exc} (h : stepOn x r s = (s1, some e)) :
    s1 = { s with script := r } := by
  cases x <;> simp [stepOn] at h <;> exact h.1.symm

theorem stepOn_ok {x : Resp} {r : List Resp} {s s1 : St} (h : stepOn x r s = (s1, none)) :
    ∃ v k, x = .item v k ∧ s1 = { s with script := r, cur := some v, curKey := some k } := by
  cases x <;> simp [stepOn] at h
  exact ⟨_, _, rfl, h.symm⟩

/-- how an advance ends, given how its loop ended: `advI` after `scanI`, `advS` after `loopS` -/
def post : St × LoopR → St × Out
  | (s, .stop) => (s, .stop)
  | (s, .exc e) => (s, .exc e)
  | (s, .found) => finish s

/-- the rest of `advI` after a successful `maybe_step` -/
def afterStep (s1 : St) : St × Out :=
  match s1.tgt with
  | none => finish s1
  | some t => post (scanI t s1)

theorem advI_unfold (s0 : St) :
    advI s0 =
      match maybeStep { s0 with grp := none } with
      | .stop => ({ s0 with grp := none }, .stop)
      | .exc s1 e => (s1, .exc e)
      | .ok s1 => afterStep s1 := by
  unfold advI afterStep
  simp only
  generalize maybeStep _ = m
  cases m with
  | stop => rfl
  | exc s1 e => rfl
  | ok s1 =>
    simp only
    cases s1.tgt with
    | none => rfl
    | some t =>
      simp only [post]
      rcases scanI t s1 with ⟨s2, b⟩
      cases b <;> rfl

theorem advS_unfold (s : St) : advS s = post (loopL s.script { s with grp := none }) := by
  unfold advS post; rfl

theorem mustStep_eq {s : St} {t : Key} (hk : s.curKey.isSome) (ht : s.tgt = some t) :
    mustStep s = decide (s.curKey = some t) := by
  obtain ⟨ck, hck⟩ := Option.isSome_iff_exists.mp hk
  simp only [mustStep, hck, ht, Option.some.injEq, eq_comm]

theorem loopL_break {s : St} (h : mustStep s = false) (l : List Resp) :
    loopL l s = ({ s with script := l }, .found) := by
  cases l <;> simp only [loopL, h] <;> rfl

/-- Once a key is stored and a target is set, both stay so along the loop, and there `mustStep` is the scan's test
    `current_key == target_key` (`mustStep_eq`). -/
theorem loopL_eq_scanL (t : Key) : ∀ (l : List Resp) (s : St), s.curKey.isSome → s.tgt = some t →
    loopL l s = scanL t l s := by
  intro l
  induction l with
  | nil => intro s hk ht; simp only [loopL, scanL, mustStep_eq hk ht, decide_eq_true_eq]
  | cons x r ih =>
    intro s hk ht
    simp only [loopL, scanL, mustStep_eq hk ht, decide_eq_true_eq]
    split
    · cases x with
      | item v k => exact ih _ rfl ht
      | keyErr v e => rfl
      | srcErr e => rfl
    · rfl

theorem post_loopL (s : St) (hk : s.curKey.isSome) : post (loopL s.script s) = afterStep s := by
  unfold afterStep
  cases ht : s.tgt with
  | none =>
    obtain ⟨ck, hck⟩ := Option.isSome_iff_exists.mp hk
    rw [loopL_break (by simp only [mustStep, hck, ht])]; rfl
  | some t => rw [loopL_eq_scanL t _ _ hk ht]; rfl

/-! ## What one operation of asyncstdlib pulls and delivers (`OpSpec`) -/

/-- the exception a script entry raises when pulled -/
def faultOf : Resp → Option Exc
  | .item _ _ => none | .keyErr _ e => some e | .srcErr e => some e

/-- the value a script entry contributes to the stream seen by groups -/
def valOf : Resp → Option Val
  | .item v _ => some v | _ => none

def outExc : Out → Option Exc | .exc e => some e | _ => none
def outItem : Out → Option Val | .item v => some v | _ => none

def faults (l : List Resp) : List Exc := l.filterMap faultOf
def values (l : List Resp) : List Val := l.filterMap valOf
/-- the exceptions delivered to the consumer, in order -/
def raised (o : List Out) : List Exc := o.filterMap outExc
/-- the items delivered by group handles, in order -/
def delivered (o : List Out) : List Val := o.filterMap outItem

/-- `Pulled before oe after`: an operation that found the script `before` and left it `after` pulled successful
    entries only (`oe = none`), or successful entries followed by exactly one failing entry, whose exception `oe`
    it reports, and nothing after it. -/
inductive Pulled : List Resp → Option Exc → List Resp → Prop
  | done (l : List Resp) : Pulled l none l
  | item (v : Val) (k : Key) {r : List Resp} {oe : Option Exc} {r' : List Resp} :
      Pulled r oe r' → Pulled (.item v k :: r) oe r'
  | fault {x : Resp} {e : Exc} (r : List Resp) : faultOf x = some e → Pulled (x :: r) (some e) r

theorem Pulled.trans {a b c : List Resp} {oe : Option Exc} (h1 : Pulled a none b) (h2 : Pulled b oe c) :
    Pulled a oe c := by
  generalize hn : (none : Option Exc) = o at h1
  induction h1 with
  | done l => exact h2
  | item v k _ ih => exact .item v k (ih h2 hn)
  | fault r hf => cases hn

/-- the form in which `C16_fault_delivered_by_puller` states `Pulled` -/
theorem Pulled.explicit {a b : List Resp} {oe : Option Exc} (h : Pulled a oe b) :
    ∃ pre, (∀ x ∈ pre, faultOf x = none) ∧
      ((oe = none ∧ a = pre ++ b) ∨ (∃ x e, oe = some e ∧ faultOf x = some e ∧ a = pre ++ x :: b)) := by
  induction h with
  | done l => exact ⟨[], by simp, .inl ⟨rfl, rfl⟩⟩
  | item v k _ ih =>
    obtain ⟨pre, hp, h⟩ := ih
    refine ⟨.item v k :: pre, ?_, ?_⟩
    · intro x hx
      rcases List.mem_cons.mp hx with rfl | hx
      · rfl
      · exact hp x hx
    · rcases h with ⟨h1, h2⟩ | ⟨x, e, h1, h2, h3⟩
      · exact .inl ⟨h1, by rw [h2]; rfl⟩
      · exact .inr ⟨x, e, h1, h2, by rw [h3]; rfl⟩
  | fault r hf => exact ⟨[], by simp, .inr ⟨_, _, rfl, hf, rfl⟩⟩

/-- the exceptions of the pulled entries are exactly the reported one -/
theorem Pulled.split {a b : List Resp} {oe : Option Exc} (h : Pulled a oe b) :
    ∃ pulled, a = pulled ++ b ∧ faults pulled = oe.toList := by
  induction h with
  | done l => exact ⟨[], rfl, rfl⟩
  | item v k _ ih =>
    obtain ⟨p, h1, h2⟩ := ih
    exact ⟨.item v k :: p, by rw [h1]; rfl, h2⟩
  | fault r hf => exact ⟨[_], rfl, by simp [faults, hf]⟩

theorem stepOn_pulled (x : Resp) (r : List Resp) (s : St) :
    Pulled (x :: r) (stepOn x r s).2 (stepOn x r s).1.script := by
  cases x with
  | item v k => exact .item v k (.done r)
  | keyErr v e => exact .fault r rfl
  | srcErr e => exact .fault r rfl

def loopExc : LoopR → Option Exc | .exc e => some e | _ => none

/-- what groups may still deliver: the buffered value, then the values of the successful script entries -/
def pend (s : St) : List Val := s.cur.toList ++ values s.script

theorem values_cons_item (v : Val) (k : Key) (r : List Resp) : values (.item v k :: r) = v :: values r := rfl
theorem values_cons_keyErr (v : Val) (e : Exc) (r : List Resp) : values (.keyErr v e :: r) = values r := rfl
theorem values_cons_srcErr (e : Exc) (r : List Resp) : values (.srcErr e :: r) = values r := rfl

theorem sublist_of_eq {a b : List Val} (h : a = b) : a.Sublist b := h ▸ .refl a

theorem sublist_drop_opt (o : Option Val) (l : List Val) : l.Sublist (o.toList ++ l) := by
  cases o <;> simp

theorem fault_step {s : St} {x : Resp} {e : Exc} {r : List Resp} (hs : s.script = x :: r)
    (hf : faultOf x = some e) :
    Pulled s.script (some e) r ∧ pend { s with script := r } = pend s := by
  refine ⟨by rw [hs]; exact .fault r hf, ?_⟩
  unfold pend; rw [hs]
  cases x with
  | item v k => cases hf
  | keyErr v e => rfl
  | srcErr e => rfl

/-- What the scan loop `scanL t l s` returns: target and group bookkeeping untouched; still a value and
    a key; items pulled and at most one failing entry, the last; values only dropped. -/
structure ScanSpec (l : List Resp) (s : St) (r : St × LoopR) : Prop where
  tgt : r.1.tgt = s.tgt
  grp : r.1.grp = s.grp
  groups : r.1.groups = s.groups
  holds : s.cur.isSome → s.curKey.isSome → r.1.cur.isSome ∧ r.1.curKey.isSome
  pulled : Pulled l (loopExc r.2) r.1.script
  pend : (pend r.1).Sublist (s.cur.toList ++ values l)

/-- Stated for the list `scanL` recurses on, not for `s.script` (which `scanL` ignores and overwrites); at
    `l = s.script`, as in `scanI`, the bound `s.cur.toList ++ values l` is `pend s`. -/
theorem scanL_spec (t : Key) : ∀ (l : List Resp) (s : St), ScanSpec l s (scanL t l s) := by
  intro l
  induction l with
  | nil =>
    intro s; rw [scanL]
    split <;> exact ⟨rfl, rfl, rfl, fun hc hk => ⟨hc, hk⟩, .done [], .refl _⟩
  | cons x r ih =>
    intro s
    rw [scanL]
    split
    · cases x with
      | item v k =>
        have a := ih { s with script := r, cur := some v, curKey := some k }
        exact ⟨a.tgt, a.grp, a.groups, fun _ _ => a.holds rfl rfl, .item v k a.pulled,
          a.pend.trans (sublist_drop_opt s.cur _)⟩
      | keyErr v e => exact ⟨rfl, rfl, rfl, fun hc hk => ⟨hc, hk⟩, .fault r rfl, .refl _⟩
      | srcErr e => exact ⟨rfl, rfl, rfl, fun hc hk => ⟨hc, hk⟩, .fault r rfl, .refl _⟩
    · exact ⟨rfl, rfl, rfl, fun hc hk => ⟨hc, hk⟩, .done _, .refl _⟩

theorem finish_frame (s : St) : (finish s).1.script = s.script ∧ (finish s).1.cur = s.cur := by
  unfold finish; split <;> exact ⟨rfl, rfl⟩

theorem finish_out (s : St) : outExc (finish s).2 = none ∧ outItem (finish s).2 = none := by
  unfold finish; split <;> exact ⟨rfl, rfl⟩

theorem finish_grp (s : St) :
    (finish s).1.grp = s.grp ∨ (outExc (finish s).2 = none ∧ (finish s).1.grp = some s.groups.length) := by
  unfold finish; split
  · exact .inl rfl
  · exact .inr ⟨rfl, rfl⟩

theorem finish_inv (s : St) (hc : s.cur.isSome) (hk : s.curKey.isSome) : Inv (finish s).1 := by
  obtain ⟨k, hk'⟩ := Option.isSome_iff_exists.mp hk
  unfold finish
  simp only [hk']
  refine ⟨fun h => ?_, fun _ => rfl, nofun, fun g hg => ?_⟩
  · rw [show s.cur = none from h] at hc; cases hc
  · cases hg; simp

/-- `maybe_step` succeeded: the value was there already, or the next script entry, an item, was stored -/
inductive Fetch (s : St) : St → Prop
  | held : s.cur.isSome → Fetch s s
  | stored (v : Val) (k : Key) (r : List Resp) : s.cur = none → s.script = .item v k :: r →
      Fetch s { s with script := r, cur := some v, curKey := some k }

theorem maybeStep_cases (s : St) :
    (s.cur = none ∧ s.script = [] ∧ maybeStep s = .stop)
    ∨ (∃ x e r, s.cur = none ∧ s.script = x :: r ∧ faultOf x = some e
        ∧ maybeStep s = .exc { s with script := r } e)
    ∨ ∃ s1, maybeStep s = .ok s1 ∧ Fetch s s1 := by
  obtain ⟨script, cur, curKey, tgt, grp, groups⟩ := s
  cases cur with
  | some v => exact .inr (.inr ⟨_, rfl, .held rfl⟩)
  | none =>
    cases script with
    | nil => exact .inl ⟨rfl, rfl, rfl⟩
    | cons x r =>
      cases x with
      | item v k => exact .inr (.inr ⟨_, rfl, .stored v k r rfl rfl⟩)
      | keyErr v e => exact .inr (.inl ⟨_, e, r, rfl, rfl, rfl, rfl⟩)
      | srcErr e => exact .inr (.inl ⟨_, e, r, rfl, rfl, rfl, rfl⟩)

/-- what a successful `maybe_step` from `s` to `s1` keeps -/
structure FetchSpec (s s1 : St) : Prop where
  cur : s1.cur.isSome
  tgt : s1.tgt = s.tgt
  grp : s1.grp = s.grp
  groups : s1.groups = s.groups
  pulled : Pulled s.script none s1.script
  pend : pend s1 = pend s
  inv : Inv s → Inv s1

theorem Fetch.spec {s s1 : St} (h : Fetch s s1) : FetchSpec s s1 := by
  cases h with
  | held hc => exact ⟨hc, rfl, rfl, rfl, .done _, rfl, id⟩
  | stored v k r hc hs =>
    refine ⟨rfl, rfl, rfl, rfl, by rw [hs]; exact .item v k (.done r), ?_,
      fun hi => ⟨nofun, fun _ => rfl, nofun, hi.grpTgt⟩⟩
    unfold GroupByFault.pend; rw [hc, hs]; rfl

/-- What `afterStep s1` returns.  `inv` does not assume `Inv s1`: the result either holds a value and has no current
    group (`inv_of_cur`) or comes out of `finish`, which sets target and group together (`finish_inv`). -/
structure AfterSpec (s1 : St) (r : St × Out) : Prop where
  pulled : Pulled s1.script (outExc r.2) r.1.script
  noItem : outItem r.2 = none
  pend : (pend r.1).Sublist (pend s1)
  grp : r.1.grp = s1.grp ∨ (outExc r.2 = none ∧ r.1.grp = some s1.groups.length)
  inv : s1.cur.isSome → s1.curKey.isSome → s1.grp = none → Inv r.1

theorem AfterSpec.finish {s1 s2 : St} (hp : Pulled s1.script none s2.script)
    (hd : (GroupByFault.pend s2).Sublist (GroupByFault.pend s1)) (hg : s2.grp = s1.grp)
    (hgs : s2.groups = s1.groups)
    (hc : s1.cur.isSome → s1.curKey.isSome → s2.cur.isSome ∧ s2.curKey.isSome) :
    AfterSpec s1 (finish s2) := by
  refine ⟨?_, (finish_out s2).2, ?_, ?_, fun h1 h2 _ => finish_inv s2 (hc h1 h2).1 (hc h1 h2).2⟩
  · rw [(finish_out s2).1, (finish_frame s2).1]; exact hp
  · unfold GroupByFault.pend at hd ⊢; rw [(finish_frame s2).1, (finish_frame s2).2]; exact hd
  · rw [← hg, ← hgs]; exact finish_grp s2

theorem afterStep_spec (s1 : St) : AfterSpec s1 (afterStep s1) := by
  unfold afterStep
  split
  · exact .finish (.done _) (.refl _) rfl rfl fun a b => ⟨a, b⟩
  · rename_i t _
    have sc := scanL_spec t s1.script s1
    unfold scanI
    rcases hsc : scanL t s1.script s1 with ⟨s2, b⟩
    rw [hsc] at sc
    cases b with
    | found => exact .finish sc.pulled sc.pend sc.grp sc.groups sc.holds
    | stop =>
      exact ⟨sc.pulled, rfl, sc.pend, .inl sc.grp, fun h1 h2 hg =>
        inv_of_cur (sc.holds h1 h2).1 (sc.holds h1 h2).2 (sc.grp.trans hg)⟩
    | exc e =>
      exact ⟨sc.pulled, rfl, sc.pend, .inl sc.grp, fun h1 h2 hg =>
        inv_of_cur (sc.holds h1 h2).1 (sc.holds h1 h2).2 (sc.grp.trans hg)⟩

/-- What one operation does: it keeps the state consistent; it pulls successful entries and at most one
    failing entry, the last, whose exception it reports; what it delivers plus what may still be delivered
    afterwards is a subsequence of what could be delivered before. -/
structure OpSpec (s : St) (r : St × Out) : Prop where
  inv : Inv s → Inv r.1
  pulled : Pulled s.script (outExc r.2) r.1.script
  pend : ((outItem r.2).toList ++ pend r.1).Sublist (pend s)

theorem advI_spec (s : St) : OpSpec s (advI s) := by
  rw [advI_unfold]
  rcases maybeStep_cases { s with grp := none } with ⟨_, _, hm⟩ | ⟨x, e, r, _, hs, hf, hm⟩ | ⟨s1, hm, hf⟩ <;> rw [hm]
  · exact ⟨fun h => h.setGrpNone, .done _, .refl _⟩
  · obtain ⟨hp, hd⟩ := fault_step hs hf
    exact ⟨fun h => h.setGrpNone.setScript r, hp, sublist_of_eq hd⟩
  · have f := hf.spec
    have a := afterStep_spec s1
    refine ⟨fun h => a.inv f.cur ((f.inv h.setGrpNone).haskey f.cur) f.grp, f.pulled.trans a.pulled, ?_⟩
    rw [a.noItem]
    exact a.pend.trans (sublist_of_eq f.pend)

theorem grpNextI_spec (s : St) (g : Nat) : OpSpec s (grpNextI s g) := by
  unfold grpNextI
  split
  · exact ⟨id, .done _, .refl _⟩
  · rename_i hg
    rcases maybeStep_cases s with ⟨_, _, hm⟩ | ⟨x, e, r, _, hs, hf, hm⟩ | ⟨s1, hm, hf⟩ <;> rw [hm]
    · exact ⟨id, .done _, .refl _⟩
    · obtain ⟨hp, hd⟩ := fault_step hs hf
      exact ⟨fun h => h.setScript r, hp, sublist_of_eq hd⟩
    · have f := hf.spec
      have same : OpSpec s (s1, .stop) := ⟨f.inv, f.pulled, sublist_of_eq f.pend⟩
      simp only
      split
      · exact same
      · rename_i hk
        split
        · exact same
        · rename_i v hv
          refine ⟨fun hinv => ?_, f.pulled, ?_⟩
          · have hI1 := f.inv hinv
            have htg := (hinv.grpTgt g (Decidable.not_not.1 hg)).1
            exact ⟨fun _ => .inr (f.tgt.trans (htg.symm.trans (Decidable.not_not.1 hk))), nofun,
              hI1.notgt, hI1.grpTgt⟩
          · rw [← f.pend]
            show (v :: values s1.script).Sublist (s1.cur.toList ++ values s1.script)
            rw [hv]; exact .refl _

theorem stepIF_spec (s : St) (op : Op) : OpSpec s (stepIF s op) := by
  cases op with
  | adv => exact advI_spec s
  | grpNext g => exact grpNextI_spec s g
  | grpClose g =>
    show OpSpec s (grpClose s g, .closed)
    unfold grpClose; split
    · exact ⟨fun h => h.setGrpNone, .done _, .refl _⟩
    · exact ⟨id, .done _, .refl _⟩

theorem grpNextI_exc_state (s : St) (g : Nat) (e : Exc) (h : (grpNextI s g).2 = .exc e) :
    (grpNextI s g).1 = { s with script := (grpNextI s g).1.script } := by
  unfold grpNextI at h ⊢
  split
  · rfl
  · rename_i hg
    rw [if_neg hg] at h
    rcases maybeStep_cases s with ⟨_, _, hm⟩ | ⟨_, _, _, _, _, _, hm⟩ | ⟨s1, hm, _⟩
    · rw [hm]
    · rw [hm]
    · rw [hm] at h
      simp only at h
      split at h
      · cases h
      · split at h <;> cases h

theorem advI_grp (s : St) :
    (advI s).1.grp = none ∨ (outExc (advI s).2 = none ∧ (advI s).1.grp = some s.groups.length) := by
  rw [advI_unfold]
  rcases maybeStep_cases { s with grp := none } with ⟨_, _, hm⟩ | ⟨_, _, _, _, _, _, hm⟩ | ⟨s1, hm, hf⟩
    <;> rw [hm]
  · exact .inl rfl
  · exact .inl rfl
  · have := (afterStep_spec s1).grp
    rw [hf.spec.grp, hf.spec.groups] at this; exact this

theorem advI_exc_grp (s : St) (e : Exc) (h : (advI s).2 = .exc e) : (advI s).1.grp = none := by
  rcases advI_grp s with hg | ⟨hx, _⟩
  · exact hg
  · rw [h] at hx; cases hx

/-! ## The two machines agree on every state satisfying `Inv` -/

theorem mustStep_of_consumed {s : St} (h : Inv s) (hc : s.cur = none) : mustStep s = true := by
  unfold mustStep
  cases hk : s.curKey with
  | none => rfl
  | some ck =>
    rcases h.consumed hc with h' | h' <;> rw [hk] at h'
    · cases h'
    · simp only [h', decide_true]

theorem adv_eq (s : St) (hinv : Inv s) : advI s = advS s := by
  rw [advI_unfold, advS_unfold]
  obtain ⟨script, cur, curKey, tgt, grp, groups⟩ := s
  have h0 := hinv.setGrpNone
  rcases maybeStep_cases ⟨script, cur, curKey, tgt, none, groups⟩
    with ⟨hc, hs, hm⟩ | ⟨x, e, r, hc, hs, hf, hm⟩ | ⟨s1, hm, hf⟩ <;> rw [hm]
  · cases (hs : script = [])
    simp only [loopL, mustStep_of_consumed h0 hc, if_true]; rfl
  · cases (hs : script = x :: r)
    simp only [loopL, mustStep_of_consumed h0 hc, if_true]
    cases x with
    | item v k => cases hf
    | keyErr v e => cases hf; rfl
    | srcErr e => cases hf; rfl
  · cases hf with
    | held hc => exact (post_loopL _ (h0.haskey hc)).symm
    | stored v k r hc hs =>
      cases (hs : script = .item v k :: r)
      simp only [loopL, mustStep_of_consumed h0 hc, if_true]
      exact (post_loopL ⟨r, some v, some k, tgt, none, groups⟩ rfl).symm

theorem grpNext_eq (s : St) (g : Nat) : grpNextI s g = grpNextS s g := by
  obtain ⟨script, cur, curKey, tgt, grp, groups⟩ := s
  cases cur <;> rfl

theorem step_eq (s : St) (hinv : Inv s) (op : Op) : stepIF s op = stepSF s op := by
  cases op with
  | adv => exact adv_eq s hinv
  | grpNext g => exact grpNext_eq s g
  | grpClose g => rfl

theorem init_inv (script : List Resp) : Inv (init script) := by
  constructor <;> simp [init]

/-- the state after a whole operation sequence -/
def final (f : St → Op → St × Out) : St → List Op → St
  | s, [] => s
  | s, op :: ops => final f (f s op).1 ops

theorem sim_eq : ∀ (ops : List Op) (s : St), Inv s →
    run stepIF s ops = run stepSF s ops ∧ remaining stepIF s ops = remaining stepSF s ops
    ∧ final stepIF s ops = final stepSF s ops := by
  intro ops
  induction ops with
  | nil => intro s _; exact ⟨rfl, rfl, rfl⟩
  | cons op rest ih =>
    intro s hinv
    obtain ⟨h1, h2, h3⟩ := ih _ ((stepIF_spec s op).inv hinv)
    simp only [run, remaining, final, ← step_eq s hinv op, h1, h2, h3, and_self]

/-! ## `OpSpec` added up over a run -/

theorem raised_cons (o : Out) (l : List Out) : raised (o :: l) = (outExc o).toList ++ raised l := by
  unfold raised; rw [List.filterMap_cons]
  cases outExc o <;> rfl

theorem delivered_cons (o : Out) (l : List Out) : delivered (o :: l) = (outItem o).toList ++ delivered l := by
  unfold delivered; rw [List.filterMap_cons]
  cases outItem o <;> rfl

/-- over a whole run: the exceptions delivered are the faults of the consumed prefix of the script -/
theorem run_raised : ∀ (ops : List Op) (s : St),
    ∃ pulled, s.script = pulled ++ (final stepIF s ops).script ∧
      raised (run stepIF s ops) = faults pulled := by
  intro ops
  induction ops with
  | nil => intro s; exact ⟨[], rfl, rfl⟩
  | cons op rest ih =>
    intro s
    obtain ⟨p1, h1, h2⟩ := (stepIF_spec s op).pulled.split
    obtain ⟨p2, h3, h4⟩ := ih (stepIF s op).1
    refine ⟨p1 ++ p2, ?_, ?_⟩
    · rw [final, List.append_assoc, ← h3, ← h1]
    · rw [run, raised_cons, h4, ← h2, faults, faults, faults, List.filterMap_append]

theorem run_delivered : ∀ (ops : List Op) (s : St), (delivered (run stepIF s ops)).Sublist (pend s) := by
  intro ops
  induction ops with
  | nil => intro s; exact List.nil_sublist _
  | cons op rest ih =>
    intro s
    refine List.Sublist.trans ?_ (stepIF_spec s op).pend
    rw [run, delivered_cons]
    exact List.Sublist.append (.refl _) (ih (stepIF s op).1)

/-! ## Without faults the machines are the ones of `Machines/GroupBy.lean`

A `0` in a name (`post0`, `afterStep0`, `advI0_unfold`, `loopL0_unfold`, `remaining0`) means: about the fault-free
machine `GroupBy.*`.  `loopL0_unfold` puts `GroupBy.loopL`, whose loop head is written out as nested matches, in the
shape of `loopL` (one test `mustStep`). -/

def ofBool : Bool → LoopR | true => .found | false => .stop

theorem scanL_embed (t : Key) : ∀ (items : List (Val × Key)) (s : GroupBy.St),
    scanL t (ofItems items) (embed s) =
      (embed (GroupBy.scanL t items s).1, ofBool (GroupBy.scanL t items s).2) := by
  intro items
  induction items with
  | nil =>
    intro s
    rw [GroupBy.scanL]
    by_cases h : s.curKey = some t
    · rw [if_pos h]; exact if_pos h
    · rw [if_neg h]; exact if_neg h
  | cons p r ih =>
    intro s
    obtain ⟨v, k⟩ := p
    rw [GroupBy.scanL]
    by_cases h : s.curKey = some t
    · rw [if_pos h]; exact (if_pos h).trans (ih { s with items := r, cur := some v, curKey := some k })
    · rw [if_neg h]; exact if_neg h

theorem loopL0_unfold (items : List (Val × Key)) (s : GroupBy.St) :
    GroupBy.loopL items s =
      if mustStep (embed s) then
        match items with
        | [] => ({ s with items := [] }, false)
        | (v, k) :: r => GroupBy.loopL r { s with items := r, cur := some v, curKey := some k }
      else ({ s with items := items }, true) := by
  obtain ⟨_, cur, curKey, tgt, grp, groups⟩ := s
  cases items with
  | nil =>
    cases curKey <;> cases tgt <;>
      simp only [GroupBy.loopL, mustStep, embed, decide_eq_true_eq, if_true, Bool.false_eq_true, if_false]
  | cons p r =>
    obtain ⟨v, k⟩ := p
    cases curKey <;> cases tgt <;>
      simp only [GroupBy.loopL, mustStep, embed, decide_eq_true_eq, if_true, Bool.false_eq_true, if_false]

theorem loopL_embed : ∀ (items : List (Val × Key)) (s : GroupBy.St),
    loopL (ofItems items) (embed s) =
      (embed (GroupBy.loopL items s).1, ofBool (GroupBy.loopL items s).2) := by
  intro items
  induction items with
  | nil =>
    intro s
    rw [loopL0_unfold]
    show loopL [] (embed s) = _
    rw [loopL]
    cases mustStep (embed s) <;> rfl
  | cons p r ih =>
    intro s
    obtain ⟨v, k⟩ := p
    rw [loopL0_unfold]
    show loopL (.item v k :: ofItems r) (embed s) = _
    rw [loopL]
    cases mustStep (embed s)
    · rfl
    · exact ih { s with items := r, cur := some v, curKey := some k }

/-- a result of the fault-free machine as a result of this one -/
def emb (r : GroupBy.St × GroupBy.Out) : St × Out := (embed r.1, liftOut r.2)

def post0 : GroupBy.St × Bool → GroupBy.St × GroupBy.Out
  | (s, false) => (s, .stop)
  | (s, true) => GroupBy.finish s

theorem finish_embed (s : GroupBy.St) : finish (embed s) = emb (GroupBy.finish s) := by
  obtain ⟨items, cur, curKey, tgt, grp, groups⟩ := s
  cases curKey <;> rfl

theorem post_embed (r : GroupBy.St × Bool) : post (embed r.1, ofBool r.2) = emb (post0 r) := by
  obtain ⟨s, b⟩ := r
  cases b with
  | false => rfl
  | true => exact finish_embed s

def afterStep0 (s1 : GroupBy.St) : GroupBy.St × GroupBy.Out :=
  match s1.tgt with
  | none => GroupBy.finish s1
  | some t => post0 (GroupBy.scanI t s1)

theorem afterStep_embed (s1 : GroupBy.St) : afterStep (embed s1) = emb (afterStep0 s1) := by
  obtain ⟨items, cur, curKey, tgt, grp, groups⟩ := s1
  cases tgt with
  | none => exact finish_embed _
  | some t =>
    show post (scanL t (ofItems items) (embed ⟨items, cur, curKey, some t, grp, groups⟩)) = _
    rw [scanL_embed]
    exact post_embed _

theorem maybeStep_embed (s : GroupBy.St) :
    maybeStep (embed s) = match (if s.cur.isNone then GroupBy.step s else some s) with
      | none => .stop
      | some s1 => .ok (embed s1) := by
  obtain ⟨items, cur, curKey, tgt, grp, groups⟩ := s
  cases cur with
  | some v => rfl
  | none => cases items <;> rfl

theorem advI0_unfold (s0 : GroupBy.St) :
    GroupBy.advI s0 =
      match (if s0.cur.isNone then GroupBy.step { s0 with grp := none } else some { s0 with grp := none }) with
      | none => ({ s0 with grp := none }, .stop)
      | some s1 => afterStep0 s1 := by
  unfold GroupBy.advI afterStep0
  simp only
  generalize (if s0.cur.isNone then GroupBy.step { s0 with grp := none } else some { s0 with grp := none }) = m
  cases m with
  | none => rfl
  | some s1 =>
    simp only
    cases s1.tgt with
    | none => rfl
    | some t =>
      simp only [post0]
      rcases GroupBy.scanI t s1 with ⟨s2, b⟩
      cases b <;> rfl

theorem advI_embed (s : GroupBy.St) : advI (embed s) = emb (GroupBy.advI s) := by
  rw [advI_unfold, advI0_unfold]
  show (match maybeStep (embed { s with grp := none }) with
    | .stop => _ | .exc s1 e => _ | .ok s1 => _) = _
  rw [maybeStep_embed]
  show (match (match (if s.cur.isNone then GroupBy.step { s with grp := none } else some { s with grp := none })
      with | none => StepR.stop | some s1 => .ok (embed s1)) with
    | .stop => _ | .exc s1 e => _ | .ok s1 => _) = _
  cases (if s.cur.isNone then GroupBy.step { s with grp := none } else some { s with grp := none }) with
  | none => rfl
  | some s1 => exact afterStep_embed s1

theorem advS_embed (s : GroupBy.St) : advS (embed s) = emb (GroupBy.advS s) := by
  have h1 : advS (embed s) = post (loopL (ofItems s.items) (embed { s with grp := none })) :=
    advS_unfold (embed s)
  have h2 : GroupBy.advS s = post0 (GroupBy.loopL s.items { s with grp := none }) := by
    unfold GroupBy.advS post0; rfl
  rw [h1, h2, loopL_embed]
  exact post_embed _

theorem grpNextI_embed (s : GroupBy.St) (g : Nat) : grpNextI (embed s) g = emb (GroupBy.grpNext s g) := by
  unfold grpNextI GroupBy.grpNext
  rw [maybeStep_embed]
  show (if s.grp ≠ some g then _ else _) = _
  by_cases hg : s.grp ≠ some g
  · rw [if_pos hg, if_pos hg]; rfl
  · rw [if_neg hg, if_neg hg]
    cases (if s.cur.isNone then GroupBy.step s else some s) with
    | none => rfl
    | some s1 =>
      show (if s.groups[g]? ≠ s1.curKey then _ else _) = _
      by_cases hk : s.groups[g]? ≠ s1.curKey
      · simp only [if_pos hk]; rfl
      · simp only [if_neg hk]
        show (match s1.cur with | none => _ | some v => _) = _
        cases s1.cur <;> rfl

theorem grpClose_embed (s : GroupBy.St) (g : Nat) : grpClose (embed s) g = embed (GroupBy.grpClose s g) := by
  unfold grpClose GroupBy.grpClose
  rw [apply_ite embed]; rfl

theorem stepIF_embed (s : GroupBy.St) (op : Op) : stepIF (embed s) op = emb (GroupBy.stepI s op) := by
  cases op with
  | adv => exact advI_embed s
  | grpNext g => exact grpNextI_embed s g
  | grpClose g => show (grpClose (embed s) g, Out.closed) = _; rw [grpClose_embed]; rfl

theorem stepSF_embed (s : GroupBy.St) (op : Op) : stepSF (embed s) op = emb (GroupBy.stepS s op) := by
  cases op with
  | adv => exact advS_embed s
  | grpNext g => exact (grpNext_eq _ g).symm.trans (grpNextI_embed s g)
  | grpClose g => exact stepIF_embed s (.grpClose g)

/-- the fault-free machine's unread items, per operation -/
def remaining0 (f0 : GroupBy.St → Op → GroupBy.St × GroupBy.Out) : GroupBy.St → List Op → List Nat
  | _, [] => []
  | s, op :: ops => (f0 s op).1.items.length :: remaining0 f0 (f0 s op).1 ops

theorem run_embed {f : St → Op → St × Out} {f0 : GroupBy.St → Op → GroupBy.St × GroupBy.Out}
    (hf : ∀ s op, f (embed s) op = emb (f0 s op)) :
    ∀ (ops : List Op) (s : GroupBy.St), run f (embed s) ops = (GroupBy.run f0 s ops).map liftOut
      ∧ remaining f (embed s) ops = remaining0 f0 s ops := by
  intro ops
  induction ops with
  | nil => intro s; exact ⟨rfl, rfl⟩
  | cons op rest ih =>
    intro s
    simp only [run, remaining, GroupBy.run, remaining0, List.map_cons, hf, emb, ih, true_and]
    rw [show (embed (f0 s op).1).script.length = _ from List.length_map ..]

theorem embed_init (items : List (Val × Key)) : embed (GroupBy.init items) = init (ofItems items) := rfl

end AsyncVerif.GroupByFault
