import AsyncVerif.Proofs.CachedProperty
/-!
# cached_property — one `sched`: what its micro-steps do, and that it always reaches a suspension
# point or the end of the task

First the pieces: `release`, `complete` and `micro` in closed form along a getter run, and the
induction principles `micro_ind` / `schedN_ind` through which every two-state fact about `sched` is
proved.  Then: the micro-step budget is never exhausted from a reachable state (`step_not_stuck`, by
the measure `rank`), and between operations no task sits at a transient program counter (`Inv'`).
-/
namespace AsyncVerif.CachedProperty

/-! ## what the pieces of a micro-step do -/

theorem instanceValue_of_slot (s : State) (p : Nat) (x : Stored) (h : s.slot (s.phInst p) = some x) :
    instanceValue s p = (s, x) := by
  simp [instanceValue, access, h]

theorem release_frame (cfg : Cfg) (s : State) (p : Nat) : ∃ lk, release cfg s p = { s with lock := lk } := by
  unfold release; split
  · exact ⟨_, rfl⟩
  · exact ⟨s.lock, rfl⟩

theorem release_pc (cfg : Cfg) (s : State) (p : Nat) : (release cfg s p).pc = s.pc := by
  obtain ⟨lk, e⟩ := release_frame cfg s p; rw [e]

theorem awaitStored_frame (s : State) (t t' : Nat) (x : Stored) (hne : t' ≠ t) :
    (awaitStored s t x).1.pc t' = s.pc t' := by
  cases x <;> simp [awaitStored, setPc, hne]

theorem complete_fst (cfg : Cfg) (s : State) (t p r : Nat) : ∃ lk, (complete cfg s t p r).1 =
    { s with
      slot := if cfg.ok r then fun i => if i = s.phInst p then some (.val r) else s.slot i else s.slot
      lock := lk
      run := fun r' => if r' = r then { s.run r with st := if cfg.ok r then .returned else .raised } else s.run r'
      pc := fun t' => if t' = t then .done (if cfg.ok r then .ok r else .failed r) else s.pc t' } := by
  unfold complete
  split
  · rename_i hok
    obtain ⟨lk, e⟩ := release_frame cfg (setSlot s (s.phInst p) (some (.val r))) p
    exact ⟨lk, by simp only [e, hok]; rfl⟩
  · rename_i hok
    obtain ⟨lk, e⟩ := release_frame cfg s p
    exact ⟨lk, by simp only [e, hok]; rfl⟩

theorem complete_snd (cfg : Cfg) (s : State) (t p r : Nat) :
    (complete cfg s t p r).2 = some (if cfg.ok r then .ret r else .raised r) := by
  unfold complete; split <;> simp [*]

theorem complete_frame (cfg : Cfg) (s : State) (t p r t' : Nat) (hne : t' ≠ t) :
    (complete cfg s t p r).1.pc t' = s.pc t' := by
  obtain ⟨lk, e⟩ := complete_fst cfg s t p r
  rw [e]; exact if_neg hne

theorem micro_start_ph (cfg : Cfg) (s : State) (t p : Nat) (hpc : s.pc t = .start (.ph p)) :
    micro cfg s t = (setPc s t (.entered p), none) := by
  simp [micro, hpc]

theorem micro_entered_other (cfg : Cfg) (s : State) (t p : Nat) {x : Stored} (hpc : s.pc t = .entered p)
    (hs : s.slot (s.phInst p) = some x) (hne : x ≠ .ph p) : micro cfg s t = awaitStored s t x := by
  simp [micro, hpc, instanceValue_of_slot s p _ hs, hne]

theorem micro_entered_none (cfg : Cfg) (s : State) (t p : Nat) (hpc : s.pc t = .entered p)
    (hs : s.slot (s.phInst p) = none) (hp : p < s.nextP) :
    micro cfg s t = (setPc (newPh s (s.phInst p)) t (.entered s.nextP), none) := by
  have : s.nextP ≠ p := by omega
  simp [micro, hpc, instanceValue, access, hs, this, awaitStored]

theorem micro_entered_self (cfg : Cfg) (s : State) (t q : Nat) (hpc : s.pc t = .entered q)
    (hs : s.slot (s.phInst q) = some (.ph q)) (hl : s.lock q = none) :
    micro cfg s t = (setPc (if cfg.lock then setLock s q (some t) else s) t (.holding q), none) := by
  cases hlk : cfg.lock <;> simp [micro, hpc, instanceValue_of_slot s q _ hs, hl, hlk]

theorem micro_holding_self (cfg : Cfg) (s : State) (t q : Nat) (hpc : s.pc t = .holding q)
    (hs : s.slot (s.phInst q) = some (.ph q)) : micro cfg s t = (startRunSt cfg s t q, none) := by
  simp [micro, hpc, instanceValue_of_slot s q _ hs]

theorem micro_getter_succ (cfg : Cfg) (s : State) (t p r k : Nat) (hpc : s.pc t = .getter p r (k + 1)) :
    micro cfg s t = (setPc s t (.getter p r k), some (.suspended r)) := by
  simp [micro, hpc]

theorem micro_getter0 (cfg : Cfg) (s : State) (t p r : Nat) (hpc : s.pc t = .getter p r 0) :
    micro cfg s t = complete cfg s t p r := by
  simp [micro, hpc]

/-- `micro` is a composition of primitive moves of task `t`: read the instance's slot (which may
    create a placeholder), move `t` while changing the lock table (a task inside a getter run stays
    inside it), start a getter run, end one.  A predicate that survives each of them survives `micro`. -/
theorem micro_ind (cfg : Cfg) (s : State) (t : Nat) {P : State → Prop} (h0 : P s)
    (hacc : ∀ p, s.pc t = .entered p ∨ s.pc t = .holding p → P (instanceValue s p).1)
    (hmove : ∀ s' lk x, P s' → (∀ p r k, s.pc t = .getter p r k → ∃ k', x = .getter p r k') →
      P (setPc { s' with lock := lk } t x))
    (hstart : ∀ p, s.pc t = .holding p → (instanceValue s p).2 = .ph p → P (instanceValue s p).1 →
      P (startRunSt cfg (instanceValue s p).1 t p))
    (hend : ∀ p r, s.pc t = .getter p r 0 → P (complete cfg s t p r).1) : P (micro cfg s t).1 := by
  unfold micro
  split
  · exact h0
  · exact h0
  · rename_i hpc; exact hmove s s.lock _ h0 (by simp [hpc])
  · rename_i hpc; exact hmove s s.lock _ h0 (by simp [hpc])
  · rename_i p hpc
    have h1 := hacc p (.inl hpc)
    have hx : ∀ x : Pc, ∀ p r k, s.pc t = .getter p r k → ∃ k', x = .getter p r k' := by simp [hpc]
    generalize instanceValue s p = r at h1
    obtain ⟨s1, x⟩ := r
    simp only at h1 ⊢
    split
    · split
      · split
        · exact hmove s1 s1.lock _ h1 (hx _)
        · exact hmove s1 _ _ h1 (hx _)
      · exact hmove s1 s1.lock _ h1 (hx _)
    · cases x <;> exact hmove s1 s1.lock _ h1 (hx _)
  · rename_i p hpc
    split
    · exact h0
    · exact hmove s _ _ h0 (by simp [hpc])
  · rename_i p hpc
    have h1 := hacc p (.inr hpc)
    have h2 := hstart p hpc
    have hx : ∀ x : Pc, ∀ p r k, s.pc t = .getter p r k → ∃ k', x = .getter p r k' := by simp [hpc]
    generalize instanceValue s p = r at h1 h2
    obtain ⟨s1, x⟩ := r
    simp only at h1 h2 ⊢
    split
    · rename_i e; exact h2 e h1
    · obtain ⟨lk, e⟩ := release_frame cfg s1 p
      rw [e]
      cases x <;> exact hmove s1 lk _ h1 (hx _)
  · rename_i p r hpc; exact hend p r hpc
  · rename_i p r k hpc
    exact hmove s s.lock _ h0 (fun p' r' k' e => by rw [hpc] at e; cases e; exact ⟨k, rfl⟩)

theorem micro_frame (cfg : Cfg) (s : State) (t t' : Nat) (hne : t' ≠ t) : (micro cfg s t).1.pc t' = s.pc t' :=
  micro_ind cfg s t (P := fun s' => s'.pc t' = s.pc t') rfl
    (fun p _ => by rw [instanceValue, access_pc])
    (fun s' _ _ h _ => by simpa [setPc, hne] using h)
    (fun p _ _ h => by simpa [setPc, hne] using h)
    (fun p r _ => complete_frame cfg s t p r t' hne)

theorem schedN_ind (cfg : Cfg) (t : Nat) {P : State → Prop} (h : ∀ s, P s → P (micro cfg s t).1) :
    ∀ (n : Nat) (s : State), P s → P (schedN cfg n s t).1 := by
  intro n
  induction n with
  | zero => intro s hs; exact hs
  | succ n ih =>
    intro s hs
    unfold schedN
    have hm := h s hs
    generalize micro cfg s t = r at hm
    obtain ⟨s1, o⟩ := r
    cases o with
    | some o => exact hm
    | none => exact ih s1 hm

/-! ## the micro-step budget of `sched` is never exhausted -/

/-- upper bound on the number of further micro-steps before task t suspends or finishes -/
def rank (s : State) (t : Nat) : Nat :=
  match s.pc t with
  | .start _ => 5
  | .lockwait _ => 5
  | .entered p => if (instanceValue s p).2 = .ph p then 3 else 4
  | .holding p => if (instanceValue s p).2 = .ph p then 2 else 4
  | .getter _ _ _ => 1
  | _ => 0

theorem rank_le (s : State) (t : Nat) : rank s t ≤ 5 := by
  unfold rank; split <;> (try split) <;> omega

theorem rank_entered (s : State) (t p : Nat) (h : s.pc t = .entered p) :
    rank s t = if (instanceValue s p).2 = .ph p then 3 else 4 := by simp [rank, h]

theorem rank_holding (s : State) (t p : Nat) (h : s.pc t = .holding p) :
    rank s t = if (instanceValue s p).2 = .ph p then 2 else 4 := by simp [rank, h]

theorem rank_entered_le (s : State) (t p : Nat) (h : s.pc t = .entered p) : rank s t ≤ 4 := by
  rw [rank_entered s t p h]; split <;> omega

theorem rank_holding_le (s : State) (t p : Nat) (h : s.pc t = .holding p) : rank s t ≤ 4 := by
  rw [rank_holding s t p h]; split <;> omega

theorem rank_entered_self (s : State) (t p : Nat) (h : s.pc t = .entered p)
    (hs : s.slot (s.phInst p) = some (.ph p)) : rank s t = 3 := by
  rw [rank_entered s t p h, instanceValue_of_slot s p _ hs]; simp

theorem rank_holding_self (s : State) (t p : Nat) (h : s.pc t = .holding p)
    (hs : s.slot (s.phInst p) = some (.ph p)) : rank s t = 2 := by
  rw [rank_holding s t p h, instanceValue_of_slot s p _ hs]; simp

theorem rank_getter (s : State) (t p r k : Nat) (h : s.pc t = .getter p r k) : rank s t = 1 := by
  simp [rank, h]

/-- `return await stored` from a state whose slot holds `stored`: finished, or at the first line of
    the stored placeholder's `_await_impl` with the slot being that placeholder -/
theorem awaitStored_rank (s : State) (t p : Nat) (x : Stored)
    (h : ∀ i p, s.slot i = some (.ph p) → s.phInst p = i)
    (hs : s.slot (s.phInst p) = some x) (s' : State) (hm : awaitStored s t x = (s', none)) :
    rank s' t = 3 := by
  cases x with
  | val v => simp [awaitStored] at hm
  | ph p' =>
    simp only [awaitStored, Prod.mk.injEq, and_true] at hm
    subst hm
    have := h _ _ hs
    exact rank_entered_self _ t p' (by simp [setPc]) (by simp only [setPc]; rw [this]; exact hs)

theorem micro_rank (cfg : Cfg) (s : State) (t : Nat) (h : Inv cfg s) (s' : State)
    (hm : micro cfg s t = (s', none)) : rank s' t < rank s t := by
  unfold micro at hm
  split at hm
  · simp at hm
  · simp at hm
  · simp at hm
  · rename_i p hpc
    simp only [Prod.mk.injEq, and_true] at hm
    subst hm
    have h1 : rank s t = 5 := by simp [rank, hpc]
    have h2 := rank_entered_le (setPc s t (.entered p)) t p (by simp [setPc])
    omega
  · rename_i p hpc
    have hr := rank_entered s t p hpc
    obtain ⟨hi, hpc1, hsl⟩ := instanceValue_spec cfg s p h (h.pc_entered t p hpc).1
    generalize instanceValue s p = r at hi hpc1 hsl hm hr
    obtain ⟨s1, stored⟩ := r
    simp only at hi hpc1 hsl hm hr
    split at hm
    · rename_i heq
      subst heq
      simp only [if_true] at hr
      have key : ∀ s2 : State, s2.slot = s1.slot → s2.phInst = s1.phInst → s2.pc t = .holding p → rank s2 t = 2 :=
        fun s2 e1 e2 e3 => rank_holding_self s2 t p e3 (by rw [e1, e2]; exact hsl)
      split at hm
      · split at hm
        · simp at hm
        · simp only [Prod.mk.injEq, and_true] at hm
          subst hm
          have := key (setPc (setLock s1 p (some t)) t (.holding p)) rfl rfl (by simp [setPc])
          omega
      · simp only [Prod.mk.injEq, and_true] at hm
        subst hm
        have := key (setPc s1 t (.holding p)) rfl rfl (by simp [setPc])
        omega
    · rename_i hne
      simp only [hne, if_false] at hr
      rw [awaitStored_rank s1 t p stored (fun i p hp => (hi.slot_ph i p hp).2) hsl s' hm, hr]; omega
  · rename_i p hpc
    split at hm
    · simp at hm
    · simp only [Prod.mk.injEq, and_true] at hm
      subst hm
      have h1 : rank s t = 5 := by simp [rank, hpc]
      have h2 := rank_holding_le (setPc (setLock s p (some t)) t (.holding p)) t p (by simp [setPc])
      omega
  · rename_i p hpc
    have hr := rank_holding s t p hpc
    obtain ⟨hi, hpc1, hsl⟩ := instanceValue_spec cfg s p h (h.pc_holding t p hpc).1
    generalize instanceValue s p = r at hi hpc1 hsl hm hr
    obtain ⟨s1, stored⟩ := r
    simp only at hi hpc1 hsl hm hr
    split at hm
    · rename_i heq
      subst heq
      simp only [if_true] at hr
      simp only [Prod.mk.injEq, and_true] at hm
      subst hm
      rw [rank_getter _ t p s1.nRuns (cfg.susp s1.nRuns) (by simp [setPc]), hr]; omega
    · rename_i hne
      simp only [hne, if_false] at hr
      have e1 : (release cfg s1 p).slot = s1.slot := by unfold release; split <;> rfl
      have e2 : (release cfg s1 p).phInst = s1.phInst := by unfold release; split <;> rfl
      rw [awaitStored_rank (release cfg s1 p) t p stored
        (by rw [e1, e2]; exact fun i p hp => (hi.slot_ph i p hp).2) (by rw [e1, e2]; exact hsl) s' hm, hr]
      omega
  · rename_i p r hpc
    unfold complete at hm
    split at hm <;> simp at hm
  · simp at hm

/-- program counters that exist only inside one `sched` -/
def Pc.transient : Pc → Bool
  | .entered _ => true
  | .holding _ => true
  | _ => false

theorem micro_some (cfg : Cfg) (s : State) (t : Nat) (s' : State) (o : Out) (hm : micro cfg s t = (s', some o)) :
    o ≠ .stuck ∧ (s'.pc t).transient = false := by
  have leaf : ∀ {s1 : State} {o1 : Out}, (s1, some o1) = (s', some o) → o1 ≠ .stuck →
      (s1.pc t).transient = false → o ≠ .stuck ∧ (s'.pc t).transient = false := by
    intro s1 o1 e h1 h2; cases e; exact ⟨h1, h2⟩
  unfold micro at hm
  split at hm
  · exact leaf hm (by simp) (by simp [*, Pc.transient])
  · exact leaf hm (by simp) (by simp [*, Pc.transient])
  · exact leaf hm (by simp) (by simp [setPc, Pc.transient])
  · simp at hm
  · generalize instanceValue s _ = r at hm; obtain ⟨s1, x⟩ := r
    simp only at hm
    split at hm
    · split at hm
      · split at hm
        · exact leaf hm (by simp) (by simp [setPc, Pc.transient])
        · simp at hm
      · simp at hm
    · cases x
      · simp [awaitStored] at hm
      · exact leaf hm (by simp) (by simp [setPc, Pc.transient])
  · split at hm
    · exact leaf hm (by simp) (by simp [*, Pc.transient])
    · simp at hm
  · generalize instanceValue s _ = r at hm; obtain ⟨s1, x⟩ := r
    simp only at hm
    split at hm
    · simp at hm
    · cases x
      · simp [awaitStored] at hm
      · exact leaf hm (by simp) (by simp [setPc, Pc.transient])
  · unfold complete at hm
    split at hm <;> exact leaf hm (by simp) (by simp [setPc, Pc.transient])
  · exact leaf hm (by simp) (by simp [setPc, Pc.transient])

theorem micro_not_stuck (cfg : Cfg) (s : State) (t : Nat) : (micro cfg s t).2 ≠ some .stuck :=
  fun e => (micro_some cfg s t _ _ (Prod.ext rfl e)).1 rfl

theorem schedN_not_stuck (cfg : Cfg) (n : Nat) : ∀ (s : State) (t : Nat), Inv cfg s → rank s t < n →
    (schedN cfg n s t).2 ≠ .stuck := by
  induction n with
  | zero => intro s t _ hr; omega
  | succ n ih =>
    intro s t h hr
    unfold schedN
    have hm := micro_inv cfg s t h
    have hns := micro_not_stuck cfg s t
    have hrk := micro_rank cfg s t h
    generalize micro cfg s t = r at hm hns hrk
    obtain ⟨s1, o⟩ := r
    cases o with
    | some o => simp only at hns ⊢; intro e; exact hns (by rw [e])
    | none => exact ih s1 t hm (by have := hrk s1 rfl; omega)

theorem step_not_stuck (cfg : Cfg) (s : State) (op : Op) (h : Inv cfg s) : (step cfg s op).2 ≠ .stuck := by
  cases op with
  | spawn i => simp [step]
  | respawn t => simp only [step]; split <;> simp
  | sched t => exact schedN_not_stuck cfg _ s t h (by have := rank_le s t; unfold schedFuel; omega)
  | cancel t => simp only [step, cancel]; split <;> simp
  | del i => simp only [step]; split <;> simp

/-! ## between operations no task is at a transient program counter -/

theorem micro_some_settled (cfg : Cfg) (s : State) (t : Nat) (s' : State) (o : Out)
    (hq : ∀ t', t' ≠ t → (s.pc t').transient = false)
    (hm : micro cfg s t = (s', some o)) : ∀ t', (s'.pc t').transient = false := by
  intro t'
  by_cases hne : t' = t
  · subst hne; exact (micro_some cfg s t' s' o hm).2
  · have := micro_frame cfg s t t' hne
    rw [hm] at this
    rw [this]; exact hq t' hne

theorem schedN_settled (cfg : Cfg) (n : Nat) : ∀ (s : State) (t : Nat),
    (∀ t', t' ≠ t → (s.pc t').transient = false) → (schedN cfg n s t).2 ≠ .stuck →
    ∀ t', ((schedN cfg n s t).1.pc t').transient = false := by
  induction n with
  | zero => intro s t _ hns; simp [schedN] at hns
  | succ n ih =>
    intro s t hq hns
    unfold schedN at hns ⊢
    have hfr := micro_frame cfg s t
    have hst := micro_some_settled cfg s t
    generalize micro cfg s t = r at hns hfr hst ⊢
    obtain ⟨s1, o⟩ := r
    cases o with
    | some o => exact hst s1 o hq rfl
    | none =>
      simp only at hns hfr ⊢
      exact ih s1 t (fun t' hne => by rw [hfr t' hne]; exact hq t' hne) hns

/-- reachable-state invariant plus: no task is at a transient program counter between operations -/
structure Inv' (cfg : Cfg) (s : State) : Prop extends Inv cfg s where
  settled : ∀ t, (s.pc t).transient = false

theorem step_inv' (cfg : Cfg) (s : State) (op : Op) (h : Inv' cfg s) : Inv' cfg (step cfg s op).1 := by
  refine ⟨step_inv cfg s op h.toInv, ?_⟩
  -- apart from `sched`, an operation moves at most one task, to `start` or `done`
  have upd : ∀ {pc : Nat → Pc}, (∀ t, (pc t).transient = false) → ∀ (t0 : Nat) {x : Pc}, x.transient = false →
      ∀ t', (if t' = t0 then x else pc t').transient = false := by
    intro pc hpc t0 x hx t'; split
    · exact hx
    · exact hpc t'
  cases op with
  | spawn i => exact upd (pc := (access s i).1.pc) (by rw [access_pc]; exact h.settled) _ rfl
  | respawn t =>
    simp only [step]; split
    · exact upd h.settled _ rfl
    · exact h.settled
  | sched t =>
    exact schedN_settled cfg _ s t (fun t' _ => h.settled t') (step_not_stuck cfg s (.sched t) h.toInv)
  | cancel t =>
    simp only [step, cancel]; split
    · exact upd h.settled t rfl
    · exact upd h.settled t rfl
    · exact upd (by simp only [setRunSt]; rw [release_pc]; exact h.settled) t rfl
    · exact h.settled
  | del i => simp only [step]; split <;> exact h.settled

theorem init_inv' (cfg : Cfg) : Inv' cfg State.init :=
  ⟨init_inv cfg, fun _ => by simp [State.init, Pc.transient]⟩

theorem exec_inv' (cfg : Cfg) (ops : List Op) : ∀ s, Inv' cfg s → Inv' cfg (exec cfg s ops) := by
  induction ops with
  | nil => intro s h; exact h
  | cons op ops ih => intro s h; exact ih _ (step_inv' cfg s op h)

end AsyncVerif.CachedProperty
