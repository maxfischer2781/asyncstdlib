import AsyncVerif.Machines.Awaitify
/-! `awaitify` on ONE wrapper whose callable keeps its flavour (`Properties/C03.lean`): every call
evaluates to what the callable's invocation gives (`run_spec`), because a decision, once made, is the
right one (`Inv`). -/
namespace AsyncVerif.Awaitify

/-- the decision, once made, matches what the callable hands out -/
def Inv (fl : Flavour) (s : St) : Prop := ∀ d, s.decided = some d → d = returnsAwaitable fl

theorem inv_init (fl : Flavour) : Inv fl init := fun _ h => nomatch h

theorem callStep_spec (fl : Flavour) (s : St) (b : Except Nat Nat) (h : Inv fl s) :
    (callStep fl s b).2 = ofBeh b ∧ Inv fl (callStep fl s b).1 := by
  obtain ⟨dec⟩ := s
  unfold callStep
  split
  · exact ⟨rfl, h⟩
  · rcases dec with _ | d
    · -- the probing call: it raises and nothing is stored, or it decides for what was handed out
      dsimp only
      split
      · exact ⟨rfl, h⟩
      · split
        · exact ⟨rfl, fun _ hd => by cases hd; exact Eq.symm ‹_›⟩
        · exact ⟨rfl, fun _ hd => by cases hd; exact (Bool.eq_false_iff.mpr ‹_›).symm⟩
    · -- decided: by the invariant, for what the callable does hand out
      have hr := h d rfl
      cases d
      · rw [← hr]; exact ⟨rfl, h⟩
      · exact ⟨rfl, h⟩

theorem run_spec (fl : Flavour) : ∀ (bs : List (Except Nat Nat)) (s : St), Inv fl s → run fl s bs = bs.map ofBeh := by
  intro bs
  induction bs with
  | nil => intro s _; rfl
  | cons b rest ih =>
    intro s h
    obtain ⟨h1, h2⟩ := callStep_spec fl s b h
    simp only [run, List.map_cons, h1, ih _ h2]

end AsyncVerif.Awaitify
