import AsyncVerif.Proofs.C17Machines
/-!
# C17 on the schedule-driven machines — a task is suspended only inside a user awaitable

`Properties/C17.lean` is about the S1 tools (the loop channel is a function of the visible log).
The stateful parts of the library are modelled by the S2 machines, which make every suspension
point EXPLICIT: one scheduling step (`Op.sched i`, `SOp.send t`, ...) runs a task from its current
suspension point to its next one, and the correspondence harness performs exactly one real
`coro.send` per machine step and compares the token the real coroutine yields with the machine's
output.  So "where can a task be suspended" is a question about the machines' program counters and
outputs, and this file answers it, machine by machine:

* `C17_<m>_suspends_only_in_user_awaitables` — for EVERY state (reachable or not) and every step:
  if the step's output says that the task ended suspended, the task's new program counter is one
  of the positions *inside a user awaitable* (the user's lock, the user source's `__anext__`, the
  user getter, the wrapped user function, the user's generator / `__aenter__` / `__aexit__`, the
  decorated user function), and it is there because the suspension script of that user awaitable
  says so: either the task was already suspended in it with one more suspension to go, or the step
  started the awaitable and its scripted number of suspensions is positive.  There is no
  library-internal suspension point.  For reachable states the lock statements are sharpened with
  the machines' invariants (the lock is held by ANOTHER task that is itself inside a user awaitable).
* `C17_<m>_sync_arguments_never_suspend` — if the scripts say that no user awaitable ever suspends,
  no step of any run (all operation sequences, by induction) reports a suspension, no task is ever
  left inside a user awaitable, and every lock is free between two steps: every operation
  completes within the step that started it.

Machines covered: tee (`Machines/Tee.lean`), cached_property (`Machines/CachedProperty.lean`),
lru_cache's concurrent part (`Machines/Lru.lean`, `sendTask`/`schedStep`), context managers used as
decorators (`Machines/Decorator.lean`), and the asynctools adapters (`Machines/Adapters.lean`, whose
steps list the tokens reaching the loop as `Ev.susp` events).
Not covered because they do not model suspensions: `Machines/ContextManager.lean` ("awaits inside
the generator are transparent and not modelled"), `ExitStack.lean`, `GroupBy.lean`,
`GroupByFault.lean` (pure decision logic / atomic steps), `Borrow.lean` and `Cleanup.lean` (their only
suspension is the one a cancellation is thrown into, which is by construction the one inside the
user iterator's `__anext__` / `aclose`; it has no scripted count).
-/

/-! ## tee -/
namespace AsyncVerif.Tee

/-- **tee: a consumer is suspended only inside the user's lock or the user's source** — every
    state, reachable or not, every operation.  If an operation reports `suspSrc`, it was a `send`
    on an existing consumer `i`, child `i` is now at `fetching k` (inside the user source's
    `__anext__`, `k` more suspensions to come), and that is what the suspension script says: the
    child was at `fetching (k+1)` before, or the step started pull number `s.pulls` of a live source
    and `suspPat[s.pulls] = k + 1 > 0` (`InUserPull`).  If it reports `suspLock`, it was a `send` on
    an existing consumer `i`, child `i` is now at `acquiring` (inside the user lock's `__aenter__`)
    and the lock is held, by the same child before and after the step (`InUserLock`).  No other
    operation (`aclose()` of a child, `Tee.aclose()`, a cancellation) ever ends suspended, and a
    `send` has no third way of not completing (`C17_tee_send_completes_or_suspends_in_user_code`). -/
theorem C17_tee_suspends_only_in_user_awaitables (s : St) (op : Op) :
    ((step s op).2 = .suspSrc →
      ∃ i, op = .sched i ∧ i < s.kids.length ∧ InUserPull s (step s op).1 i) ∧
    ((step s op).2 = .suspLock →
      ∃ i, op = .sched i ∧ i < s.kids.length ∧ InUserLock s (step s op).1 i) := by
  constructor <;> intro h
  · obtain ⟨i, rfl, hi⟩ := step_susp_is_sched s op (Or.inl h)
    simp only [step, hi, if_true] at h ⊢
    rcases sched_spec s i hi with hs | ⟨_, hs⟩ | ⟨e, _⟩
    · exact absurd h hs.nosusp.1
    · exact ⟨i, rfl, hi, hs⟩
    · rw [e] at h; cases h
  · obtain ⟨i, rfl, hi⟩ := step_susp_is_sched s op (Or.inr h)
    simp only [step, hi, if_true] at h ⊢
    rcases sched_spec s i hi with hs | ⟨e, _⟩ | ⟨_, hs, _⟩
    · exact absurd h hs.nosusp.2
    · rw [e] at h; cases h
    · exact ⟨i, rfl, hi, hs⟩

/-- **tee: a `send` completes or is suspended in user code** — every reachable state: one `send`
    on a consumer delivers an item, ends the iteration or finds the task finished
    (`Out.completed`), or it reports one of the two suspensions of
    `C17_tee_suspends_only_in_user_awaitables`; there is no other outcome. -/
theorem C17_tee_send_completes_or_suspends_in_user_code (items n susp lock closeable dies ops)
    (i : Nat) :
    let s := reach items n susp lock closeable dies ops
    (step s (.sched i)).2.completed ∨ (step s (.sched i)).2 = .suspSrc ∨
      (step s (.sched i)).2 = .suspLock := by
  intro s
  have hne := (reach_inv items n susp lock closeable dies ops).step_noerr (.sched i)
  simp only [step] at hne ⊢
  split
  · rename_i hi
    rcases sched_spec s i hi with (h | h) | ⟨h, _⟩ | ⟨h, _⟩
    · exact Or.inl h
    · simp only [s, hi, if_true] at hne h; exact absurd h hne
    · exact Or.inr (Or.inl h)
    · exact Or.inr (Or.inr h)
  · left; trivial

/-- **tee: waiting for the lock means waiting for a user pull** — every reachable state: if a
    `send` on consumer `i` ends in `suspLock`, then a lock was supplied (`NoLock` never suspends),
    and the lock is held by ANOTHER child `h` which is itself suspended inside the user source's
    `__anext__` — the library never holds the lock across a suspension point of its own. -/
theorem C17_tee_lock_wait_is_behind_a_user_pull (items n susp lock closeable dies ops) (i : Nat)
    (h : (step (reach items n susp lock closeable dies ops) (.sched i)).2 = .suspLock) :
    lock = true ∧ i < n ∧
    ((step (reach items n susp lock closeable dies ops) (.sched i)).1.kid i).pc = .acquiring ∧
    ∃ h, h ≠ i ∧ h < n ∧ (reach items n susp lock closeable dies ops).holder = some h ∧
      isFetching ((reach items n susp lock closeable dies ops).kid h).pc = true := by
  have hinv := reach_inv items n susp lock closeable dies ops
  obtain ⟨j, hj, hi, hpc, hh, hhold, _⟩ :=
    (C17_tee_suspends_only_in_user_awaitables _ _).2 h
  cases hj
  obtain ⟨hlt, hw, hf⟩ := hinv.holder_lt hh hhold
  rw [reach_len] at hi hlt
  rw [reach_withLock] at hw
  refine ⟨hw, hi, hpc, hh, ?_, hlt, hhold, hf⟩
  rintro rfl
  -- child `i` itself is not inside the source when its `send` ends in `suspLock`
  have hi' : hh < (reach items n susp lock closeable dies ops).kids.length := by
    rw [reach_len]; exact hi
  simp only [step, hi', if_true] at h
  rcases sched_spec _ hh hi' with hs | ⟨e, _⟩ | ⟨_, _, hnf⟩
  · exact hs.nosusp.2 h
  · rw [e] at h; cases h
  · rw [hnf] at hf; cases hf

/-- **tee: every suspension inside the source is one the script asks for** — every reachable
    state: if a `send` on consumer `i` ends in `suspSrc`, child `i` is at `fetching k` inside a pull
    of the user's source that has been started (pull number `m`, below the number of pulls made so
    far) and `k < susp[m]`: the suspension just reported is one of the `susp[m]` suspensions the
    user's `__anext__` makes in that pull; the library adds none. -/
theorem C17_tee_suspension_within_script (items n susp lock closeable dies ops) (i : Nat)
    (h : (step (reach items n susp lock closeable dies ops) (.sched i)).2 = .suspSrc) :
    ∃ k m, ((step (reach items n susp lock closeable dies ops) (.sched i)).1.kid i).pc = .fetching k ∧
      m < (step (reach items n susp lock closeable dies ops) (.sched i)).1.pulls ∧
      k < susp.getD m 0 := by
  obtain ⟨j, hj, _, k, hk, _⟩ := (C17_tee_suspends_only_in_user_awaitables _ _).1 h
  cases hj
  have hw := (reach_within items n susp lock closeable dies ops).step (.sched i)
  obtain ⟨m, h1, h2⟩ := hw.kid i k hk
  refine ⟨k, m, hk, h1, ?_⟩
  have hc := cfg_step (reach items n susp lock closeable dies ops) (.sched i)
  simp only [St.cfg, Prod.mk.injEq] at hc
  rw [hc.2.1, reach_suspPat] at h2
  exact h2

/-- **tee with a source that never suspends**: if every entry of the suspension script is 0, then
    in every reachable state — any number of children, with or without a lock, every sequence of
    `send`s, closes and cancellations — the lock is free, no child is inside the lock's
    `__aenter__` or the source's `__anext__`, and whatever operation comes next reports no
    suspension: every `send` delivers its item (or the end) within the step.  In particular the
    user's lock is never contended, because nobody is ever suspended while holding it. -/
theorem C17_tee_sync_arguments_never_suspend (items n susp lock closeable dies ops)
    (hsync : ∀ k ∈ susp, k = 0) (op : Op) :
    let s := reach items n susp lock closeable dies ops
    (step s op).2 ≠ .suspSrc ∧ (step s op).2 ≠ .suspLock ∧
    s.holder = none ∧ (∀ j, (s.kid j).pc ≠ .acquiring ∧ isFetching (s.kid j).pc = false) ∧
    (∀ i, (step s (.sched i)).2.completed) := by
  intro s
  obtain ⟨hq, hn⟩ := reach_quiet items n susp lock closeable dies ops hsync
  have hinv := reach_inv items n susp lock closeable dies ops
  have h1 := step_sync s op hn hq hinv
  refine ⟨h1.2.1, h1.2.2, hq.holder, fun j => hq.kids.kid j, fun i => ?_⟩
  have h2 := step_sync s (.sched i) hn hq hinv
  rcases C17_tee_send_completes_or_suspends_in_user_code items n susp lock closeable dies ops i
    with h | h | h
  · exact h
  · exact absurd h h2.2.1
  · exact absurd h h2.2.2

/-! ### Examples -/

/-- a `send` that ends inside the user's source: pull 0 is scripted to suspend twice -/
example : (step (reach [1, 2] 2 [2, 0, 1] true true true []) (.sched 0)).2 = .suspSrc ∧
    ((step (reach [1, 2] 2 [2, 0, 1] true true true []) (.sched 0)).1.kid 0).pc = .fetching 1 := by
  decide
/-- a `send` that ends inside the user's lock: child 0 holds it, suspended in the source -/
example : (step (reach [1, 2] 2 [2, 0, 1] true true true [.sched 0]) (.sched 1)).2 = .suspLock ∧
    (reach [1, 2] 2 [2, 0, 1] true true true [.sched 0]).holder = some 0 := by decide
/-- why `C17_tee_suspends_only_in_user_awaitables` does not claim `withLock = true` for ARBITRARY
    states: in this unreachable state (no lock supplied, yet a holder recorded and child 0 already
    at `acquiring`) a `send` reports `suspLock`; for reachable states
    `C17_tee_lock_wait_is_behind_a_user_pull` does give `lock = true` -/
example : (step { src := [], suspPat := [], withLock := false, holder := some 1,
                  kids := [{ pc := .acquiring }, {}] } (.sched 0)).2 = .suspLock := by decide
/-- the hypothesis of `C17_tee_sync_arguments_never_suspend`, with a lock and three children -/
example : ∀ k ∈ [0, 0, 0], k = 0 := by decide
example : (trace (init [1, 2] 3 [0, 0, 0] true true true)
    [.sched 0, .sched 1, .sched 2, .sched 1, .sched 1, .sched 0]).map Prod.fst
    = [.item 1, .item 1, .item 1, .item 2, .end_, .item 2] := by decide

end AsyncVerif.Tee

/-! ## cached_property -/
namespace AsyncVerif.CachedProperty

/-- **cached_property: an awaiting task is suspended only inside the user's getter or the user's
    lock** — every state, reachable or not, every operation.  If an operation reports
    `suspended r`, it was a `sched` of some task `t`, the task is now at `getter p r k` (inside run
    `r` of the USER's getter, `k` more suspensions to come), and that is what the script of run `r`
    says: the task was at `getter p r (k+1)` before, or this step started the run and
    `cfg.susp r = k + 1 > 0`.  If it reports `blocked`, it was a `sched` of some task `t`, the task
    is now at `lockwait p` (inside `__aenter__` of the USER-supplied lock type's lock of placeholder
    `p`) and that lock is held.  Attribute access (`spawn`/`respawn`), `del` and a cancellation never
    end suspended. -/
theorem C17_cached_property_suspends_only_in_user_awaitables (cfg : Cfg) (s : State) (op : Op) :
    (∀ r, (step cfg s op).2 = .suspended r →
      ∃ t p k, op = .sched t ∧ (step cfg s op).1.pc t = .getter p r k ∧
        (s.pc t = .getter p r (k + 1) ∨ cfg.susp r = k + 1)) ∧
    ((step cfg s op).2 = .blocked →
      ∃ t p ow, op = .sched t ∧ (step cfg s op).1.pc t = .lockwait p ∧
        (step cfg s op).1.lock p = some ow) := by
  constructor
  · intro r h
    obtain ⟨t, rfl⟩ := step_susp_is_sched cfg s op (Or.inr ⟨r, h⟩)
    obtain ⟨p, k, h1, h2⟩ := (schedN_spec cfg schedFuel s t).1 r h
    exact ⟨t, p, k, rfl, h1, h2⟩
  · intro h
    obtain ⟨t, rfl⟩ := step_susp_is_sched cfg s op (Or.inl h)
    obtain ⟨p, ow, h1, h2⟩ := (schedN_spec cfg schedFuel s t).2 h
    exact ⟨t, p, ow, rfl, h1, h2⟩

/-- **cached_property: a `sched` completes or is suspended in user code** — every reachable state:
    one `send` on an awaiting task returns the value, raises the getter's exception or finds the
    task finished (`Out.completed`), or it reports one of the two suspensions of
    `C17_cached_property_suspends_only_in_user_awaitables`; there is no other outcome. -/
theorem C17_cached_property_send_completes_or_suspends_in_user_code (cfg : Cfg) (ops : List Op)
    (t : Nat) :
    (step cfg (reach cfg ops) (.sched t)).2.completed ∨
      (step cfg (reach cfg ops) (.sched t)).2 = .blocked ∨
      ∃ r, (step cfg (reach cfg ops) (.sched t)).2 = .suspended r := by
  rcases schedN_out cfg schedFuel (reach cfg ops) t with h | h | h | h
  · exact Or.inl h
  · exact Or.inr (Or.inl h)
  · exact Or.inr (Or.inr h)
  · exact absurd h (step_not_stuck cfg _ (.sched t) (reach_inv cfg ops))

/-- **cached_property: every suspension inside the getter is one the script asks for** — every
    reachable state: if a `sched` of task `t` reports `suspended r`, the task is inside getter run
    `r` with `k` suspensions still to come and `k < cfg.susp r`: this is suspension number
    `cfg.susp r - k` of the `cfg.susp r` suspensions the user's getter makes in that run. -/
theorem C17_cached_property_suspension_within_script (cfg : Cfg) (ops : List Op) (t r : Nat)
    (h : (step cfg (reach cfg ops) (.sched t)).2 = .suspended r) :
    ∃ p k, (step cfg (reach cfg ops) (.sched t)).1.pc t = .getter p r k ∧ k < cfg.susp r := by
  obtain ⟨p, k, h1, h2⟩ := (schedN_spec cfg schedFuel (reach cfg ops) t).1 r h
  refine ⟨p, k, h1, ?_⟩
  rcases h2 with h2 | h2
  · have := reach_getterBound cfg ops t p r (k + 1) h2; omega
  · omega

/-- **cached_property: waiting for the lock means waiting for a user getter** — every reachable
    state: if a `sched` of task `t` reports `blocked`, then a lock type was supplied (the default
    `nullcontext` never suspends), the task is inside `__aenter__` of the lock of a placeholder `p`,
    and that lock is owned by ANOTHER task which is itself suspended inside a run of the user's
    getter — the library holds the lock across no suspension point of its own. -/
theorem C17_cached_property_lock_wait_is_behind_a_user_getter (cfg : Cfg) (ops : List Op) (t : Nat)
    (h : (step cfg (reach cfg ops) (.sched t)).2 = .blocked) :
    cfg.lock = true ∧ ∃ p ow r k, (step cfg (reach cfg ops) (.sched t)).1.pc t = .lockwait p ∧
      (step cfg (reach cfg ops) (.sched t)).1.lock p = some ow ∧ ow ≠ t ∧
      (step cfg (reach cfg ops) (.sched t)).1.pc ow = .getter p r k := by
  obtain ⟨p, ow, h1, h2⟩ := (schedN_spec cfg schedFuel (reach cfg ops) t).2 h
  have hinv := step_inv' cfg _ (.sched t) (reach_inv' cfg ops)
  refine ⟨hinv.lockwait_lock t p h1, p, ow, ?_⟩
  rcases hinv.lock_owner p ow h2 with h3 | ⟨r, k, h3⟩
  · have := hinv.settled ow
    rw [h3] at this; simp [Pc.transient] at this
  · refine ⟨r, k, h1, h2, ?_, h3⟩
    rintro rfl
    have h1' : (step cfg (reach cfg ops) (.sched ow)).1.pc ow = .lockwait p := h1
    rw [h1'] at h3; cases h3

/-- **cached_property with a getter that never suspends**: if `cfg.susp r = 0` for every run `r`,
    then in every reachable state — any number of instances and tasks, with or without a lock
    type, every sequence of attribute accesses, `send`s, cancellations and `del`s — every lock is
    free, no task is in the middle of an `await` (`Pc.idle`: not yet started, or finished), and
    whatever operation comes next reports no suspension; every `sched` completes the whole
    `await` (returns / raises / finds the task finished) within the step.  In particular the lock
    is never contended. -/
theorem C17_cached_property_sync_arguments_never_suspend (cfg : Cfg) (hsync : ∀ r, cfg.susp r = 0)
    (ops : List Op) (op : Op) :
    (step cfg (reach cfg ops) op).2 ≠ .blocked ∧
    (∀ q, (step cfg (reach cfg ops) op).2 ≠ .suspended q) ∧
    (∀ p, (reach cfg ops).lock p = none) ∧ (∀ t, ((reach cfg ops).pc t).idle) ∧
    (∀ t, (step cfg (reach cfg ops) (.sched t)).2.completed) := by
  have hi := reach_idle cfg hsync ops
  have h1 := step_sync cfg hsync _ op (reach_inv cfg ops) hi
  refine ⟨h1.2.1, h1.2.2, hi.locks, hi.pcs, fun t => ?_⟩
  have h2 := step_sync cfg hsync _ (.sched t) (reach_inv cfg ops) hi
  rcases C17_cached_property_send_completes_or_suspends_in_user_code cfg ops t with h | h | ⟨r, h⟩
  · exact h
  · exact absurd h h2.2.1
  · exact absurd h (h2.2.2 r)

/-! ### Examples -/

/-- a getter whose first run suspends twice, with a lock: task 0 ends inside the getter, task 1
    (same instance) ends inside the lock, and both then complete with the value of run 0 -/
private def cfgA : Cfg := ⟨true, fun r => if r = 0 then 2 else 0, fun _ => true⟩
example : outs cfgA State.init [.spawn 0, .spawn 0, .sched 0, .sched 1, .sched 0, .sched 0, .sched 1]
    = [.handle (.ph 0), .handle (.ph 0), .suspended 0, .blocked, .suspended 0, .ret 0, .ret 0] := by
  decide
/-- the hypothesis of `C17_cached_property_sync_arguments_never_suspend` -/
private def cfgB : Cfg := ⟨true, fun _ => 0, fun r => r != 1⟩
example : ∀ r, cfgB.susp r = 0 := fun _ => rfl
example : outs cfgB State.init [.spawn 0, .spawn 0, .sched 1, .sched 0, .del 0, .spawn 0, .sched 2, .spawn 0, .sched 3]
    = [.handle (.ph 0), .handle (.ph 0), .ret 0, .ret 0, .deleted, .handle (.ph 1), .raised 1,
       .handle (.ph 1), .ret 2] := by
  decide

end AsyncVerif.CachedProperty

/-! ## lru_cache, overlapping calls -/
namespace AsyncVerif.Lru

/-- **lru_cache: a calling task is suspended only inside the wrapped user function** — every
    cache state, every task list (reachable or not), every scheduling step on an existing task
    `t` (`send` = one `coro.send`, `cancel` = one `coro.throw`).  If task `t` is suspended after the
    step (`waiting = some (c, k, r)`: inside call `c`, `k` more suspensions to come, then result
    `r`), then either the step was a `send` and the task was already inside that very call with one
    more suspension to go, or the step reached an action `call p (k+1) r` of the task's program —
    a call whose script says that the wrapped USER function suspends `k + 1 > 0` times —, the last
    thing the step did was `begin c p` with answer `started` (a cache miss: the wrapped function
    was invoked), and call `c` is in flight with pattern `p`.  Cache hits, `cache_clear`,
    `cache_discard`, `cache_info` and everything `__call__` does after the wrapped function
    returned (re-check, insert, evict) never suspend. -/
theorem C17_lru_suspends_only_in_user_awaitables (cfg : Cfg) (x : CSt × List Task) (op : SOp)
    (t : Nat) (hop : op = .send t ∨ op = .cancel t) (tk : Task) (h0 : x.2[t]? = some tk) :
    ∃ tk', (schedStep cfg x op).1.2[t]? = some tk' ∧ ∀ c k r, tk'.waiting = some (c, k, r) →
      (op = .send t ∧ tk.waiting = some (c, k + 1, r)) ∨
      ∃ p, Act.call p (k + 1) r ∈ tk.prog ∧
        (schedStep cfg x op).2.getLast? = some (.begin c p, .started) ∧
        lookupCall c (schedStep cfg x op).1.1.inflight = some p := by
  have hlt : t < x.2.length := (List.getElem?_eq_some_iff.1 h0).1
  rcases hop with rfl | rfl
  · simp only [schedStep, h0]
    refine ⟨_, getElem?_setTask _ _ _ hlt, fun c k r hw => ?_⟩
    rcases sendTask_waiting cfg t tk x.1 c k r hw with h | h
    · exact Or.inl ⟨trivial, h⟩
    · exact Or.inr h
  · simp only [schedStep, h0]
    refine ⟨_, getElem?_setTask _ _ _ hlt, fun c k r hw => ?_⟩
    obtain ⟨_, he⟩ := cancelTask_waiting cfg t tk x.1 c k r hw
    rw [he] at hw ⊢
    rcases sendTask_waiting cfg t tk x.1 c k r hw with h | h
    · rename_i hn; rw [hn] at h; cases h
    · exact Or.inr h

/-- **lru_cache with a wrapped function that never suspends**: if no task starts inside a call and
    every call of every program is scripted with 0 suspensions (`Task.sync`), then after every
    schedule of `send`s and cancellations — any cache variant, any number of tasks — no task is
    suspended and no call is in flight, the same holds after whatever step comes next, and a step
    on an existing task runs its WHOLE remaining program within that step (the task is left at
    the end of its program): every `__call__` — hit or miss —, `cache_clear`, `cache_discard`,
    `cache_info` completes without suspending at all. -/
theorem C17_lru_sync_arguments_never_suspend (cfg : Cfg) (tasks : List Task)
    (hsync : ∀ tk ∈ tasks, tk.sync) (sched : List SOp) (op : SOp) :
    let x := schedFinal cfg (CSt.init, tasks) sched
    (∀ tk ∈ x.2, tk.waiting = none) ∧ x.1.inflight = [] ∧
    (∀ tk ∈ (schedStep cfg x op).1.2, tk.waiting = none) ∧
    (schedStep cfg x op).1.1.inflight = [] ∧
    (∀ t tk, (op = .send t ∨ op = .cancel t) → x.2[t]? = some tk →
      (schedStep cfg x op).1.2[t]? = some ⟨[], tk.pc + tk.prog.length, none⟩) := by
  intro x
  obtain ⟨h1, h2⟩ := schedFinal_sync cfg sched (CSt.init, tasks) hsync
  obtain ⟨h3, h4⟩ := schedStep_sync cfg x op h1
  refine ⟨fun tk h => (h1 tk h).1, h2, fun tk h => (h3 tk h).1, by rw [h4]; exact h2, ?_⟩
  intro t tk hop h0
  have hlt : t < x.2.length := (List.getElem?_eq_some_iff.1 h0).1
  have hs := h1 tk (List.mem_of_getElem? h0)
  rcases hop with rfl | rfl
  · simp only [schedStep, h0]
    rw [getElem?_setTask _ _ _ hlt, (sendTask_sync cfg t tk x.1 hs).1]
  · simp only [schedStep, h0]
    rw [getElem?_setTask _ _ _ hlt, cancelTask_sync cfg t tk x.1 hs, (sendTask_sync cfg t tk x.1 hs).1]

/-! ### Examples -/

private def k (n : Int) : Pattern := ⟨[.prim (.int n)], []⟩
private def c1 : Cfg := ⟨.bounded 1, false⟩

/-- task 0 ends inside its first call (scripted with 2 suspensions); task 1 hits nothing and ends
    inside its own call; the second `send` on task 0 continues the same user suspension -/
example : ((schedFinal c1 (CSt.init, [⟨[.call (k 1) 2 (.ok 5), .info], 0, none⟩,
      ⟨[.call (k 1) 1 (.ok 7)], 0, none⟩]) [.send 0, .send 1, .send 0]).2.map (·.waiting))
    = [some (0, 0, .ok 5), some (100, 0, .ok 7)] := by decide
/-- the hypothesis of `C17_lru_sync_arguments_never_suspend`, and a run under it: each `send` runs
    the whole program (a miss, a hit, `cache_info`) -/
example : ∀ tk ∈ [(⟨[.call (k 1) 0 (.ok 5), .call (k 1) 0 (.ok 6), .info], 0, none⟩ : Task),
    ⟨[.call (k 2) 0 (.fail 3), .clear], 0, none⟩], tk.sync := by
  intro tk h
  simp only [List.mem_cons, List.not_mem_nil, or_false] at h
  rcases h with rfl | rfl <;> exact ⟨rfl, by simp [Act.sync]⟩
example : (schedFinal c1 (CSt.init, [⟨[.call (k 1) 0 (.ok 5), .call (k 1) 0 (.ok 6), .info], 0, none⟩,
      ⟨[.call (k 2) 0 (.fail 3), .clear], 0, none⟩]) [.send 1, .send 0]).2
    = [⟨[], 3, none⟩, ⟨[], 2, none⟩] := by decide

end AsyncVerif.Lru

/-! ## context managers used as decorators -/
namespace AsyncVerif.Decorator

/-- **decorator: a decorated call is suspended only inside user code** — one `send`/`throw` on
    the coroutine `inner(*args, **kwds)` of `ContextDecorator.__call__`, for EVERY local state
    (program counter of the call, state and program of its manager's generator; reachable or not),
    both kinds of manager (`contextmanager`-created: `gb = true`; class-based: `gb = false`).  The
    generator's program is untouched, and the step either finishes the call (`Ends`), or finds it
    finished (`skipped`, nothing changes), or reports `suspended st`, and then (`InUser`):
    * `st = enter`: the call is at `entering left`; for a generator-based manager the USER's
      generator is suspended at an inner `await` (`pre k` / `post k` / `thr e k`) of a segment this
      step started and whose scripted suspension count is `k + 1 > 0` (`GenStart`), or of the
      segment it was suspended in before with `k + 1` suspensions left (`GenCont`); for a
      class-based manager the user's `__aenter__` was started by this step and is scripted to
      suspend `left + 1` times, or the call was at `entering (left + 1)`;
    * `st = body`: the call is at `body k`, inside the decorated USER function, which this step
      started with `bodySusp = k + 1`, or in which the call was at `body (k + 1)`;
    * `st = exit`: the call is at `exiting o left`, inside the user's generator / `__aexit__`, in
      the same two ways.
    So `_recreate_cm()`, the `async with` statement, `__aenter__`/`__aexit__` of
    `_AsyncGeneratorContextManager` contribute no suspension point of their own. -/
theorem C17_decorator_call_suspends_only_in_user_awaitables (gb : Bool) (cc : CallCfg) (l : Local)
    (cop : COp) :
    (callStep gb cc l cop).1.cell.prog = l.cell.prog ∧
    (Ends (callStep gb cc l cop) ∨
     ((callStep gb cc l cop).2.2 = .skipped ∧ (callStep gb cc l cop).1 = l) ∨
     ∃ st, (callStep gb cc l cop).2.2 = .suspended st ∧ InUser gb cc l (callStep gb cc l cop).1 st) :=
  callStep_spec gb cc l cop

/-- **decorator, heap machine: a task is suspended only inside user code** — every heap state
    (store of generator objects, calls, references; reachable or not) and every scheduling
    operation (`send` or `throw` on the task of call `op.call`).  If the operation reports
    `suspended st`, the call exists in the configuration, and with `l` = what the call sees when
    its coroutine runs (its program counter and, through its reference, the generator of ITS
    manager — `_recreate_cm()` having run if this is the first `send`) there is a local state `l'`
    — the call's new program counter, and the new contents of the generator object the call
    refers to — such that `InUser … l l' st` holds: the suspension is one of the user's generator /
    `__aenter__` / `__aexit__` / decorated function, as scripted
    (see `C17_decorator_call_suspends_only_in_user_awaitables`). -/
theorem C17_decorator_suspends_only_in_user_awaitables (cfg : Cfg) (s : State) (op : Op) (st : Stage)
    (h : (step cfg s op).2 = .suspended st) :
    ∃ cc, cfg.calls[op.call]? = some cc ∧
      ∃ l', l'.pc = ((step cfg s op).1.calls op.call).pc ∧
        (∀ g, ((step cfg s op).1.calls op.call).gid = some g → (step cfg s op).1.gens g = l'.cell) ∧
        InUser cfg.generatorBased cc (localOf (prepared cfg s op cc) op.call cc) l' st := by
  cases hcc : cfg.calls[op.call]? with
  | none => rw [step_none cfg s op hcc] at h; cases h
  | some cc =>
    refine ⟨cc, rfl, ?_⟩
    rw [step_eq_core cfg s op cc hcc] at h ⊢
    obtain ⟨c1, c2, c3, c4⟩ :=
      core_local cfg.generatorBased (prepared cfg s op cc) op.call cc op.cop
    refine ⟨(callStep cfg.generatorBased cc (localOf (prepared cfg s op cc) op.call cc) op.cop).1,
      c2.symm, fun g hg => c4 g (by rw [← c3]; exact hg), ?_⟩
    rw [c1] at h
    rcases (callStep_spec cfg.generatorBased cc (localOf (prepared cfg s op cc) op.call cc)
      op.cop).2 with ⟨x, h1, _⟩ | ⟨h1, _⟩ | ⟨st', h1, h2⟩
    · rw [h1] at h; cases h
    · rw [h1] at h; cases h
    · rw [h1] at h; cases h; exact h2

/-- **decorator, reachable states: a suspended call is inside its OWN user generator** — after
    every schedule, with a generator-based manager: a call at `entering` holds a reference to a
    generator object that is suspended at an inner `await` before its first `yield` (`pre j`); a
    call at `body` (inside the decorated user function) holds a generator waiting at its `yield`;
    a call at `exiting o` holds a generator suspended at an inner `await` after the `yield`
    (`post j`, body ended normally) resp. in its handler of the body's exception (`thr e j`).  So
    the stage reported with a suspension names the user code the task is really in. -/
theorem C17_decorator_suspended_call_is_inside_its_own_generator (cfg : Cfg) (ops : List Op)
    (hgb : cfg.generatorBased = true) (c : Nat) :
    let s := (run cfg ops).1
    (∀ k, (s.calls c).pc = .entering k → ∃ g j, (s.calls c).gid = some g ∧ (s.gens g).pc = .pre j) ∧
    (∀ k, (s.calls c).pc = .body k → ∃ g, (s.calls c).gid = some g ∧ (s.gens g).pc = .atYield) ∧
    (∀ o k, (s.calls c).pc = .exiting o k → ∃ g j, (s.calls c).gid = some g ∧
      match o.exc with
      | none => (s.gens g).pc = .post j
      | some e => (s.gens g).pc = .thr e j) := by
  intro s
  have hrel := rel_reach cfg ops
  have hcoh : Coh cfg.generatorBased ((prun cfg ops).1.calls c) := (pinv_run ops (pinv_init cfg)).coh c
  unfold Coh at hcoh
  replace hcoh := hcoh hgb
  have hpcs : ((prun cfg ops).1.calls c).pc = (s.calls c).pc := (hrel.pcs c).symm
  rw [hpcs] at hcoh
  -- a call that has started and not finished refers to its own generator object
  have hgid : ∀ pc, (s.calls c).pc = pc → pc ≠ .fresh → (∀ r, pc ≠ .done r) →
      ∃ g, (s.calls c).gid = some g ∧ s.gens g = ((prun cfg ops).1.calls c).cell := by
    intro pc hpc h1 h2
    cases hg : (s.calls c).gid with
    | none =>
      rcases hrel.gbnone hgb c hg with h | ⟨r, h⟩
      · exact absurd (hpc ▸ h) h1
      · exact absurd (hpc ▸ h) (h2 r)
    | some g => exact ⟨g, rfl, (hrel.own c g hg).2.2⟩
  refine ⟨fun k hk => ?_, fun k hk => ?_, fun o k hk => ?_⟩
  · obtain ⟨g, h1, h2⟩ := hgid _ hk nofun nofun
    rw [hk] at hcoh
    obtain ⟨j, hj⟩ := hcoh
    exact ⟨g, j, h1, h2 ▸ hj⟩
  · obtain ⟨g, h1, h2⟩ := hgid _ hk nofun nofun
    rw [hk] at hcoh
    exact ⟨g, h1, h2 ▸ hcoh⟩
  · obtain ⟨g, h1, h2⟩ := hgid _ hk nofun nofun
    rw [hk] at hcoh
    simp only at hcoh
    cases ho : o.exc <;> rw [ho] at hcoh <;> obtain ⟨j, hj⟩ := hcoh <;> exact ⟨g, j, h1, h2 ▸ hj⟩

/-- **decorator with user code that never suspends**: if for every call of the configuration the
    generator's three segments (resp. `__aenter__`/`__aexit__` of a class-based manager) and the
    decorated function are scripted with 0 suspensions (`Cfg.sync`), then under every schedule of
    `send`s and `throw`s no operation ever reports a suspension, every call is either not started
    or finished between two operations, and whatever operation comes next finishes its call or is
    skipped: a decorated call runs `_recreate_cm()`, enter, body and exit to completion within its
    first `send`. -/
theorem C17_decorator_sync_arguments_never_suspend (cfg : Cfg) (hsync : cfg.sync) (ops : List Op)
    (op : Op) :
    (∀ o ∈ (run cfg ops).2, ∀ st, o ≠ .suspended st) ∧
    (∀ c, ((run cfg ops).1.calls c).pc = .fresh ∨ ∃ r, ((run cfg ops).1.calls c).pc = .done r) ∧
    ((step cfg (run cfg ops).1 op).2 = .skipped ∨ ∃ r, (step cfg (run cfg ops).1 op).2 = .finished r) := by
  obtain ⟨h1, h2⟩ := runFrom_sync cfg hsync ops State.init init_sync
  refine ⟨h2, h1.pcs, ?_⟩
  have h3 := (step_sync cfg hsync _ op h1).2
  cases ho : (step cfg (run cfg ops).1 op).2 with
  | suspended st => exact absurd ho (h3 st)
  | finished r => exact Or.inr ⟨r, rfl⟩
  | skipped => exact Or.inl rfl

/-! ### Examples -/

private def gSusp : GenProg := ⟨1, .yields, 2, .stops, 1, .swallow⟩
private def pDflt : PlainProg := ⟨1, .ok, 1, .falsy, .falsy⟩
private def cfgS : Cfg :=
  { generatorBased := true, calls := [⟨gSusp, pDflt, 1, .returns 7⟩, ⟨gSusp, pDflt, 0, .raises 11⟩] }
private def s (c : Nat) : Op := ⟨c, .resume⟩
/-- every suspension reported is one of the user's generator or function, and the generator of
    call 0 is where the stage says: `pre 0`, `atYield`, `post 1`, `post 0` -/
example : (run cfgS [s 0, s 0, s 0, s 0, s 0]).2 =
    [.suspended .enter, .suspended .body, .suspended .exit, .suspended .exit, .finished (.value 7)] := by
  decide
example : [[s 0], [s 0, s 0], [s 0, s 0, s 0], [s 0, s 0, s 0, s 0]].map
    (fun ops => ((run cfgS ops).1.gens 1).pc) = [.pre 0, .atYield, .post 1, .post 0] := by decide
/-- the hypothesis of `C17_decorator_sync_arguments_never_suspend`, and a run under it -/
private def gSync : GenProg := ⟨0, .yields, 0, .stops, 0, .swallow⟩
private def cfgZ : Cfg :=
  { generatorBased := true,
    calls := [⟨gSync, ⟨0, .ok, 0, .falsy, .falsy⟩, 0, .returns 7⟩,
              ⟨gSync, ⟨0, .ok, 0, .falsy, .falsy⟩, 0, .raises 11⟩] }
example : cfgZ.sync := by
  intro cc h
  simp only [cfgZ, List.mem_cons, List.not_mem_nil, or_false] at h
  rcases h with rfl | rfl <;> exact ⟨rfl, rfl, rfl, rfl, rfl, rfl⟩
example : (run cfgZ [s 1, s 0, s 1]).2 = [.finished .none, .finished (.value 7), .skipped] := by decide

end AsyncVerif.Decorator

/-! ## asynctools adapters -/
namespace AsyncVerif.Adapters

/-- **any_iter: every token that reaches the loop is a user token** — every argument (an iterable
    of any kind, possibly produced by an awaitable `o`; elements plain or awaitable), every
    sequence of consumer operations (`__anext__` / `aclose`): a token `t` that reaches the event
    loop during the run (`Ev.susp t`) was yielded by the awaitable producing the iterable, by an
    `__anext__` of the user's source (an element's pull or the pull that finds the end), or by an
    awaitable element.  `any_iter` itself never suspends. -/
theorem C17_adapters_any_iter_suspends_only_in_user_awaitables (o : Option Outer) (src : Src)
    (ops : List Op) (t : Tok) (h : Ev.susp t ∈ trace (run anyStep (.fresh o src) ops)) :
    (∃ o', o = some o' ∧ t ∈ o'.toks) ∨ (∃ p ∈ src.items, t ∈ p.1 ∨ t ∈ p.2.toks) ∨
      t ∈ src.endToks := by
  have := run_toks anyStep anyToks anyStep_toks ops (.fresh o src) t h
  simp only [anyToks, userToks, List.mem_append, mem_srcToks] at this
  rcases this with h1 | h1 | h1
  · cases o with
    | none => simp at h1
    | some o' => exact Or.inl ⟨o', rfl, h1⟩
  · exact Or.inr (Or.inl h1)
  · exact Or.inr (Or.inr h1)

/-- **await_each: every token that reaches the loop is a token of one of the awaitables** (or of
    the source's scripted pulls, which are empty for the synchronous sources `await_each` accepts);
    `await_each` itself never suspends. -/
theorem C17_adapters_await_each_suspends_only_in_user_awaitables (src : Src) (ops : List Op)
    (t : Tok) (h : Ev.susp t ∈ trace (run eachStep (.live src) ops)) :
    (∃ p ∈ src.items, t ∈ p.1 ∨ t ∈ p.2.toks) ∨ t ∈ src.endToks := by
  have := run_toks eachStep eachToks eachStep_toks ops (.live src) t h
  simpa only [eachToks, mem_srcToks] using this

/-- **apply: every token that reaches the loop is a token of an awaitable argument.** -/
theorem C17_adapters_apply_suspends_only_in_user_awaitables (f : Fn) (args : List Item)
    (kwargs : List (Nat × Item)) (t : Tok) (h : Ev.susp t ∈ (apply f args kwargs).1) :
    (∃ it ∈ args, t ∈ it.toks) ∨ ∃ kv ∈ kwargs, t ∈ kv.2.toks := by
  unfold apply at h
  have h1 := susp_awaitAll args t
  have h2 := susp_awaitKw kwargs t
  rcases hr : awaitAll args with ⟨evs, res⟩
  rw [hr] at h h1
  cases res with
  | error e => exact Or.inl (h1 h)
  | ok vs =>
    simp only at h
    rcases hr2 : awaitKw kwargs with ⟨evs', res'⟩
    rw [hr2] at h h2
    cases res' with
    | error e =>
      simp only [List.mem_append] at h
      rcases h with h | h
      · exact Or.inl (h1 h)
      · exact Or.inr (h2 h)
    | ok kvs =>
      simp only [List.mem_append, List.mem_singleton] at h
      rcases h with (h | h) | h
      · exact Or.inl (h1 h)
      · exact Or.inr (h2 h)
      · cases h

/-- **sync: every token that reaches the loop while awaiting `sync(function)(*args, **kwargs)` is a
    token of the awaitable the user's callable returned** — and there is one only if the callable
    does return an awaitable. -/
theorem C17_adapters_sync_suspends_only_in_user_awaitables (f : UFn) (args : List Val)
    (kw : List (Nat × Val)) (t : Tok) (h : Ev.susp t ∈ (callSynced f args kw).1) :
    f.flavour.returnsAw = true ∧ t ∈ f.toks args kw :=
  susp_callSynced f args kw t h

/-- **adapters with only synchronous arguments**: if none of the user awaitables involved has a
    token to yield (every token list is empty), no token reaches the loop at all, whatever the
    consumer does: `any_iter`, `await_each`, `apply` and `sync` complete every operation without
    suspending. -/
theorem C17_adapters_sync_arguments_never_suspend (o : Option Outer) (src : Src) (ops : List Op)
    (ho : ∀ o', o = some o' → o'.toks = []) (hitems : ∀ p ∈ src.items, p.1 = [] ∧ p.2.toks = [])
    (hend : src.endToks = []) (f : Fn) (args : List Item) (kwargs : List (Nat × Item))
    (hargs : ∀ it ∈ args, it.toks = []) (hkw : ∀ kv ∈ kwargs, kv.2.toks = [])
    (g : UFn) (vals : List Val) (kw : List (Nat × Val)) (hg : g.toks vals kw = []) (t : Tok) :
    Ev.susp t ∉ trace (run anyStep (.fresh o src) ops) ∧
    Ev.susp t ∉ trace (run eachStep (.live src) ops) ∧
    Ev.susp t ∉ (apply f args kwargs).1 ∧ Ev.susp t ∉ (callSynced g vals kw).1 := by
  have hsrc : ¬ ((∃ p ∈ src.items, t ∈ p.1 ∨ t ∈ p.2.toks) ∨ t ∈ src.endToks) := by
    rintro (⟨p, hp, h | h⟩ | h)
    · rw [(hitems p hp).1] at h; cases h
    · rw [(hitems p hp).2] at h; cases h
    · rw [hend] at h; cases h
  refine ⟨fun h => ?_, fun h => ?_, fun h => ?_, fun h => ?_⟩
  · rcases C17_adapters_any_iter_suspends_only_in_user_awaitables o src ops t h with
      ⟨o', h1, h2⟩ | h1 | h1
    · rw [ho o' h1] at h2; cases h2
    · exact hsrc (Or.inl h1)
    · exact hsrc (Or.inr h1)
  · exact hsrc (C17_adapters_await_each_suspends_only_in_user_awaitables src ops t h)
  · rcases C17_adapters_apply_suspends_only_in_user_awaitables f args kwargs t h with
      ⟨it, h1, h2⟩ | ⟨kv, h1, h2⟩
    · rw [hargs it h1] at h2; cases h2
    · rw [hkw kv h1] at h2; cases h2
  · have := (C17_adapters_sync_suspends_only_in_user_awaitables g vals kw t h).2
    rw [hg] at this; cases this

/-! ### Examples -/

/-- an async source whose pulls suspend, with an awaitable element, behind an awaitable: the
    tokens reaching the loop are exactly the user's, in program order -/
example : (trace (run anyStep (.fresh (some ⟨9, [100], none⟩)
      ⟨.aiter, [([1], .plain 5), ([2, 3], .aw ⟨7, [4], .ok 6⟩)], [8]⟩) [.next, .next, .next])).filterMap
      (fun e => match e with | .susp t => some t | _ => none)
    = [100, 1, 2, 3, 4, 8] := by decide
/-- only synchronous arguments: a list of plain values and finished awaitables -/
example : (trace (run anyStep (.fresh none ⟨.list, [([], .plain 5), ([], .aw ⟨7, [], .ok 6⟩)], []⟩)
      [.next, .next, .next])).filterMap (fun e => match e with | .susp t => some t | _ => none) = [] := by
  decide

end AsyncVerif.Adapters
