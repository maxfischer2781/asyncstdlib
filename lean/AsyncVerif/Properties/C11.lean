import AsyncVerif.Proofs.LruConc
import AsyncVerif.Properties.C10
/-!
# C11 — lru_cache stays correct under overlapping calls and cancellation

Property theorems only.  Model: `Machines/Lru.lean`, `cstep`: a call is two steps, `begin c p`
(`__call__` up to its only `await`) and `finish c r` (the awaited wrapped function returns, raises
or is cancelled; then the re-check / insert / evict code), interleaved in any order with any number
of other calls, `cache_clear`, `cache_discard`, `cache_info`.  `grun` = `crun` plus ghost
bookkeeping (calls begun / wrapped invocations since the last clear, values produced).
`schedStep` runs task programs one `send` / one cancellation at a time.
-/
namespace AsyncVerif.Lru

/-- Under every interleaving, at every moment: the number of stored entries never exceeds
    `maxsize`, and no two entries have equal keys. -/
theorem C11_size_bounded (cfg : Cfg) (hok : cfg.ok) (ops : List COp) :
    (∀ n, cfg.maxsize = some n → (crun cfg CSt.init ops).core.store.length ≤ n) ∧
    Distinct cfg.typed (crun cfg CSt.init ops).core.store := by
  have h := (grun_inv cfg hok ops (CSt.init, Ghost.init) (CInv.init cfg)).inv
  rw [grun_fst] at h
  exact ⟨fun n hn => h.length_le hn, h.distinct⟩

/-- Under every interleaving: hits plus misses equals the number of calls made, and misses equals
    the number of invocations of the wrapped function (both since the last `cache_clear`, which
    resets the counters). -/
theorem C11_counters (cfg : Cfg) (hok : cfg.ok) (ops : List COp) :
    let x := grun cfg (CSt.init, Ghost.init) ops
    x.1.core.hits + x.1.core.misses = x.2.calls ∧ x.1.core.misses = x.2.invoked := by
  have h := grun_inv cfg hok ops (CSt.init, Ghost.init) (CInv.init cfg)
  exact ⟨h.total, h.missed⟩

/-- Every caller receives a value the wrapped function produced for an equal argument pattern:
    after any interleaving, a call that is answered from the cache gets a value that an earlier
    invocation with an equal key returned; a call that ran the wrapped function gets its own result. -/
theorem C11_values (cfg : Cfg) (hok : cfg.ok) (ops : List COp) (c : Nat) (p : Pattern) (v : Nat) :
    let x := grun cfg (CSt.init, Ghost.init) ops
    ((cstep cfg x.1 (.begin c p)).2 = .hit v →
        ∃ q, (q, v) ∈ x.2.produced ∧ Impl.eqv cfg.typed q p = true) ∧
    (∀ r, (cstep cfg x.1 (.finish c r)).2 = .ret v → r = .ok v) := by
  have h := grun_inv cfg hok ops (CSt.init, Ghost.init) (CInv.init cfg)
  generalize grun cfg (CSt.init, Ghost.init) ops = x at h
  refine ⟨fun hh => ?_, fun r hr => ?_⟩
  · simp only [cstep] at hh
    split at hh
    · cases hh
    · rcases begin_cases cfg x.1.core p with ⟨e, _, hf, -, hb, -⟩ | ⟨-, hb⟩ <;> rw [hb] at hh <;> cases hh
      exact ⟨e.1, h.produced _ (find_mem hf).1, (find_mem hf).2⟩
  · cases hl : lookupCall c x.1.inflight with
    | none => simp only [cstep, hl] at hr; cases hr
    | some q => cases r <;> simp only [cstep, hl] at hr <;> cases hr; rfl

/-- A call that fails or is cancelled (at whichever suspension point of the wrapped function) stores
    nothing and changes no counter: the cache is exactly as if the call were still in flight, minus
    the call. -/
theorem C11_failure_stores_nothing (cfg : Cfg) (s : CSt) (c : Nat) (r : CRes) (hr : ∀ v, r ≠ .ok v) :
    (cstep cfg s (.finish c r)).1.core = s.core := by
  simp only [cstep]
  cases lookupCall c s.inflight with
  | none => rfl
  | some p =>
    cases r with
    | ok v => exact absurd rfl (hr v)
    | fail e => rfl
    | cancel => rfl

/-- … and leaves the cache fully usable: after any interleaving (with any failures and
    cancellations) the cache is in a state from which every sequential history behaves exactly like
    `functools.lru_cache` started from the same contents and counters (C10). -/
theorem C11_then_C10 (cfg : Cfg) (hok : cfg.ok) (cops : List COp) (ops : List Op) :
    run (Impl.step cfg) (crun cfg CSt.init cops).core ops = run (Spec.step cfg) (crun cfg CSt.init cops).core ops := by
  have hw := (grun_inv cfg hok cops (CSt.init, Ghost.init) (CInv.init cfg)).inv.wf
  rw [grun_fst] at hw
  exact C10_refines_from cfg hok _ hw ops

/-- A call with nothing in between its two halves is the sequential call of C10. -/
theorem C11_sequential_call (cfg : Cfg) (s : CSt) (c : Nat) (p : Pattern) (r : Res)
    (hc : lookupCall c s.inflight = none) :
    let x := cstep cfg s (.begin c p)
    (∀ v, x.2 = .hit v → x.1 = ⟨(Impl.call cfg s.core p r).1, s.inflight⟩ ∧ (Impl.call cfg s.core p r).2 = .ret v false) ∧
    (x.2 = .started →
      (cstep cfg x.1 (.finish c r.toC)).1 = ⟨(Impl.call cfg s.core p r).1, s.inflight⟩ ∧
      (cstep cfg x.1 (.finish c r.toC)).2 = (match (Impl.call cfg s.core p r).2 with
        | .ret v _ => .ret v | .raised e => .raised e | o => .seq o)) := by
  simp only [cstep, hc, Option.isSome_none, Bool.false_eq_true, if_false, Impl.call]
  generalize Impl.begin cfg s.core p = b
  obtain ⟨s1, _ | w⟩ := b
  · refine ⟨nofun, fun _ => ?_⟩
    simp only [lookupCall_append_new c p _ hc, dropCall_append_new c p _ hc]
    cases r <;> exact ⟨rfl, rfl⟩
  · exact ⟨fun v hv => by cases hv; exact ⟨rfl, rfl⟩, nofun⟩

/-- Whatever the tasks' programs (calls whose wrapped function suspends any number of times and then
    returns or raises, clears, discards) and whatever the schedule of `send`s and cancellations, the
    cache only ever performs steps of the machine above — so every theorem of this file holds after
    every scheduling step; in particular the size bound. -/
theorem C11_schedules (cfg : Cfg) (hok : cfg.ok) (tasks : List Task) (sched : List SOp) :
    (schedFinal cfg (CSt.init, tasks) sched).1
      = crun cfg CSt.init ((schedEvents cfg (CSt.init, tasks) sched).map Prod.fst) ∧
    (∀ n, cfg.maxsize = some n → (schedFinal cfg (CSt.init, tasks) sched).1.core.store.length ≤ n) := by
  have h := schedFinal_crun cfg sched (CSt.init, tasks)
  refine ⟨h, ?_⟩
  rw [h]
  exact (C11_size_bounded cfg hok _).1

/-! Non-vacuity: two overlapping misses on a full cache of size 1, a clear during flight, a
    cancellation and a failure; then the same through the task layer. -/
private def k (n : Int) : Pattern := ⟨[.prim (.int n)], []⟩
private def c1 : Cfg := ⟨.bounded 1, false⟩

example : c1.ok := by decide +kernel

example : grun c1 (CSt.init, Ghost.init)
    [.begin 0 (k 1), .begin 1 (k 1), .begin 2 (k 2), .finish 1 (.ok 11), .finish 2 (.ok 22), .clear,
     .finish 0 (.ok 10), .begin 3 (k 1), .begin 4 (k 3), .begin 5 (k 4), .finish 4 .cancel, .finish 5 (.fail 9)]
  = (⟨⟨1, 2, [(k 1, 10)]⟩, []⟩, ⟨3, 2, [(k 1, 11), (k 2, 22), (k 1, 10)]⟩) := by decide +kernel

example : (schedRun c1 (CSt.init, [⟨[.call (k 1) 2 (.ok 5), .call (k 2) 0 (.ok 6)], 0, none⟩,
      ⟨[.call (k 1) 1 (.ok 7), .info], 0, none⟩]) [.send 0, .send 1, .send 0, .send 1, .cancel 0]).map (·.1)
  = [[(.begin 0 (k 1), .started)], [(.begin 100 (k 1), .started)], [],
     [(.finish 100 (.ok 7), .ret 7), (.info, .seq (.info 0 2 (some 1) 1))],
     [(.finish 0 .cancel, .cancelled)]] := by decide +kernel

end AsyncVerif.Lru
