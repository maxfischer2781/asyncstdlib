import AsyncVerif.Proofs.LruConcOrder
import AsyncVerif.Properties.C11
/-!
# C11 (order) — the ORDER of a bounded lru_cache under overlapping calls and cancellation

Property theorems only.  Model: `Machines/Lru.lean`, `cstep` (a call is `begin c p` … `finish c r`,
interleaved freely with other calls, `cache_clear`, `cache_discard`; `finish c .cancel` is a
cancellation at the `await`).  Vocabulary (`Proofs/LruConcOrder.lean`, `Proofs/LruOrder.lean`):

* `classify typed s op` says what the step `op` taken in state `s` does to the order: `.hit p` (a
  `begin` answered from the cache: `move_to_end`), `.ins p v` (a successful `finish` whose key is
  not in the cache at that moment: inserted, evicting the oldest entry if the cache is full),
  `.clear`, `.discard p`, `.none` (the `begin` of a miss, a late duplicate, a failure, a
  cancellation, `cache_info`, an ill-formed step).
* a *touch* is a `.hit` or an `.ins` step; `trun` runs the machine and keeps the log of touched keys
  since the last `cache_clear` (oldest first).  The `begin` of a miss is NOT a touch.
* `recency log` lists the distinct keys of `log` in the order of their LAST occurrence (C10);
  `lastN n` takes the last `n`; `keys typed store` are the keys of the store, oldest first.
-/
namespace AsyncVerif.Lru

/-- For every bounded cache (`maxsize = n ≥ 1`, any `typed`) and every interleaving of `begin`,
    `finish` (returning, raising or cancelled), `cache_clear`, `cache_discard`, `cache_info` steps
    of any number of overlapping calls: the cache content, listed from oldest to newest, is exactly
    the list of the distinct keys touched since the last `cache_clear`, ordered by their LAST touch
    and restricted to the keys still present — where a touch is a successful `finish` that inserted
    the key or a `begin` that hit it; the order in which overlapping misses STARTED plays no role
    (a missing `begin` does not enter the log).  If moreover no `cache_discard` occurs, the keys
    present are exactly the `n` most recently touched ones. -/
theorem C11_order_is_completion_then_hit_order (n : Nat) (hn : 1 ≤ n) (typed : Bool) (ops : List COp) :
    let cfg : Cfg := ⟨.bounded n, typed⟩
    let x := trun cfg (CSt.init, []) ops
    x.1 = crun cfg CSt.init ops ∧
    (recency x.2).Nodup ∧
    keys typed x.1.core.store = (recency x.2).filter (fun k => decide (k ∈ keys typed x.1.core.store)) ∧
    ((∀ op ∈ ops, ∀ p, op ≠ .discard p) → keys typed x.1.core.store = lastN n (recency x.2)) := by
  intro cfg x
  have hsub := trun_sublist n typed ops (CSt.init, []) (List.Sublist.refl _)
  exact ⟨trun_fst cfg ops _, recency_nodup _, (sublist_eq_filter hsub (recency_nodup _)).symm,
    trun_lastN n hn typed ops (CSt.init, []) List.drop_nil.symm⟩

/-- Whenever a `finish` inserts (after any interleaving; the call `c` is in flight with pattern `p`,
    it returns `v`, and `p` is not in the cache at that moment): if the cache is not full nothing is
    evicted; if it is full, exactly the oldest entry is evicted, and that victim is the key whose
    last touch is the oldest among all keys in the cache — it stands strictly before every surviving
    key in the last-touch order `recency log`. -/
theorem C11_eviction_victim_is_least_recently_touched (n : Nat) (hn : 1 ≤ n) (typed : Bool) (ops : List COp)
    (c v : Nat) (p : Pattern) :
    let cfg : Cfg := ⟨.bounded n, typed⟩
    let x := trun cfg (CSt.init, []) ops
    lookupCall c x.1.inflight = some p →
    find (Impl.eqv typed) p x.1.core.store = none →
    (x.1.core.store.length < n →
      (cstep cfg x.1 (.finish c (.ok v))).1.core.store = x.1.core.store ++ [(p, v)]) ∧
    (n ≤ x.1.core.store.length → ∃ victim rest, x.1.core.store = victim :: rest ∧
      (cstep cfg x.1 (.finish c (.ok v))).1.core.store = rest ++ [(p, v)] ∧
      keyOf typed victim.1 ∈ recency x.2 ∧
      ∀ e ∈ rest, (recency x.2).idxOf (keyOf typed victim.1) < (recency x.2).idxOf (keyOf typed e.1)) := by
  intro cfg x hl hf
  have hsub : (keys typed x.1.core.store).Sublist (recency x.2) :=
    trun_sublist n typed ops (CSt.init, []) (List.Sublist.refl _)
  have hst : (cstep cfg x.1 (.finish c (.ok v))).1.core.store
      = (if x.1.core.store.length < n then x.1.core.store else x.1.core.store.drop 1) ++ [(p, v)] := by
    simp only [cfg, cstep, hl, resume_bounded_miss hf]
  refine ⟨fun hlt => by rw [hst, if_pos hlt], fun hge => ?_⟩
  rw [hst, if_neg (Nat.not_lt.mpr hge)]
  cases hx : x.1.core.store with
  | nil => rw [hx] at hge; exact absurd (Nat.le_trans hn hge) (Nat.not_succ_le_zero 0)
  | cons victim rest =>
    rw [hx] at hsub
    refine ⟨victim, rest, rfl, rfl, hsub.subset (List.mem_cons_self ..), fun e he => ?_⟩
    -- `victim` stands before `e` in the store, hence in the order of last touch
    have h2 : [keyOf typed victim.1, keyOf typed e.1].Sublist (keys typed (victim :: rest)) :=
      List.Sublist.cons_cons _ (List.singleton_sublist.mpr (List.mem_map_of_mem he))
    exact idxOf_lt_of_pair_sublist (h2.trans hsub) (recency_nodup _)

/-- A late duplicate changes nothing: for every configuration and every state, when the call `c`
    (in flight with pattern `p`) returns `v` but an entry with an equal key is already present
    (another overlapping call stored it first), the `finish` leaves the cache content, its order,
    the stored value and both counters exactly as they were, evicts nothing, is not a touch (the
    log is unchanged); the caller still receives its own `v`. -/
theorem C11_late_duplicate_changes_nothing (cfg : Cfg) (s : CSt) (log : List NKey) (c v : Nat) (p : Pattern)
    (e : Pattern × Nat) (hl : lookupCall c s.inflight = some p)
    (hf : find (Impl.eqv cfg.typed) p s.core.store = some e) :
    (cstep cfg s (.finish c (.ok v))).1.core = s.core ∧
    (cstep cfg s (.finish c (.ok v))).1.inflight = dropCall c s.inflight ∧
    (cstep cfg s (.finish c (.ok v))).2 = .ret v ∧
    (tstep cfg (s, log) (.finish c (.ok v))).2 = log ∧
    seqOps cfg.typed s (.finish c (.ok v)) = [] := by
  refine ⟨?_, ?_, ?_, ?_, ?_⟩
  · simp only [cstep, hl, resume_of_find_some hf]
  · simp only [cstep, hl]
  · simp only [cstep, hl]
  · simp only [tstep, logStep, classify, hl, hf, Option.isSome_some, if_true]
  · simp only [seqOps, classify, hl, hf, Option.isSome_some, if_true]

/-- Every interleaving equals some sequential history, as far as the cache content goes.  For every
    bounded cache (`maxsize = n ≥ 1`) and every interleaving `ops` (including `cache_clear` and
    `cache_discard`, failures and cancellations), the SEQUENTIAL history `seqHistory cfg CSt.init
    ops` — constructed explicitly: a hit becomes a plain call at its `begin`, an inserting miss a
    plain call (returning the same value) at its `finish`, `cache_clear` / `cache_discard` stay
    where they are, and the `begin` of a miss, late duplicates (DROPPED, not turned into hits — a
    hit would reorder), failed and cancelled calls are dropped — drives the sequential machine of
    C10 to the same cache content in the same order with the same values, and the same `hits`; the
    history consists only of successful plain calls and the interleaving's own clears / discards;
    and `functools.lru_cache` (the `Spec` machine of C10) run on that history ends in the very same
    state.  PARTIAL: `misses` cannot be matched by any history of this kind — asyncstdlib counts a
    miss at every missing `begin` (also for calls that later turn out to be late duplicates, fail,
    are cancelled or are still in flight), and a `cache_clear` during flight resets the counter of a
    call that inserts afterwards; what holds without `cache_clear` is the inequality
    `sequential misses + calls still in flight ≤ misses`. -/
theorem C11_overlap_equals_some_sequential_history_partial (n : Nat) (hn : 1 ≤ n) (typed : Bool) (ops : List COp) :
    let cfg : Cfg := ⟨.bounded n, typed⟩
    let hist := seqHistory cfg CSt.init ops
    let σ := final (Impl.step cfg) St.init hist
    let s := crun cfg CSt.init ops
    σ.store = s.core.store ∧ σ.hits = s.core.hits ∧
    final (Spec.step cfg) St.init hist = σ ∧
    (∀ o ∈ hist, (∃ p v, o = Op.call p (.ok v)) ∨ (o = Op.clear ∧ COp.clear ∈ ops) ∨
      (∃ p, o = Op.discard p ∧ COp.discard p ∈ ops)) ∧
    ((∀ op ∈ ops, op ≠ .clear) → σ.misses + s.inflight.length ≤ s.core.misses) := by
  intro cfg hist σ s
  obtain ⟨m, h, hm⟩ := crun_sim_seqOps n typed ops CSt.init 0
  have hσ : σ = { s.core with misses := m } := h
  refine ⟨by rw [hσ], by rw [hσ], (final_eq cfg (show cfg.ok from hn) hist St.init (Wf.init _)).symm,
    seqHistory_shape cfg ops CSt.init, fun hop => ?_⟩
  rw [hσ]
  exact hm hop (Nat.le_refl 0)

/-- The same for task programs under any schedule of `send`s and cancellations: the cache after the
    schedule is the cache after the interleaving of machine steps the schedule performed, so the
    four theorems above apply to every set of tasks and every schedule. -/
theorem C11_order_schedules (n : Nat) (hn : 1 ≤ n) (typed : Bool) (tasks : List Task) (sched : List SOp) :
    let cfg : Cfg := ⟨.bounded n, typed⟩
    let ops := (schedEvents cfg (CSt.init, tasks) sched).map Prod.fst
    let x := trun cfg (CSt.init, []) ops
    (schedFinal cfg (CSt.init, tasks) sched).1 = x.1 ∧
    keys typed x.1.core.store = (recency x.2).filter (fun k => decide (k ∈ keys typed x.1.core.store)) ∧
    (final (Impl.step cfg) St.init (seqHistory cfg CSt.init ops)).store = x.1.core.store := by
  intro cfg ops x
  have h1 := C11_order_is_completion_then_hit_order n hn typed ops
  have h4 := C11_overlap_equals_some_sequential_history_partial n hn typed ops
  simp only at h1 h4
  refine ⟨?_, h1.2.2.1, ?_⟩
  · rw [schedFinal_crun]; exact h1.1.symm
  · rw [h4.1]; exact congrArg (fun y => y.core.store) h1.1.symm

private def k (n : Int) : Pattern := ⟨[.prim (.int n)], []⟩
private def c2 : Cfg := ⟨.bounded 2, false⟩
private def ops1 : List COp :=
  [.begin 0 (k 1), .begin 1 (k 2), .begin 2 (k 3), .begin 3 (k 2), .finish 2 (.ok 30), .finish 1 (.ok 20),
   .finish 3 (.ok 21), .begin 4 (k 3), .finish 0 (.ok 10)]

/-- `ops1` (maxsize 2): the misses start in the order 1, 2, 3, 2 but complete in the order 3, 2, (2:
    late duplicate), then 3 is hit, then 1 completes and evicts 2 (not 3, which was hit later). -/
example : trun c2 (CSt.init, []) ops1
    = (⟨⟨1, 4, [(k 3, 30), (k 1, 10)]⟩, []⟩, [keyOf false (k 3), keyOf false (k 2), keyOf false (k 3), keyOf false (k 1)]) := by
  decide +kernel

example : recency (trun c2 (CSt.init, []) ops1).2 = [keyOf false (k 2), keyOf false (k 3), keyOf false (k 1)] ∧
    keys false (trun c2 (CSt.init, []) ops1).1.core.store = [keyOf false (k 3), keyOf false (k 1)] ∧
    lastN 2 (recency (trun c2 (CSt.init, []) ops1).2) = [keyOf false (k 3), keyOf false (k 1)] ∧
    (∀ op ∈ ops1, ∀ p, op ≠ .discard p) := by
  refine ⟨by decide +kernel, by decide +kernel, by decide +kernel, ?_⟩
  intro op hop p h
  subst h
  simp [ops1] at hop

/-- with a discard, a cancellation, a failure and a clear during flight -/
private def ops2 : List COp :=
  [.begin 0 (k 1), .begin 1 (k 2), .finish 1 (.ok 20), .finish 0 (.ok 10), .begin 2 (k 2), .discard (k 1),
   .begin 3 (k 3), .begin 4 (k 4), .begin 5 (k 5), .finish 4 .cancel, .finish 5 (.fail 7), .finish 3 (.ok 30),
   .begin 6 (k 6), .clear, .finish 6 (.ok 60)]

example : trun c2 (CSt.init, []) (ops2.take 12)
    = (⟨⟨1, 5, [(k 2, 20), (k 3, 30)]⟩, []⟩,
       [keyOf false (k 2), keyOf false (k 1), keyOf false (k 2), keyOf false (k 3)]) ∧
    trun c2 (CSt.init, []) ops2 = (⟨⟨0, 0, [(k 6, 60)]⟩, []⟩, [keyOf false (k 6)]) := by decide +kernel

/-- the eviction in `ops1`: before the last step the cache is full with 2 (touched at step 6) and 3
    (hit at step 8); call 0 (pattern 1) is in flight and absent: its `finish` evicts 2 -/
example : lookupCall 0 (trun c2 (CSt.init, []) ops1.dropLast).1.inflight = some (k 1) ∧
    find (Impl.eqv false) (k 1) (trun c2 (CSt.init, []) ops1.dropLast).1.core.store = none ∧
    (trun c2 (CSt.init, []) ops1.dropLast).1.core.store = [(k 2, 20), (k 3, 30)] ∧
    (cstep c2 (trun c2 (CSt.init, []) ops1.dropLast).1 (.finish 0 (.ok 10))).1.core.store = [(k 3, 30), (k 1, 10)] ∧
    recency (trun c2 (CSt.init, []) ops1.dropLast).2 = [keyOf false (k 2), keyOf false (k 3)] := by decide +kernel

/-- the late duplicate in `ops1`: after six steps call 3 (pattern 2) is in flight while call 1 has
    already stored pattern 2 -/
example : lookupCall 3 (trun c2 (CSt.init, []) (ops1.take 6)).1.inflight = some (k 2) ∧
    find (Impl.eqv c2.typed) (k 2) (trun c2 (CSt.init, []) (ops1.take 6)).1.core.store = some (k 2, 20) ∧
    (cstep c2 (trun c2 (CSt.init, []) (ops1.take 6)).1 (.finish 3 (.ok 21))).1.core
      = ⟨0, 4, [(k 3, 30), (k 2, 20)]⟩ := by decide +kernel

/-- the sequential history of `ops1`, and the counters: hits agree, misses 3 against 4 -/
example : seqHistory c2 CSt.init ops1
      = [.call (k 3) (.ok 30), .call (k 2) (.ok 20), .call (k 3) (.ok 0), .call (k 1) (.ok 10)] ∧
    final (Impl.step c2) St.init (seqHistory c2 CSt.init ops1) = ⟨1, 3, [(k 3, 30), (k 1, 10)]⟩ ∧
    (crun c2 CSt.init ops1).core = ⟨1, 4, [(k 3, 30), (k 1, 10)]⟩ ∧
    seqHistory c2 CSt.init ops2
      = [.call (k 2) (.ok 20), .call (k 1) (.ok 10), .call (k 2) (.ok 0), .discard (k 1), .call (k 3) (.ok 30),
         .clear, .call (k 6) (.ok 60)] := by decide +kernel

/-- through the task layer: two tasks whose calls overlap -/
example : (schedFinal c2 (CSt.init, [⟨[.call (k 1) 2 (.ok 5), .call (k 2) 0 (.ok 6)], 0, none⟩,
      ⟨[.call (k 1) 1 (.ok 7), .call (k 3) 0 (.ok 8)], 0, none⟩]) [.send 0, .send 1, .send 0, .send 1, .send 0]).1.core
    = ⟨0, 4, [(k 3, 8), (k 2, 6)]⟩ := by decide +kernel

end AsyncVerif.Lru
