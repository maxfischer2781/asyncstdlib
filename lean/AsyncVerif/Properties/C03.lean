import AsyncVerif.Proofs.AggTools
import AsyncVerif.Proofs.SetDict
import AsyncVerif.Proofs.KindFree
import AsyncVerif.Proofs.Awaitify
import AsyncVerif.Impl.Aggregations
/-!
# C03 — async neutrality: sync and async arguments are interchangeable

`World.withKinds κ w` re-flavours every iterable argument (list, sequence via `__getitem__`, sync
iterator, async generator, class-based async iterator) while keeping what it produces.
`KindFree m` then gives: same items yielded, same return value, same raised exception — for every
world (every input, fault position, consumer behaviour) and every re-flavouring.
Callable flavours need no erasure in the model (a single primitive `call`); what `call` abstracts, the
`awaitify` wrapper, is a machine of its own (Machines/Awaitify.lean, `C03_awaitify_transparent`).  The second sentence of the property (every library callable returns an
awaitable / async iterator / async context manager) is a typing fact in the model (`M _`), checked on
the real code by the harness.
-/
namespace AsyncVerif

/-- replace the kind of every source (any mixture), keeping scripts and state -/
def World.withKinds (κ : Nat → SrcKind) (w : World) : World :=
  { w with srcs := fun s => { (w.srcs s) with kind := κ s } }

/-- the kinds the property quantifies over (everything but "class-based iterator without aclose") -/
def Neutral (κ : Nat → SrcKind) : Prop := ∀ s, κ s ≠ .aobjNc

theorem sim_withKinds (w : World) (κ κ' : Nat → SrcKind) (h : Neutral κ) (h' : Neutral κ') :
    Sim (w.withKinds κ) (w.withKinds κ') :=
  ⟨rfl, rfl, rfl, rfl, fun _ => ⟨rfl, rfl⟩, fun s => ⟨h s, h' s⟩⟩

/-- **Flavour erasure.** Re-flavouring the iterable arguments of a kind-free program in any mixture
    changes neither its outcome (return value / exception) nor the items it yields. -/
theorem C03_erasure {α : Type} {m : M α} (hm : KindFree m) (w : World) (κ κ' : Nat → SrcKind)
    (h : Neutral κ) (h' : Neutral κ') :
    (m (w.withKinds κ)).1 = (m (w.withKinds κ')).1 ∧
    yields (m (w.withKinds κ)).2.vis = yields (m (w.withKinds κ')).2.vis := by
  have := hm.run _ _ (sim_withKinds w κ κ' h h')
  exact ⟨this.1, this.2.1⟩

theorem C03_filter (fn : Option Nat) (s fuel : Nat) : KindFree (Impl.filter fn s fuel) :=
  kf_compositional.filter fn s fuel
theorem C03_filterfalse (fn : Option Nat) (s fuel : Nat) : KindFree (Impl.filterfalse fn s fuel) :=
  kf_compositional.filterfalse fn s fuel
theorem C03_enumerate (s : Nat) (start : Int) (fuel : Nat) : KindFree (Impl.enumerate s start fuel) :=
  kf_compositional.enumerate s start fuel
theorem C03_takewhile (f s fuel : Nat) : KindFree (Impl.takewhile f s fuel) :=
  kf_compositional.takewhile f s fuel
theorem C03_dropwhile (f s fuel : Nat) : KindFree (Impl.dropwhile f s fuel) :=
  kf_compositional.dropwhile f s fuel
theorem C03_starmap (f s fuel : Nat) : KindFree (Impl.starmap f s fuel) :=
  kf_compositional.starmap f s fuel
theorem C03_accumulate (fn : Option Nat) (initial : Option Val) (s fuel : Nat) :
    KindFree (Impl.accumulate fn initial s fuel) :=
  kf_compositional.accumulate fn initial s fuel
theorem C03_batched (n : Nat) (strict : Bool) (s fuel : Nat) : KindFree (Impl.batched n strict s fuel) :=
  kf_compositional.batched n strict s fuel
theorem C03_chain_iterator (srcs : List Nat) (fuel : Nat) : KindFree (Impl.chainIter srcs fuel) :=
  kf_compositional.chainIter fuel srcs
theorem C03_compress (d sel fuel : Nat) : KindFree (Impl.compress d sel fuel) :=
  kf_compositional.compress d sel fuel
theorem C03_cycle (s fuel : Nat) : KindFree (Impl.cycle s fuel) :=
  kf_compositional.cycle s fuel
theorem C03_islice (s start : Nat) (stop : Option Nat) (step fuel : Nat) :
    KindFree (Impl.islice s start stop step fuel) :=
  kf_compositional.islice s start stop step fuel
theorem C03_pairwise (s fuel : Nat) : KindFree (Impl.pairwise s fuel) :=
  kf_compositional.pairwise s fuel
theorem C03_zip (srcs : List Nat) (fuel : Nat) : KindFree (Impl.zip srcs fuel) :=
  kf_compositional.zip srcs fuel
theorem C03_zip_strict (srcs : List Nat) (fuel : Nat) : KindFree (Impl.zipStrict srcs fuel) :=
  kf_compositional.zipStrict srcs fuel
theorem C03_map (f : Nat) (srcs : List Nat) (fuel : Nat) : KindFree (Impl.map f srcs fuel) :=
  kf_compositional.map f srcs fuel
theorem C03_zip_longest (fillv : Val) (srcs : List Nat) (fuel : Nat) : KindFree (Impl.zipLongest fillv srcs fuel) :=
  kf_compositional.zipLongest fillv srcs fuel
theorem C03_all (s fuel : Nat) : KindFree (Impl.all s fuel) :=
  kf_compositional.all s fuel
theorem C03_any (s fuel : Nat) : KindFree (Impl.any s fuel) :=
  kf_compositional.any s fuel

theorem C03_merge (fn : Option Nat) (reverse : Bool) (srcs : List Nat) (fuel : Nat) :
    KindFree (Impl.merge fn reverse srcs fuel) :=
  kf_compositional.merge fn reverse srcs fuel
theorem C03_sum (start : Option Val) (s fuel : Nat) : KindFree (Impl.sum start s fuel) :=
  kf_compositional.sum start s fuel
theorem C03_min_max (fn : Option Nat) (isMax : Bool) (d : Option Val) (s fuel : Nat) :
    KindFree (Impl.minmax fn isMax d s fuel) :=
  kf_compositional.minmax fn isMax d s fuel
theorem C03_reduce (f : Nat) (ini : Option Val) (s fuel : Nat) : KindFree (Impl.reduce f ini s fuel) :=
  kf_compositional.reduce f ini s fuel
theorem C03_list (s fuel : Nat) : KindFree (Impl.list s fuel) :=
  kf_compositional.list s fuel
theorem C03_tuple (s fuel : Nat) : KindFree (Impl.tuple s fuel) :=
  kf_compositional.tuple s fuel
theorem C03_sorted (fn : Option Nat) (reverse : Bool) (s fuel : Nat) : KindFree (Impl.sorted fn reverse s fuel) :=
  kf_compositional.sorted fn reverse s fuel
theorem C03_nlargest_nsmallest (largest : Bool) (n : Nat) (fn : Option Nat) (s fuel : Nat) :
    KindFree (Impl.nBest largest n fn s fuel) :=
  kf_compositional.nBest largest n fn s fuel

theorem C03_set (s fuel : Nat) : KindFree (Impl.set s fuel) :=
  kf_compositional.set s fuel
theorem C03_dict (s fuel : Nat) : KindFree (Impl.dict s fuel) :=
  kf_compositional.dict s fuel

/-! Non-vacuity: the same script as a sync iterator and as an async generator. -/
private def wk : World :=
  { srcs := fun _ => { kind := .iter, script := [.item (.obj 1 1), .item (.obj 2 0), .err 7] },
    fns := fun _ _ args => .ok (.bool ((args.headD .none).truthy)),
    calls := fun _ => 0, cons := .run 0 .exhaust, vis := [], rel := [] }
example : Neutral (fun _ => SrcKind.iter) ∧ Neutral (fun _ => SrcKind.agen) := ⟨by intro s; simp, by intro s; simp⟩
example : yields (Impl.filter (some 0) 0 9 (wk.withKinds fun _ => .agen)).2.vis = [.obj 1 1] := by rfl

/-- **Callable flavours.** For every flavour (def, async def, partial(async def), callable object returning a
    coroutine that fails inside the coroutine or at call time) and every sequence of invocations on one
    `awaitify` wrapper — including a FIRST call that raises — `await awaitify(f)(*args)` evaluates to exactly
    what the n-th invocation of `f` does; it never hands back an un-awaited coroutine. -/
theorem C03_awaitify_transparent (fl : Awaitify.Flavour) (behs : List (Except Nat Nat)) :
    Awaitify.run fl Awaitify.init behs = behs.map Awaitify.ofBeh :=
  Awaitify.run_spec fl behs Awaitify.init (Awaitify.inv_init fl)

example : Awaitify.run .objx Awaitify.init [.error 7, .ok 1, .ok 2] = [.exc 7, .val 1, .val 2] := by decide

end AsyncVerif
