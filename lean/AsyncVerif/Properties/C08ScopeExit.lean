import AsyncVerif.Proofs.ScopeExit
/-!
# C08 — leaving a nest of `scoped_iter` blocks when the underlying iterator's own `aclose()` fails

Property theorems only.  Model: `Machines/ScopeExit.lean` — an underlying iterator whose `aclose()` succeeds,
raises, or suspends and is cancelled there (`CloseBeh`; in the failing cases it stays usable, like the harness's
`_BadCloseSource`), a nest of `s.active` scopes (scope `0` on the iterator, scope `k+1` on the handle of scope
`k`), `aexit` = `_ScopedAsyncIteratorContext.__aexit__` as written (own wrapper first, then `aclose()` of what
the scope was opened on), `exitAll m` = the whole nest is left by `m` (fall-through / exception / cancellation
raised in the innermost block), `leaveN k m` = only the innermost `k` blocks are left, `exitSwapped` = the same
with the two awaits of `__aexit__` in the wrong order.

The theorems quantify over EVERY state `s` of the machine whose retired handles are closed (`Retired s`: holds in
every state reachable by `enter` / `nextH` / `takeH` / leaving scopes, `nest_spec`, `pullH_retired`,
`enter_retired`) with at least one scope entered: any depth `s.active ≥ 1`, any number `s.n` of remaining items,
any close behaviour `s.beh`, any wrappers already finished by exhaustion, any history `s.closes`, `s.log`.
This removes the manifest's assumption "aclose() of the underlying iterator is assumed not to raise" for the
exit path.
-/
namespace AsyncVerif.ScopeExit

/-- (a) After the nest has been left — normally, by an exception or by a cancellation, and EVEN IF the
    underlying iterator's `aclose()` raised or was cancelled — every wrapper is closed, so no handle (of any
    scope of the nest, or retired earlier) yields anything: `__anext__` on it raises StopAsyncIteration without
    touching anything (the state is unchanged, hence this stays so for ever), and a tool handed the handle gets
    no item. -/
theorem C08_scope_exit_retires_every_handle (m : Leave) (s : St) (hr : Retired s) (h : 0 < s.active) (i : Nat) :
    (exitAll m s).1.wopen i = false
    ∧ nextH i (exitAll m s).1 = ((exitAll m s).1, none)
    ∧ ∀ c, takeH i c (exitAll m s).1 = ((exitAll m s).1, []) := by
  obtain ⟨_, _, o3, o4, _⟩ := exitAll_spec m s h
  have hw := hr.all_closed o3 o4 i
  exact ⟨hw, pullH_closed i _ hw, fun c => takeH_closed i c _ hw⟩

/-- (b) Leaving the nest invokes the underlying iterator's `aclose()` exactly once; it is the outermost scope
    (scope `0`) that invokes it, and only after the wrappers of all scopes `s.active-1, …, 1, 0` have been
    closed, innermost first (the log gains exactly these events in this order).  Leaving fewer than all scopes
    never invokes it: the inner scopes' `__aexit__` call the outer handle's no-op `aclose`. -/
theorem C08_scope_exit_closes_once (m : Leave) (s : St) (h : 0 < s.active) :
    (exitAll m s).1.closes = s.closes + 1
    ∧ (exitAll m s).1.log = s.log ++ (List.range s.active).reverse.map Ev.wclose ++ [Ev.uclose 0]
    ∧ ∀ k, k < s.active → (leaveN k m s).1.closes = s.closes
        ∧ (leaveN k m s).1.log = s.log ++ (List.range' (s.active - k) k).reverse.map Ev.wclose := by
  obtain ⟨_, _, _, _, o5, _, _, _, _, o10⟩ := exitAll_spec m s h
  refine ⟨o5, ?_, fun k hk => ?_⟩
  · rw [o10, wcloses, List.range_eq_range']
  · obtain ⟨_, _, _, i4, _, _, _, _, i9⟩ := leaveN_inner k m s hk
    exact ⟨i4, i9⟩

/-- (c) What leaves the nest: the close failure if the underlying `aclose()` failed — its exception resp. the
    cancellation thrown into it replaces whatever was leaving the block — and the block's own outcome
    otherwise (`__aexit__` returns `None`: nothing is swallowed, a fall-through stays a fall-through). -/
theorem C08_scope_exit_propagates (m : Leave) (s : St) (h : 0 < s.active) :
    (exitAll m s).2 = match s.beh with
      | .ok => m
      | .raises e => .raised e
      | .cancelledIn e => .cancelled e := by
  rw [(exitAll_spec m s h).1]
  cases s.beh <;> rfl

/-- … and what the `__aexit__`s do is the same however the block is left. -/
theorem C08_scope_exit_mode_irrelevant (m m' : Leave) (s : St) :
    (exitAll m s).1 = (exitAll m' s).1 := leaveNWith_fst_mode aexit s.active m m' s

/-- The iterator itself after the exit: no item was consumed by leaving; it is closed iff its `aclose()`
    completed. -/
theorem C08_scope_exit_iterator (m : Leave) (s : St) (h : 0 < s.active) :
    (exitAll m s).1.n = s.n ∧ (exitAll m s).1.pos = s.pos
    ∧ (exitAll m s).1.uclosed = (s.uclosed || s.beh.failure.isNone) := by
  obtain ⟨_, _, _, _, _, o6, o7, _, o9, _⟩ := exitAll_spec m s h
  exact ⟨o6, o7, o9⟩

/-- (d) Leaving only the innermost `k` of the open scopes (`k < s.active`; by a fall-through, or by an
    exception / cancellation travelling through them): the outcome arrives unchanged in the enclosing block;
    exactly the handles of these `k` scopes are retired (they yield nothing from now on); the wrappers of all
    other handles are untouched and an outer handle `i` answers its next `__anext__` exactly as it would have
    without the inner scopes being left — in particular, if its wrappers down to the iterator are open and
    items remain, with the iterator's next item; the underlying `aclose()` has not been invoked and the
    iterator is untouched. -/
theorem C08_scope_exit_inner_only_own (k : Nat) (m : Leave) (s : St) (h : k < s.active) :
    (leaveN k m s).2 = m
    ∧ (leaveN k m s).1.active = s.active - k
    ∧ (∀ i, s.active - k ≤ i → i < s.active →
        (leaveN k m s).1.wopen i = false ∧ nextH i (leaveN k m s).1 = ((leaveN k m s).1, none))
    ∧ (∀ i, ¬ (s.active - k ≤ i ∧ i < s.active) → (leaveN k m s).1.wopen i = s.wopen i)
    ∧ (∀ i, i < s.active - k → (nextH i (leaveN k m s).1).2 = (nextH i s).2)
    ∧ (∀ i c, i < s.active - k → (∀ j, j ≤ i → s.wopen j = true) → s.uclosed = false → s.n = c + 1 →
        (nextH i (leaveN k m s).1).2 = some s.pos)
    ∧ (leaveN k m s).1.closes = s.closes
    ∧ (leaveN k m s).1.n = s.n ∧ (leaveN k m s).1.pos = s.pos ∧ (leaveN k m s).1.uclosed = s.uclosed := by
  obtain ⟨i1, i2, i3, i4, i5, i6, _, i8, _⟩ := leaveN_inner k m s h
  have hagree : ∀ i, i < s.active - k → AgreeUpTo i (leaveN k m s).1 s := fun i hi =>
    ⟨fun j hj => by rw [i3 j, if_neg (by omega)], i5, i6, i8⟩
  refine ⟨i1, i2, fun i h1 h2 => ?_, fun i hi => by rw [i3 i, if_neg hi],
    fun i hi => (pullH_agree i _ _ (hagree i hi)).1, fun i c hi ho hu hn => ?_, i4, i5, i6, i8⟩
  · have hw : (leaveN k m s).1.wopen i = false := by rw [i3 i, if_pos ⟨h1, h2⟩]
    exact ⟨hw, pullH_closed i _ hw⟩
  · show (pullH i (leaveN k m s).1).2 = some s.pos
    rw [(pullH_agree i _ _ (hagree i hi)).1, pullH_item i s c ho hu hn]

/-- (d') The same when the inner blocks are left one by one, each in its own way (`ms`, innermost first; the
    exception of one block is handled in the enclosing block before that is left in turn): every outcome
    arrives unchanged and the state is that of `leaveN`, so all of (d) applies. -/
theorem C08_scope_exit_inner_each (ms : List Leave) (s : St) (h : ms.length < s.active) :
    (leaveEach ms s).2 = ms ∧ (leaveEach ms s).1 = (leaveN ms.length .normal s).1 :=
  leaveEach_inner ms s h

/-- `exitInnermost` — one `__aexit__`, an exception raised by it travelling on through the enclosing scopes — is
    one step of the above: below the outermost scope `__aexit__` cannot raise, and when the outermost scope's
    does, no enclosing scope is left to run. -/
theorem C08_scope_exit_innermost (m : Leave) (s : St) (h : 0 < s.active) :
    exitInnermost m s = leaveN 1 m s := by
  obtain ⟨a, ha⟩ : ∃ a, s.active = a + 1 := ⟨s.active - 1, by omega⟩
  cases a with
  | zero =>
    cases hb : s.beh <;>
      simp [exitInnermost, leaveN, leaveNWith, leaveOneWith, aexit, ha, closeTarget, closeU, closeWrapper, hb,
        CloseBeh.failure]
  | succ a => simp [exitInnermost, leaveN, leaveNWith, leaveOneWith, aexit_inner s a ha]

/-- (e) The seeded change, concretely (the harness's case `badclose`, mode `raise`, depth 2, run with the two
    awaits of `__aexit__` swapped): the exception of the failing `aclose()` leaves the nest, the inner handle is
    retired, but the OUTER handle still yields item `2`, and `list(islice(outer, 2))` then gets `[3, 4]`. -/
theorem C08_scope_exit_swapped_order_counterexample :
    observe true 2 6 (.raises 31) 1 .normal
      = { exit := .raised 31, after := [some 2, none], toolAfter := [3, 4], closes := 1, consumed := 5 }
    ∧ observe false 2 6 (.raises 31) 1 .normal
      = { exit := .raised 31, after := [none, none], toolAfter := [], closes := 1, consumed := 2 } := by
  decide

/-- (e) … for every depth: with the swapped order and an underlying `aclose()` that raises or is cancelled
    (failure `x`), the failure leaves the nest after exactly one `aclose()` call as before, all inner handles are
    retired, but the outermost handle's wrapper is left exactly as it was: if it was open it stays OPEN, and the
    retired-looking handle goes on yielding the iterator's remaining items (the next `c ≤ s.n` of them to a
    consumer, the first of them to a single `__anext__`). -/
theorem C08_scope_exit_swapped_order_keeps_yielding (m x : Leave) (s : St) (h : 0 < s.active)
    (hf : s.beh.failure = some x) (h0 : s.wopen 0 = true) (hu : s.uclosed = false) :
    (exitSwapped m s).2 = x
    ∧ (exitSwapped m s).1.closes = s.closes + 1
    ∧ (exitSwapped m s).1.wopen 0 = true
    ∧ (∀ i, 0 < i → i < s.active → (exitSwapped m s).1.wopen i = false)
    ∧ (∀ c, c ≤ s.n → (takeH 0 c (exitSwapped m s).1).2 = List.range' s.pos c)
    ∧ (∀ c, s.n = c + 1 → (nextH 0 (exitSwapped m s).1).2 = some s.pos) := by
  obtain ⟨o1, _, o3, o4, _, o6, o7, o8, o9, _⟩ := exitSwapped_fail_spec m x s h hf
  have hw : ∀ j, j ≤ 0 → (exitSwapped m s).1.wopen j = true := fun j hj => by
    have : j = 0 := by omega
    subst this; rw [o3]; exact h0
  refine ⟨o1, o6, by rw [o3]; exact h0, o4, fun c hc => ?_, fun c hc => ?_⟩
  · rw [takeH_open 0 c _ hw (by rw [o9]; exact hu) (by rw [o7]; exact hc), o8]
  · show (pullH 0 (exitSwapped m s).1).2 = some s.pos
    rw [pullH_item 0 _ c hw (by rw [o9]; exact hu) (by rw [o7]; exact hc), o8]

/-- (e) General characterisation of the swapped order: after the nest has been left, handle `i` is still open
    iff it is the outermost one, it was open, and the underlying `aclose()` failed.  So the swapped order is
    indistinguishable (in what the handles yield) exactly as long as the underlying `aclose()` does not fail —
    the assumption under which `Machines/Borrow.lean` was built. -/
theorem C08_scope_exit_swapped_order_characterisation (m : Leave) (s : St) (hr : Retired s) (h : 0 < s.active)
    (i : Nat) :
    (exitSwapped m s).1.wopen i = (decide (i = 0) && s.beh.failure.isSome && s.wopen 0) := by
  cases hf : s.beh.failure with
  | none =>
    obtain ⟨_, o2, o3, _⟩ := exitSwapped_ok_spec m s h hf
    simp only [Option.isSome_none, Bool.and_false, Bool.false_and]
    exact hr.all_closed o2 o3 i
  | some x =>
    obtain ⟨_, _, o3, o4, o5, _⟩ := exitSwapped_fail_spec m x s h hf
    by_cases c0 : i = 0
    · subst c0; simp [o3]
    · simp only [c0, decide_false, Bool.false_and]
      by_cases c : i < s.active
      · exact o4 i (by omega) c
      · rw [o5 i (by omega)]; exact hr i (by omega)

/-- The nest built by the harness's `_observe_badclose` (`depth ≥ 1` scopes, `n` items, each level taking
    `taken` items from its new handle before opening the next), for every depth, `n`, `taken`, close behaviour
    and way of leaving: every handle is retired, the underlying `aclose()` was invoked exactly once — by scope
    `0`, after every wrapper was closed —, and the close failure, if any, leaves the nest, else the block's
    outcome. -/
theorem C08_scope_exit_nest (depth n : Nat) (beh : CloseBeh) (taken : Nat) (m : Leave) (hd : 0 < depth) :
    (∀ i, nextH i (exitAll m (nest depth n beh taken)).1 = ((exitAll m (nest depth n beh taken)).1, none))
    ∧ (exitAll m (nest depth n beh taken)).1.closes = 1
    ∧ (exitAll m (nest depth n beh taken)).1.log
        = (List.range depth).reverse.map Ev.wclose ++ [Ev.uclose 0]
    ∧ (exitAll m (nest depth n beh taken)).2 = beh.failure.getD m := by
  obtain ⟨n1, n2, n3, n4, _, n6⟩ := nest_spec depth n beh taken
  have ha : 0 < (nest depth n beh taken).active := by rw [n1]; exact hd
  obtain ⟨c1, c2, _⟩ := C08_scope_exit_closes_once m _ ha
  refine ⟨fun i => (C08_scope_exit_retires_every_handle m _ n2 ha i).2.1, by rw [c1, n4], ?_, ?_⟩
  · rw [c2, n6, n1]; rfl
  · rw [(exitAll_spec m _ ha).1, n3]

/-- … and with the swapped order, for every depth, while items remain (`depth * taken < n`): a failing
    underlying `aclose()` leaves the outermost handle yielding the next item `depth * taken`. -/
theorem C08_scope_exit_swapped_order_nest (depth n : Nat) (beh : CloseBeh) (taken : Nat) (m x : Leave)
    (hd : 0 < depth) (hn : depth * taken < n) (hf : beh.failure = some x) :
    (exitSwapped m (nest depth n beh taken)).2 = x
    ∧ (nextH 0 (exitSwapped m (nest depth n beh taken)).1).2 = some (depth * taken) := by
  obtain ⟨n1, _, n3, _, n5, _⟩ := nest_spec depth n beh taken
  obtain ⟨p1, p2, p3⟩ := nest_open depth n beh taken (by omega)
  have ha : 0 < (nest depth n beh taken).active := by rw [n1]; exact hd
  obtain ⟨k1, _, _, _, _, k6⟩ := C08_scope_exit_swapped_order_keeps_yielding m x _ ha (by rw [n3]; exact hf)
    (p1 0 hd) n5
  refine ⟨k1, ?_⟩
  rw [k6 (n - depth * taken - 1) (by rw [p2]; omega), p3]

section Examples

/-- three nested scopes over an iterator of 6 items whose `aclose()` raises 31; each level took one item -/
private def ex3 : St := nest 3 6 (.raises 31) 1

private theorem ex3_retired : Retired ex3 := (nest_spec 3 6 (.raises 31) 1).2.1
private theorem ex3_active : 0 < ex3.active := by decide

example : ex3.wrappers = [true, true, true] ∧ ex3.n = 3 ∧ ex3.pos = 3 := by decide

-- (a): hypotheses hold on `ex3`; left by a cancellation, the raising close: all three handles are retired
example : ∀ i, (exitAll (.cancelled 7) ex3).1.wopen i = false :=
  fun i => (C08_scope_exit_retires_every_handle (.cancelled 7) ex3 ex3_retired ex3_active i).1
example : (exitAll (.cancelled 7) ex3).1.wrappers = [false, false, false] := by decide

-- (b)
example : (exitAll .normal ex3).1.closes = 1
    ∧ (exitAll .normal ex3).1.log = [.wclose 2, .wclose 1, .wclose 0, .uclose 0] := by
  obtain ⟨h1, h2, _⟩ := C08_scope_exit_closes_once .normal ex3 ex3_active
  exact ⟨h1, h2⟩

-- (c): the raising close replaces the cancellation; a successful close lets it through
example : (exitAll (.cancelled 7) ex3).2 = .raised 31 :=
  C08_scope_exit_propagates (.cancelled 7) ex3 ex3_active
example : (exitAll (.cancelled 7) (nest 3 6 .ok 1)).2 = .cancelled 7 :=
  C08_scope_exit_propagates (.cancelled 7) (nest 3 6 .ok 1) (by decide)

-- (d): two of the three scopes left by an exception: handles 1 and 2 are retired, handle 0 yields item 3
example : (leaveN 2 (.raised 5) ex3).2 = .raised 5 ∧ (leaveN 2 (.raised 5) ex3).1.closes = 0
    ∧ (nextH 0 (leaveN 2 (.raised 5) ex3).1).2 = some 3 := by
  obtain ⟨h1, _, _, _, _, h6, h7, _⟩ := C08_scope_exit_inner_only_own 2 (.raised 5) ex3 (by decide)
  exact ⟨h1, h7, h6 0 2 (by decide) (by decide) (by decide) (by decide)⟩
example : (leaveN 2 (.raised 5) ex3).1.wrappers = [true, false, false] := by decide
example : (leaveEach [.normal, .cancelled 9] ex3).2 = [.normal, .cancelled 9] :=
  (C08_scope_exit_inner_each [.normal, .cancelled 9] ex3 (by decide)).1

-- (e): swapped order on `ex3`: the outer handle stays open and yields 3, 4, 5
example : (exitSwapped .normal ex3).2 = .raised 31 ∧ (takeH 0 3 (exitSwapped .normal ex3).1).2 = [3, 4, 5] := by
  obtain ⟨h1, _, _, _, h5, _⟩ := C08_scope_exit_swapped_order_keeps_yielding .normal (.raised 31) ex3 ex3_active
    (by decide) (by decide) (by decide)
  exact ⟨h1, h5 3 (by decide)⟩
example : (exitSwapped .normal ex3).1.wopen 0 = true := by
  rw [C08_scope_exit_swapped_order_characterisation .normal ex3 ex3_retired ex3_active 0]; decide
example : (exitSwapped .normal (nest 4 9 (.cancelledIn 32) 2)).2 = .cancelled 32
    ∧ (nextH 0 (exitSwapped .normal (nest 4 9 (.cancelledIn 32) 2)).1).2 = some 8 :=
  C08_scope_exit_swapped_order_nest 4 9 (.cancelledIn 32) 2 .normal (.cancelled 32) (by decide) (by decide) rfl

-- the nest theorem on the harness's own cases
example : (exitAll .normal (nest 3 6 (.cancelledIn 32) 1)).2 = .cancelled 32 :=
  (C08_scope_exit_nest 3 6 (.cancelledIn 32) 1 .normal (by decide)).2.2.2

end Examples

end AsyncVerif.ScopeExit
