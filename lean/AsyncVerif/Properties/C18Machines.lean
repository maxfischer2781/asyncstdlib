import AsyncVerif.Proofs.C18Machines
import AsyncVerif.Proofs.Borrow
import AsyncVerif.Properties.C08
import AsyncVerif.Properties.C09Live
import AsyncVerif.Properties.C11
import AsyncVerif.Properties.C12
import AsyncVerif.Properties.C14
import AsyncVerif.Properties.C15
/-!
# C18 — cancellation anywhere: the stateful parts (tee, lru_cache, cached_property, ExitStack,
# scoped_iter, ContextDecorator)

`Properties/C18.lean` states C18 for the iterator tools and aggregations (`CancelSafe`).  This file
states C18's clauses DIRECTLY for each stateful part, on the machine that models it:

  "If the task running any library operation is cancelled (an exception is thrown in at an arbitrary
   suspension point), that same exception propagates out of the operation, and afterwards — once the
   owner has closed the library iterator it was advancing, where there is one — every source iterator
   handed to the operation is closed or exhausted, every user-supplied lock is released, registered
   ExitStack exits have run with that exception, and the caches and cached properties involved
   contain no partial entry and keep working."

Every theorem is for every reachable state / every operation sequence / every cancellation point of
its machine (each machine has one operation per suspension point, so "at each suspension point 1..N"
is "in every reachable state in which the task is suspended").  They are derived from the theorems of
C08 (scoped_iter), C09/C09Live (tee), C10/C11 (lru_cache), C12 (cached_property), C14 (ExitStack),
C15 (ContextDecorator) and the lemmas of `Proofs/C18Machines.lean`.
-/

/-! ## tee (`Machines/Tee.lean`) -/
namespace AsyncVerif.Tee

/-- **tee: a cancelled consumer releases the lock and spares its siblings.**  In every reachable
    state of the tee machine (any items, number of children, suspension script of the source, lock or
    not, source closeable or not, source dying on a cancellation or not; after ANY sequence of `send`s,
    `aclose()`s, cancellations and `Tee.aclose()`s), for every child `i` whose consumer task is still
    running, throwing a cancellation into that task at its current suspension point (`Op.cancel i`):

    1. the cancellation propagates out of the consumer (`Out.cancelled`), whose task is `cancelled`
       from then on; it has received nothing more;
    2. the lock is not held by `i` afterwards: if `i` held it, it is free; otherwise its holder is
       unchanged;
    3. no other child's record (position, buffer, items yielded, consumer state) has changed, nothing
       was fetched and nothing was taken from the source;
    4. if the cancellation landed INSIDE the child — the task was suspended in `lock.__aenter__` or
       inside `iterator.__anext__()` — the child's `finally` block has run: the child is finished and
       its buffer is unregistered, and the tee called `iterator.aclose()` exactly when the source can be
       closed and `i` was the last registered child (`LastRegistered`), and not otherwise;
    5. if the cancellation landed at the consumer's own suspension point (between two items, before the
       first step, or after the child was closed), the child generator is untouched — it is for the
       owner to close it (`C18_tee_owner_closes_cancelled_child_partial`) — and the source is not closed;
    6. the source was finished by the cancellation (`srcKilled`) exactly if it dies on a cancellation
       (an async generator) and the cancellation was thrown into a pending `__anext__`. -/
theorem C18_tee_cancellation_releases_lock_and_spares_siblings
    (items n susp lock closeable dies ops) (i : Nat) (hi : i < n)
    (ha : ((reach items n susp lock closeable dies ops).kid i).task = .active) :
    let s := reach items n susp lock closeable dies ops
    let s' := (step s (.cancel i)).1
    ((step s (.cancel i)).2 = .cancelled ∧ (s'.kid i).task = .cancelled ∧ (s'.kid i).out = (s.kid i).out) ∧
    (s'.holder = (if s.holder = some i then none else s.holder) ∧ s'.holder ≠ some i) ∧
    ((∀ j, j ≠ i → s'.kid j = s.kid j) ∧ s'.fetched = s.fetched ∧ s'.src = s.src) ∧
    (((s.kid i).pc = .acquiring ∨ isFetching (s.kid i).pc = true) →
       (s'.kid i).pc = .done ∧ (s'.kid i).buf = none ∧
       (closeable = true → LastRegistered s i → s'.srcCloses = s.srcCloses + 1) ∧
       ((closeable = false ∨ ¬ LastRegistered s i) → s'.srcCloses = s.srcCloses)) ∧
    ((s.kid i).pc ≠ .acquiring → isFetching (s.kid i).pc = false →
       (s'.kid i).pc = (s.kid i).pc ∧ (s'.kid i).buf = (s.kid i).buf ∧ s'.srcCloses = s.srcCloses) ∧
    s'.srcKilled = (s.srcKilled || (dies && isFetching (s.kid i).pc)) := by
  intro s s'
  have hinv : Inv s := reach_inv items n susp lock closeable dies ops
  have hi' : i < s.kids.length := by rw [reach_len]; exact hi
  have hcl : s.closeable = closeable := reach_closeable items n susp lock closeable dies ops
  have hdies : s.diesOnCancel = dies := reach_dies items n susp lock closeable dies ops
  have hstep : step s (.cancel i) = cancel s i := by simp [step, hi']
  have hc := hinv.cancel_spec i hi' ha
  have h3 := hc.inside
  have h5 := hc.killed
  rw [hcl] at h3
  rw [hdies] at h5
  show (_ ∧ ((step s (.cancel i)).1.kid i).task = _ ∧ ((step s (.cancel i)).1.kid i).out = _) ∧
    ((step s (.cancel i)).1.holder = _ ∧ (step s (.cancel i)).1.holder ≠ _) ∧
    ((∀ j, j ≠ i → (step s (.cancel i)).1.kid j = _) ∧ (step s (.cancel i)).1.fetched = _ ∧
      (step s (.cancel i)).1.src = _) ∧
    (_ → ((step s (.cancel i)).1.kid i).pc = _ ∧ ((step s (.cancel i)).1.kid i).buf = _ ∧
      (_ → _ → (step s (.cancel i)).1.srcCloses = _) ∧ (_ → (step s (.cancel i)).1.srcCloses = _)) ∧
    (_ → _ → ((step s (.cancel i)).1.kid i).pc = _ ∧ ((step s (.cancel i)).1.kid i).buf = _ ∧
      (step s (.cancel i)).1.srcCloses = _) ∧ (step s (.cancel i)).1.srcKilled = _
  rw [hstep]
  refine ⟨⟨hc.out, hc.task, hc.received⟩, ⟨hc.holder, hc.notHolder⟩,
    ⟨fun j hj => (cancel_frame s i j hi' hj).1, ?_, ?_⟩, h3, hc.outside, h5⟩
  · exact (cancel_frame s i (i + 1) hi' (by omega)).2.1
  · exact (cancel_frame s i (i + 1) hi' (by omega)).2.2

/-- A cancellation thrown into a consumer that is not running any more (it has ended, was stopped or
    was cancelled before) changes nothing at all. -/
theorem C18_tee_cancel_finished_consumer_noop (s : St) (i : Nat) (h : (s.kid i).task ≠ .active) :
    step s (.cancel i) = (s, .noop) := by
  simp only [step]
  split
  · exact cancel_inactive s i h
  · rfl

/-- **tee: the owner closes the child of the cancelled consumer — partial.**  In every reachable state,
    after a cancellation of the running consumer of child `i`, `await child.aclose()` by the owner is
    never refused (no RuntimeError: the child is never left with a pending `__anext__`), leaves the child
    finished, and — if the child had been started and had not been closed before — leaves its buffer
    unregistered (so the last such child closes the source: clause 4 of
    `C18_tee_cancellation_releases_lock_and_spares_siblings`, `finishKid`);
    the lock stays free of `i`.
    PARTIAL: the hypothesis `pc ≠ unstarted` of the last clause cannot be dropped — a consumer cancelled
    before its first step leaves a generator whose `aclose()` runs no `finally`
    (`C18_tee_unstarted_child_counterexample`); for such children only `Tee.aclose()` unregisters the
    buffer and closes the source (`C18_tee_aclose_after_cancellations_closes_source`, which has no such
    hypothesis). -/
theorem C18_tee_owner_closes_cancelled_child_partial (items n susp lock closeable dies ops) (i : Nat) (hi : i < n)
    (ha : ((reach items n susp lock closeable dies ops).kid i).task = .active) :
    let s := reach items n susp lock closeable dies ops
    let s2 := reach items n susp lock closeable dies (ops ++ [.cancel i, .close i])
    (step (step s (.cancel i)).1 (.close i)).2 = .closed ∧
    (s2.kid i).pc = .done ∧ (s2.kid i).task = .cancelled ∧ s2.holder ≠ some i ∧
    ((s.kid i).pc ≠ .unstarted → (s.kid i).pc ≠ .done → (s2.kid i).buf = none) := by
  intro s s2
  have hs2 : s2 = (step (step s (.cancel i)).1 (.close i)).1 := by
    show reach items n susp lock closeable dies (ops ++ [.cancel i, .close i]) = _
    rw [reach_append]; rfl
  have hinv : Inv s := reach_inv items n susp lock closeable dies ops
  have hi' : i < s.kids.length := by rw [reach_len]; exact hi
  have hstep : step s (.cancel i) = cancel s i := by simp [step, hi']
  have hc := hinv.cancel_spec i hi' ha
  have ht := hc.task
  have hh := hc.notHolder
  have hi2 : i < (cancel s i).1.kids.length := by
    have := (cancel_eff s i hi').len; omega
  have hstep2 : step (cancel s i).1 (.close i) = closeKid (cancel s i).1 i := by simp [step, hi2]
  rw [hs2, hstep, hstep2]
  by_cases hx : (s.kid i).pc = .acquiring ∨ isFetching (s.kid i).pc = true
  · obtain ⟨hd, hb, _⟩ := hc.inside hx
    have hck : closeKid (cancel s i).1 i = ((cancel s i).1, .closed) := by simp [closeKid, hd]
    rw [hck]
    exact ⟨rfl, hd, ht, hh, fun _ _ => hb⟩
  · have hna : (s.kid i).pc ≠ .acquiring := fun e => hx (Or.inl e)
    have hnf : isFetching (s.kid i).pc = false := by
      cases hf : isFetching (s.kid i).pc with
      | false => rfl
      | true => exact absurd (Or.inr hf) hx
    obtain ⟨hp, hb, _⟩ := hc.outside hna hnf
    cases hpc : (s.kid i).pc with
    | acquiring => exact absurd hpc hna
    | fetching k => rw [hpc] at hnf; simp [isFetching] at hnf
    | unstarted =>
      rw [hpc] at hp
      simp [closeKid, hp, kid_setKid _ _ _ _ hi2, ht, hh]
    | atYield =>
      rw [hpc] at hp
      simp [closeKid, hp, finishKid_kid _ _ _ _ hi2, Child.finished, ht, hh]
    | done =>
      rw [hpc] at hp
      simp [closeKid, hp, ht, hh]

/-- The one case the previous theorem leaves out (the code as it is; the same finding as
    `C09_closed_before_first_step_counterexample`): a consumer cancelled BEFORE its first step leaves a
    `tee_peer` generator that was never started; `child.aclose()` on it runs none of its code, so its
    `finally` never runs: the buffer stays registered and — here with a single child — the source is
    neither closed nor exhausted.  Only `Tee.aclose()` (leaving `async with tee(...)`) cleans up:
    `C18_tee_aclose_after_cancellations_closes_source`. -/
theorem C18_tee_unstarted_child_counterexample :
    let s := reach [1, 2] 1 [] true true true [.cancel 0, .close 0]
    (s.kid 0).task = .cancelled ∧ (s.kid 0).pc = .done ∧ (s.kid 0).buf = some [] ∧
      s.srcCloses = 0 ∧ s.srcDead = false ∧
      (step s .closeAll).2 = .closed ∧ (step s .closeAll).1.srcCloses = 1 ∧
      ((step s .closeAll).1.kid 0).buf = none := by
  decide

/-- **tee: the source is closed once the owner has closed the tee.**  After ANY operation sequence
    after which no consumer is running any more (each has been cancelled — at whatever suspension
    point —, has ended or was stopped), `Tee.aclose()` is never refused, leaves every child finished
    and every buffer unregistered (also those of children cancelled or closed before their first
    step), holds no lock, and — if the source can be closed and the tee has a child — the source has
    been closed. -/
theorem C18_tee_aclose_after_cancellations_closes_source (items n susp lock closeable dies ops)
    (hfin : ∀ j, j < n → ((reach items n susp lock closeable dies ops).kid j).task ≠ .active) :
    let s' := (step (reach items n susp lock closeable dies ops) .closeAll).1
    (step (reach items n susp lock closeable dies ops) .closeAll).2 = .closed ∧
    (∀ j, j < n → (s'.kid j).buf = none ∧ (s'.kid j).pc = .done) ∧
    (reach items n susp lock closeable dies ops).holder = none ∧
    (closeable = true → 0 < n → 0 < s'.srcCloses) := by
  intro s'
  have hinv := reach_inv items n susp lock closeable dies ops
  have hlen := reach_len items n susp lock closeable dies ops
  have hni : NoneInside (reach items n susp lock closeable dies ops) := by
    intro j hj
    have hj' : j < n := by rw [← hlen]; exact hj
    constructor
    · intro e; exact hfin j hj' (hinv.inside j hj (Or.inr e))
    · cases hf : isFetching ((reach items n susp lock closeable dies ops).kid j).pc with
      | false => rfl
      | true => exact absurd (hinv.inside j hj (Or.inl hf)) (hfin j hj')
  have hnb : (step (reach items n susp lock closeable dies ops) .closeAll).2 ≠ .busy := hni.closeAll_not_busy
  have hall := C09_tee_aclose_unregisters_all items n susp lock closeable dies ops hnb
  refine ⟨?_, hall.1, ?_, hall.2⟩
  · rcases closeAll_out (reach items n susp lock closeable dies ops) with h | h
    · exact h
    · exact absurd h hnb
  · cases hh : (reach items n susp lock closeable dies ops).holder with
    | none => rfl
    | some h =>
      have := C09_lock_not_leaked items n susp lock closeable dies ops h hh
      exact absurd this.2.2 (hfin h this.1)

/-- **tee: the survivors complete.**  Under the precondition of `tee` (a lock is supplied, or the
    source never suspends): after ANY operation prefix `ops` — containing any number of cancellations
    of consumers at any of their suspension points, `aclose()`s and `Tee.aclose()`s — a fair round-robin
    drain of `B ≥ drainBound items n susp` rounds

    1. finishes every remaining consumer (nobody is left waiting for a lock that a cancelled consumer
       would have kept);
    2. leaves the lock free;
    3. every consumer `j` that was never closed and never cancelled in `ops` has run to the end of the
       source by itself and has received the WHOLE fetched sequence, the source is exhausted or closed;
       unless a cancellation thrown into a pending `__anext__` of a source that dies on cancellation
       finished the source (`srcKilled`) that is the whole source sequence — in particular always when
       the source does not die on a cancellation (`dies = false`, a class-based iterator). -/
theorem C18_tee_survivors_complete (items n susp lock closeable dies ops) (hpre : Pre lock susp)
    (B : Nat) (hB : drainBound items n susp ≤ B) :
    let s' := reach items n susp lock closeable dies (ops ++ roundRobin n B)
    (∀ j, j < n → (s'.kid j).task ≠ .active) ∧
    s'.holder = none ∧
    (∀ j, j < n → Op.close j ∉ ops → Op.cancel j ∉ ops → Op.closeAll ∉ ops →
      (s'.kid j).task = .ended ∧ (s'.kid j).out = s'.fetched ∧ s'.srcDead = true ∧
      (s'.srcKilled = false → (s'.kid j).out = items ∧ s'.src = []) ∧
      (dies = false → (s'.kid j).out = items)) := by
  intro s'
  have hB' : (reach items n susp lock closeable dies ops).measure ≤ B :=
    Nat.le_trans (reach_measure_le items n susp lock closeable dies ops) hB
  refine ⟨fun j hj => C09_fair_drain_finishes items n susp lock closeable dies ops B hB j hj,
    C09_drained_lock_free items n susp lock closeable dies ops B hB', ?_⟩
  intro j hj h1 h2 h3
  obtain ⟨a, b, c, d, _⟩ :=
    C09_drained_children_saw_everything items n susp lock closeable dies ops hpre B hB' j hj h1 h2 h3
  refine ⟨a, b, c, d, fun hd => (d ?_).1⟩
  exact killed_runOps (init items n susp lock closeable dies) (ops ++ roundRobin n B) (.inl hd)

/-! Non-vacuity (tee): 3 children over `[1, 2]`, a lock, a source whose pulls suspend once.  After
    `sched 0, sched 1, sched 2` child 0 holds the lock inside the source, children 1 and 2 wait for
    the lock. -/
private def opsT : List Op := [.sched 0, .sched 1, .sched 2]

/-- hypotheses of `C18_tee_cancellation_releases_lock_and_spares_siblings` at the three kinds of
    suspension point: inside the source (child 0, lock holder), inside `lock.__aenter__` (child 1), and
    at the consumer's own point (child 0 after its first item) -/
example :
    let s := reach [1, 2] 3 [1, 1, 1] true true true opsT
    (s.kid 0).task = .active ∧ (s.kid 0).pc = .fetching 0 ∧ s.holder = some 0 ∧
    (s.kid 1).task = .active ∧ (s.kid 1).pc = .acquiring ∧ ¬ LastRegistered s 0 := by
  refine ⟨by decide, by decide, by decide, by decide, by decide, fun h => ?_⟩
  have := h 1 (by decide) (by decide)
  revert this; decide
example :
    let s := reach [1, 2] 3 [1, 1, 1] true true true opsT
    (step s (.cancel 0)).2 = .cancelled ∧ (step s (.cancel 0)).1.holder = none ∧
    (step s (.cancel 0)).1.srcKilled = true ∧ (step s (.cancel 0)).1.srcCloses = 0 ∧
    ((step s (.cancel 0)).1.kid 0).buf = none ∧ (step s (.cancel 1)).1.holder = some 0 ∧
    (step s (.cancel 1)).1.srcKilled = false := by decide
/-- the last registered child cancelled inside the source: the tee closes the source -/
example :
    let s := reach [1, 2] 2 [1, 1, 1] true true false [.sched 0, .sched 1, .cancel 1]
    LastRegistered s 0 ∧ (s.kid 0).task = .active ∧ (step s (.cancel 0)).1.srcCloses = 1 := by
  refine ⟨fun j hj hne => ?_, by decide, by decide⟩
  have hj' : j < 2 := hj
  have : j = 1 := by omega
  subst this; decide
/-- hypotheses of `C18_tee_owner_closes_cancelled_child_partial`: cancelled at the `yield` -/
example :
    let s := reach [1, 2] 2 [] true true true [.sched 0]
    (s.kid 0).task = .active ∧ (s.kid 0).pc = .atYield ∧
    ((reach [1, 2] 2 [] true true true [.sched 0, .cancel 0, .close 0]).kid 0).buf = none := by decide
/-- hypothesis of `C18_tee_cancel_finished_consumer_noop`: a second cancellation of the same consumer -/
example : ((reach [1, 2] 2 [] true true true [.sched 0, .cancel 0]).kid 0).task ≠ .active := by decide
/-- hypothesis of `C18_tee_aclose_after_cancellations_closes_source`: everybody cancelled (one before
    its first step, one inside the source, one waiting for the lock) -/
example : ∀ j, j < 3 →
    ((reach [1, 2] 3 [1, 1, 1] true true false [.sched 0, .sched 1, .cancel 2, .cancel 1, .cancel 0]).kid j).task
      ≠ .active := by decide
example :
    (step (reach [1, 2] 3 [1, 1, 1] true true false [.sched 0, .sched 1, .cancel 2, .cancel 1, .cancel 0])
      .closeAll).1.srcCloses = 1 := by decide
/-- hypotheses of `C18_tee_survivors_complete`: the lock holder and a waiter are cancelled, child 2
    survives and gets everything (source not dying on the cancellation) -/
private def opsS : List Op := opsT ++ [.cancel 0, .cancel 1]
example : Pre true [1, 1, 1] := Or.inl rfl
example : Op.close 2 ∉ opsS ∧ Op.cancel 2 ∉ opsS ∧ Op.closeAll ∉ opsS := by simp [opsS, opsT]
set_option maxRecDepth 8192 in
example :
    let s := reach [1, 2] 3 [1, 1, 1] true true false (opsS ++ roundRobin 3 8)
    (s.kid 0).task = .cancelled ∧ (s.kid 1).task = .cancelled ∧ (s.kid 2).task = .ended ∧
    (s.kid 2).out = [1, 2] ∧ s.holder = none ∧ s.srcCloses = 1 := by decide

end AsyncVerif.Tee

/-! ## lru_cache (`Machines/Lru.lean`, the machine with overlapping calls `cstep`/`gstep` and the task
    layer `schedStep`) -/
namespace AsyncVerif.Lru

/-- **lru_cache: a cancelled call stores nothing, and the cache keeps working.**  For every
    configuration (`maxsize` None / 0 / positive, typed or not), after ANY interleaving `ops` of calls
    begun, calls finished (returned, raised, cancelled), `cache_clear`, `cache_discard`, `cache_info`:
    a cancellation of call `c` — thrown at whichever suspension point of the awaited wrapped function;
    the cache has one step `finish c .cancel` for all of them, since `__call__` itself has no other
    `await` —

    1. propagates (`cancelled`, if `c` is a call in flight; an unknown call id is ignored), stores
       nothing — entries, their order and both counters are exactly as before — changes no
       bookkeeping, and only removes `c` from the calls in flight;
    2. and whatever happens afterwards (`more`: any further overlapping calls, results, failures,
       cancellations, clears, discards), at every moment
       * the counters are consistent: hits + misses = calls begun, misses = invocations of the wrapped
         function (both since the last `cache_clear`),
       * the size bound holds and no two entries have equal keys,
       * there is no partial entry: every stored (pattern, value) is a value the wrapped function
         actually RETURNED for that pattern (never anything of a cancelled or failed call),
       * the cache is fully usable: every sequential history from the state reached produces exactly
         the outputs of `functools.lru_cache` started from the same contents and counters (C10). -/
theorem C18_lru_cancellation_stores_nothing_and_cache_keeps_working (cfg : Cfg) (hok : cfg.ok)
    (ops : List COp) (c : Nat) (more : List COp) (sops : List Op) :
    let x := grun cfg (CSt.init, Ghost.init) ops
    let y := (gstep cfg x (.finish c .cancel)).1
    let z := grun cfg y more
    (y.1.core = x.1.core ∧ y.2 = x.2 ∧ y.1.inflight = dropCall c x.1.inflight ∧
      (∀ p, lookupCall c x.1.inflight = some p → (gstep cfg x (.finish c .cancel)).2 = .cancelled) ∧
      (lookupCall c x.1.inflight = none → (gstep cfg x (.finish c .cancel)).2 = .ignored ∧ y = x)) ∧
    (z.1.core.hits + z.1.core.misses = z.2.calls ∧ z.1.core.misses = z.2.invoked) ∧
    ((∀ n, cfg.maxsize = some n → z.1.core.store.length ≤ n) ∧ Distinct cfg.typed z.1.core.store) ∧
    (∀ e ∈ z.1.core.store, e ∈ z.2.produced) ∧
    run (Impl.step cfg) z.1.core sops = run (Spec.step cfg) z.1.core sops := by
  intro x y z
  have hx : CInv cfg x := grun_inv cfg hok ops (CSt.init, Ghost.init) (CInv.init cfg)
  have hy : CInv cfg y := gstep_inv cfg hok x hx (.finish c .cancel)
  have hz : CInv cfg z := grun_inv cfg hok more y hy
  refine ⟨⟨?_, ?_, ?_, ?_, ?_⟩, ⟨hz.total, hz.missed⟩, ⟨?_, hz.inv.distinct⟩, hz.produced, ?_⟩
  · exact C11_failure_stores_nothing cfg x.1 c .cancel (by intro v h; cases h)
  · show gupd x.1.inflight x.2 (.finish c .cancel) (cstep cfg x.1 (.finish c .cancel)).2 = x.2
    exact gupd_cancel _ _ _ _
  · exact (cstep_cancel cfg x.1 c).1
  · exact fun p hp => congrArg Prod.snd ((cstep_cancel cfg x.1 c).2.1 p hp)
  · intro hn
    have e := (cstep_cancel cfg x.1 c).2.2 hn
    refine ⟨congrArg Prod.snd e, ?_⟩
    show ((cstep cfg x.1 (.finish c .cancel)).1, gupd x.1.inflight x.2 (.finish c .cancel) _) = x
    rw [gupd_cancel, e]
  · exact fun n hn => hz.inv.length_le hn
  · exact C10_refines_from cfg hok _ hz.inv.wf sops

/-- **lru_cache, task level: cancellation at each suspension point.**  In ANY state of the task
    layer, for a task `t` that is suspended inside the wrapped function of its call `c` with `k` further
    suspensions still to come (`k` arbitrary: this is "at each suspension point 1..N" of the call),
    `coro.throw(cancellation)`: the cache contents and counters are unchanged, the call is no longer in
    flight, the only cache event is the cancelled `finish`, the task has ended with the cancellation
    (it runs none of its remaining program), and no other task is touched. -/
theorem C18_lru_task_cancelled_at_any_suspension_point (cfg : Cfg) (x : CSt × List Task) (t : Nat)
    (tk : Task) (c k : Nat) (r : Res) (ht : x.2[t]? = some tk) (hw : tk.waiting = some (c, k, r)) :
    let y := schedStep cfg x (.cancel t)
    y.1.1.core = x.1.core ∧ y.1.1.inflight = dropCall c x.1.inflight ∧
    y.2 = [(.finish c .cancel, (cstep cfg x.1 (.finish c .cancel)).2)] ∧
    y.1.2[t]? = some ⟨[], tk.pc, none⟩ ∧ (∀ t', t' ≠ t → y.1.2[t']? = x.2[t']?) := by
  intro y
  have hlt : t < x.2.length := (List.getElem?_eq_some_iff.1 ht).1
  have hy : y = (((cstep cfg x.1 (.finish c .cancel)).1, setTask x.2 t ⟨[], tk.pc, none⟩),
      [(.finish c .cancel, (cstep cfg x.1 (.finish c .cancel)).2)]) := by
    show schedStep cfg x (.cancel t) = _
    simp [schedStep, ht, cancelTask, hw]
  rw [hy]
  exact ⟨C11_failure_stores_nothing cfg x.1 c .cancel (by intro v h; cases h),
    (cstep_cancel cfg x.1 c).1, rfl, getElem?_setTask _ _ _ hlt,
    fun t' hne => by rw [setTask_eq_set, List.getElem?_set_ne (Ne.symm hne)]⟩

/-- **lru_cache, task level: every schedule with cancellations leaves a working cache.**  Whatever
    the tasks' programs and whatever the schedule of `send`s and cancellations (thrown into any task at
    any of its suspension points, any number of them), afterwards the size bound holds, keys are
    distinct and every sequential history from the state reached behaves exactly like
    `functools.lru_cache` from the same contents and counters. -/
theorem C18_lru_every_schedule_keeps_working (cfg : Cfg) (hok : cfg.ok) (tasks : List Task)
    (sched : List SOp) (sops : List Op) :
    let s := (schedFinal cfg (CSt.init, tasks) sched).1
    (∀ n, cfg.maxsize = some n → s.core.store.length ≤ n) ∧ Distinct cfg.typed s.core.store ∧
    run (Impl.step cfg) s.core sops = run (Spec.step cfg) s.core sops := by
  intro s
  have h := (C11_schedules cfg hok tasks sched).1
  refine ⟨(C11_schedules cfg hok tasks sched).2, ?_, ?_⟩
  · show Distinct cfg.typed (schedFinal cfg (CSt.init, tasks) sched).1.core.store
    rw [h]; exact (C11_size_bounded cfg hok _).2
  · show run (Impl.step cfg) (schedFinal cfg (CSt.init, tasks) sched).1.core sops
      = run (Spec.step cfg) (schedFinal cfg (CSt.init, tasks) sched).1.core sops
    rw [h]; exact C11_then_C10 cfg hok _ sops

private def k (n : Int) : Pattern := ⟨[.prim (.int n)], []⟩

/-- **"Once no call is in flight the state is a reachable state of the sequential machine" is false
    of the machine as stated** (so C18/C11 are stated with what does hold: the invariants above and
    `C10_refines_from` from the state reached).  A `cache_clear` while a call is in flight — here next
    to a cancelled call — resets the counters, and the call that finishes afterwards stores its value:
    no call is in flight, the cache holds one entry and reports `misses = 0`; every state of the
    sequential machine satisfies `currsize ≤ misses` (`SeqBound`: an entry is stored only by a miss
    since the last clear).  The state is still fully usable: the refinement of C10 holds from it. -/
theorem C18_lru_quiescent_not_sequential_counterexample :
    let cfg : Cfg := ⟨.bounded 2, false⟩
    let s := crun cfg CSt.init [.begin 0 (k 1), .begin 1 (k 2), .clear, .finish 1 .cancel, .finish 0 (.ok 10)]
    s.inflight = [] ∧ s.core = ⟨0, 0, [(k 1, 10)]⟩ ∧
    (∀ ops : List Op, final (Impl.step cfg) St.init ops ≠ s.core) ∧
    (∀ sops : List Op, run (Impl.step cfg) s.core sops = run (Spec.step cfg) s.core sops) := by
  refine ⟨by decide, by decide, ?_, fun sops => C10_refines_from _ (by decide) _ (fun h => by cases h) sops⟩
  intro ops heq
  have hb := (final_seqBound ⟨.bounded 2, false⟩ ops St.init (seqBound_init _)).2
  rw [heq] at hb
  revert hb
  decide

/-- … and the strongest true variant: every state of the SEQUENTIAL machine satisfies
    `currsize ≤ misses`; a quiescent state of the machine with overlapping calls satisfies everything
    else the sequential states do (well-formedness, distinct keys, size bound, consistent counters) and
    the refinement of C10 holds from it
    (`C18_lru_cancellation_stores_nothing_and_cache_keeps_working`). -/
theorem C18_lru_sequential_states_partial (cfg : Cfg) (ops : List Op) :
    (final (Impl.step cfg) St.init ops).store.length ≤ (final (Impl.step cfg) St.init ops).misses :=
  (final_seqBound cfg ops St.init (seqBound_init cfg)).2

/-! Non-vacuity (lru_cache) -/
private def c1 : Cfg := ⟨.bounded 1, false⟩
example : c1.ok := by decide
/-- call 1 is in flight when it is cancelled; a hit, an eviction and a failure follow -/
example :
    let x := grun c1 (CSt.init, Ghost.init) [.begin 0 (k 1), .finish 0 (.ok 10), .begin 1 (k 2)]
    lookupCall 1 x.1.inflight = some (k 2) ∧ (gstep c1 x (.finish 1 .cancel)).2 = .cancelled ∧
    (gstep c1 x (.finish 1 .cancel)).1.1.core = ⟨0, 2, [(k 1, 10)]⟩ ∧
    grun c1 (gstep c1 x (.finish 1 .cancel)).1 [.begin 2 (k 1), .begin 3 (k 2), .finish 3 (.ok 20), .begin 4 (k 3),
        .finish 4 (.fail 9)]
      = (⟨⟨1, 4, [(k 2, 20)]⟩, []⟩, ⟨5, 4, [(k 1, 10), (k 2, 20)]⟩) := by decide
/-- task 0 is cancelled at the first and at the second suspension point of its wrapped function -/
example :
    let x : CSt × List Task := (CSt.init, [⟨[.call (k 1) 3 (.ok 5), .call (k 2) 0 (.ok 6)], 0, none⟩])
    ((schedFinal c1 x [.send 0]).2[0]?).map (·.waiting) = some (some (0, 2, .ok 5)) ∧
    ((schedFinal c1 x [.send 0, .send 0]).2[0]?).map (·.waiting) = some (some (0, 1, .ok 5)) ∧
    (schedFinal c1 x [.send 0, .cancel 0]).1 = ⟨⟨0, 1, []⟩, []⟩ ∧
    (schedFinal c1 x [.send 0, .send 0, .cancel 0]).1 = ⟨⟨0, 1, []⟩, []⟩ ∧
    (schedFinal c1 x [.send 0, .send 0, .cancel 0]).2 = [⟨[], 1, none⟩] := by decide

end AsyncVerif.Lru

/-! ## cached_property (`Machines/CachedProperty.lean`) -/
namespace AsyncVerif.CachedProperty

/-- **cached_property: a cancelled computation caches nothing and holds no lock.**  For every
    environment (lock type supplied or not, every getter run suspending any number of times) and every
    reachable state (any history, any interleaving, `del`s, earlier cancellations), throwing a
    cancellation into ANY task `t` at its current suspension point:

    1. changes no slot of any instance (nothing is cached, no placeholder is replaced), starts no
       getter run, and touches no other task;
    2. task inside the getter (run `r` for placeholder `p`, with `k` suspensions still to come — any
       `k`: each suspension point of the getter): the cancellation propagates out of the await, run `r`
       is recorded as cancelled, `p`'s lock is free in the same step and every other lock is unchanged;
    3. task queued at the lock (`lockwait p`): the cancellation propagates, the lock was not the
       task's and no lock changes — it never acquires it;
    4. task that has not started its await yet: the cancellation propagates, nothing else changes;
    5. afterwards `t` holds no lock whatsoever. -/
theorem C18_cached_property_cancellation (cfg : Cfg) (ops : List Op) (t : Nat) :
    let s := reach cfg ops
    let s' := (step cfg s (.cancel t)).1
    (s'.slot = s.slot ∧ s'.nRuns = s.nRuns ∧ ∀ t', t' ≠ t → s'.pc t' = s.pc t') ∧
    (∀ p r k, s.pc t = .getter p r k →
      (step cfg s (.cancel t)).2 = .cancelled ∧ s'.pc t = .done .cancelled ∧ (s'.run r).st = .cancelled ∧
      s'.lock p = none ∧ ∀ q, q ≠ p → s'.lock q = s.lock q) ∧
    (∀ p, s.pc t = .lockwait p →
      (step cfg s (.cancel t)).2 = .cancelled ∧ s'.pc t = .done .cancelled ∧ s.lock p ≠ some t ∧
      s'.lock = s.lock ∧ s'.run = s.run) ∧
    (∀ h, s.pc t = .start h →
      (step cfg s (.cancel t)).2 = .cancelled ∧ s'.pc t = .done .cancelled ∧ s'.lock = s.lock ∧ s'.run = s.run) ∧
    (∀ q, s'.lock q ≠ some t) := by
  intro s s'
  have hinv : Inv cfg s := reach_inv cfg ops
  obtain ⟨f1, _, f2, f3⟩ := cancel_frame cfg s t
  refine ⟨⟨C12_cancel_caches_nothing cfg s t, f1, f2⟩,
    fun p r k hpc => cancel_getter cfg s t p r k hinv hpc, fun p hpc => ?_,
    fun h hpc => cancel_outside cfg s t (Or.inl ⟨h, hpc⟩), fun q hq => ?_⟩
  · obtain ⟨a, b, c, d⟩ := cancel_outside cfg s t (Or.inr ⟨p, hpc⟩)
    refine ⟨a, b, fun h => ?_, c, d⟩
    rcases hinv.lock_owner p t h with hh | ⟨r, k, hh⟩ <;> rw [hpc] at hh <;> cases hh
  · -- a lock is held only by a task inside the getter, and `t` is not there any more
    have e := reach_snoc cfg ops (.cancel t)
    obtain ⟨r, k, hg, _⟩ := C12_lock_held_only_while_computing cfg (ops ++ [.cancel t]) q t (e ▸ hq)
    exact f3 q r k (e ▸ hg)

/-- **cached_property: after a cancellation everything keeps working.**  After a cancellation of any
    task at any point of any history, and for ANY continuation `more` of operations (further awaits,
    schedules, cancellations, `del`s), the invariants of C12 hold at every moment: no operation gets
    stuck; a lock is held only by a task that is inside a live getter run for that placeholder (so
    nobody waits for a cancelled computation); whatever value an instance holds is the value of a
    getter run on that instance that RETURNED — in particular the value of a cancelled run is never
    cached (no partial entry). -/
theorem C18_cached_property_keeps_working (cfg : Cfg) (ops : List Op) (t : Nat) (more : List Op) :
    let s := reach cfg (ops ++ .cancel t :: more)
    (∀ op, (step cfg s op).2 ≠ .stuck) ∧
    (∀ p t', s.lock p = some t' → ∃ r k, s.pc t' = .getter p r k ∧ (s.run r).st = .running ∧ (s.run r).task = t') ∧
    (∀ i v, s.slot i = some (.val v) →
      v < s.nRuns ∧ (s.run v).st = .returned ∧ (s.run v).inst = i ∧ cfg.ok v = true) ∧
    (∀ r, (s.run r).st = .cancelled → ∀ i, s.slot i ≠ some (.val r)) := by
  intro s
  refine ⟨fun op => (C12_never_stuck cfg _ op).1,
    fun p t' h => C12_lock_held_only_while_computing cfg _ p t' h,
    fun i v h => C12_cached_value_is_returned_run cfg _ i v h, ?_⟩
  intro r hr i hi
  have := (C12_cached_value_is_returned_run cfg _ i r hi).2.1
  rw [hr] at this; cases this

/-- **cached_property: a later await computes afresh.**  Cancel the task that is inside the getter
    for placeholder `p` (at any of the getter's suspension points) while `p` is still the entry of its
    instance `i`.  Then a subsequent solo `await instance_i.<name>` (driven to completion) runs the
    getter AGAIN — a brand-new run, number `nRuns` — returns that run's value (or raises that run's
    exception), and if it returned, that value is what the instance holds afterwards: the placeholder
    is usable, the lock is not stuck, nothing of the cancelled run is served. -/
theorem C18_cached_property_recomputes_after_cancellation (cfg : Cfg) (ops : List Op) (t p r k : Nat)
    (hpc : (reach cfg ops).pc t = .getter p r k)
    (hslot : (reach cfg ops).slot ((reach cfg ops).phInst p) = some (.ph p)) :
    let i := (reach cfg ops).phInst p
    let s' := (step cfg (reach cfg ops) (.cancel t)).1
    let a := seqStep cfg s' (.await i)
    s'.nRuns = (reach cfg ops).nRuns ∧
    a.2 = (if cfg.ok s'.nRuns then .ret s'.nRuns else .raised s'.nRuns) ∧
    a.1.nRuns = s'.nRuns + 1 ∧
    (cfg.ok s'.nRuns = true → a.1.slot i = some (.val s'.nRuns)) ∧
    (cfg.ok s'.nRuns = false → a.1.slot = s'.slot) := by
  intro i s' a
  obtain ⟨⟨hsl, hnr, _⟩, hg, _⟩ := C18_cached_property_cancellation cfg ops t
  obtain ⟨_, _, _, hlk, _⟩ := hg p r k hpc
  exact ⟨hnr, await_recomputes cfg s' i p ((congrFun hsl i).trans hslot)
    (congrFun (cancel_frame cfg (reach cfg ops) t).2.1 p) hlk⟩

/-- **cached_property: the waiter takes over.**  With a lock: a task queued at placeholder `p`'s lock
    that is resumed after the computing task was cancelled (the lock is free, `p` is still the entry of
    its instance) takes the lock and runs the getter again — a brand-new run — instead of waiting for
    ever or being handed a partial result. -/
theorem C18_cached_property_waiter_takes_over (cfg : Cfg) (s : State) (w p : Nat) (hl : cfg.lock = true)
    (hpc : s.pc w = .lockwait p) (hfree : s.lock p = none)
    (hslot : s.slot (s.phInst p) = some (.ph p)) :
    (step cfg s (.sched w)).1.nRuns = s.nRuns + 1 ∧
    ((step cfg s (.sched w)).1.run s.nRuns).task = w ∧
    ((step cfg s (.sched w)).2 = .suspended s.nRuns ∨ (step cfg s (.sched w)).2 = .ret s.nRuns ∨
     (step cfg s (.sched w)).2 = .raised s.nRuns) := by
  -- three micro-steps: take the free lock, re-check the slot and start a run, first step of that run
  let s1 := setPc (setLock s p (some w)) w (.holding p)
  let s2 := startRunSt cfg s1 w p
  have m1 : micro cfg s w = (s1, none) := by simp [micro, hpc, hfree, s1]
  have m2 : micro cfg s1 w = (s2, none) := micro_holding_self cfg s1 w p (pc_setPc_self _ w _) hslot
  have hp2 : s2.pc w = .getter p s.nRuns (cfg.susp s.nRuns) := pc_setPc_self _ w _
  have hrun : (s2.run s.nRuns).task = w := by
    show (if s.nRuns = s.nRuns then (⟨_, _, w, _⟩ : Run) else _).task = w
    rw [if_pos rfl]
  have e : step cfg s (.sched w) = match micro cfg s2 w with
      | (s3, some o) => (s3, o)
      | (s3, none) => schedN cfg 5 s3 w := by
    show schedN cfg 8 s w = _
    rw [schedN_succ, m1]; simp only; rw [schedN_succ, m2]; rfl
  rw [e]
  cases hs : cfg.susp s.nRuns with
  | succ k =>
    rw [hs] at hp2
    rw [micro_getter_succ cfg s2 w p s.nRuns k hp2]
    exact ⟨rfl, hrun, .inl rfl⟩
  | zero =>
    rw [hs] at hp2
    rw [micro_getter0 cfg s2 w p s.nRuns hp2]
    obtain ⟨lk, e3⟩ := complete_fst cfg s2 w p s.nRuns
    have e4 := complete_snd cfg s2 w p s.nRuns
    generalize complete cfg s2 w p s.nRuns = c at e3 e4
    obtain ⟨s3, o⟩ := c
    simp only at e3 e4
    subst e3 e4
    refine ⟨rfl, by simp only [if_pos]; exact hrun, ?_⟩
    cases cfg.ok s.nRuns
    · exact .inr (.inr rfl)
    · exact .inr (.inl rfl)

/-! Non-vacuity (cached_property): a lock, getter runs suspending twice.  Task 0 is inside the getter
    (1 suspension to come), task 1 is queued at the lock. -/
private def cfgL : Cfg := ⟨true, fun _ => 2, fun _ => true⟩
private def opsC : List Op := [.spawn 0, .spawn 0, .sched 0, .sched 1, .sched 0]

example : (reach cfgL opsC).pc 0 = .getter 0 0 0 ∧ (reach cfgL opsC).pc 1 = .lockwait 0 ∧
    (reach cfgL opsC).lock 0 = some 0 ∧
    (reach cfgL opsC).slot ((reach cfgL opsC).phInst 0) = some (.ph 0) := by decide
/-- cancelled at the first / at the second suspension point of the getter: nothing cached, lock free -/
example : (reach cfgL [.spawn 0, .sched 0, .cancel 0]).slot 0 = some (.ph 0) ∧
    (reach cfgL [.spawn 0, .sched 0, .cancel 0]).lock 0 = none ∧
    (reach cfgL [.spawn 0, .sched 0, .sched 0, .cancel 0]).slot 0 = some (.ph 0) ∧
    (reach cfgL [.spawn 0, .sched 0, .sched 0, .cancel 0]).lock 0 = none := by decide
/-- the computing task is cancelled; a solo await recomputes (run 1) and caches; the queued task is
    served the value -/
example : (seqStep cfgL (step cfgL (reach cfgL opsC) (.cancel 0)).1 (.await 0)).2 = .ret 1 ∧
    (seqStep cfgL (step cfgL (reach cfgL opsC) (.cancel 0)).1 (.await 0)).1.slot 0 = some (.val 1) := by decide
example : outs cfgL (reach cfgL opsC) [.cancel 0, .sched 1, .cancel 1, .spawn 0, .sched 2, .sched 2, .sched 2]
    = [.cancelled, .suspended 1, .cancelled, .handle (.ph 0), .suspended 2, .suspended 2, .ret 2] := by decide
/-- hypotheses of `C18_cached_property_waiter_takes_over`: after the cancellation of task 0, task 1 is
    queued at the free lock of placeholder 0, which is still the instance's entry -/
example :
    let s := (step cfgL (reach cfgL opsC) (.cancel 0)).1
    cfgL.lock = true ∧ s.pc 1 = .lockwait 0 ∧ s.lock 0 = none ∧ s.slot (s.phInst 0) = some (.ph 0) ∧
    (step cfgL s (.sched 1)).2 = .suspended 1 := by decide
/-- the queued task is cancelled: it never gets the lock, the computing task finishes normally -/
example : outs cfgL (reach cfgL opsC) [.cancel 1, .sched 0, .sched 1] = [.cancelled, .ret 0, .noop] ∧
    (exec cfgL (reach cfgL opsC) [.cancel 1]).lock 0 = some 0 := by decide

end AsyncVerif.CachedProperty

/-! ## ExitStack (`Machines/ExitStack.lean`) -/
namespace AsyncVerif.ExitStack

/-- **ExitStack: a cancelled block runs every registered exit with the cancellation.**  The block of
    `async with stack:` is left by the cancellation `e` (block outcome `raises e`; to the stack a
    BaseException like any other).  For every stack (any number of exits, each with any behaviour,
    pushed exits / entered managers / callbacks):

    1. every registered exit runs exactly once, in reverse registration order;
    2. the exit registered at any position (`stack = outer ++ en :: inner`) is the `inner.length`-th to
       run and is handed the exception in flight at that moment (a `callback(...)` is handed nothing):
       `inflight inner (some e)` — the cancellation `e` as transformed by the exits registered after it,
       each of which keeps it (falsy), suppresses it (truthy) or replaces it (raises);
    3. that exception in flight IS `e` as long as no later-registered exit suppressed or replaced it;
    4. what propagates out of the `async with` is the exception in flight after the last exit — nothing
       if it was suppressed;
    5. if no exit suppresses or replaces, `e` itself propagates and every exit (that is not a plain
       callback) was handed `e`. -/
theorem C18_exitstack_cancellation_runs_every_exit_with_it (stack : List Entry) (e : ExcId) :
    let r := implExit stack (.raises e)
    (r.2.map Prod.fst = (stack.map (·.id)).reverse ∧ r.2.length = stack.length) ∧
    (∀ outer en inner, stack = outer ++ en :: inner →
      r.2[inner.length]? = some (en.id, if en.isCallback then none else inflight inner (some e))) ∧
    (∀ inner : List Entry, (∀ en ∈ inner, en.run (some e) = .falsy) → inflight inner (some e) = some e) ∧
    r.1 = ofExc (inflight stack (some e)) ∧
    ((∀ en ∈ stack, en.run (some e) = .falsy) →
      r.1 = .raises e ∧
      r.2 = stack.reverse.map (fun en => (en.id, if en.isCallback then none else some e))) := by
  intro r
  have hr : r = nested stack (.raises e) := C14_nested stack (.raises e)
  refine ⟨⟨C14_order stack (.raises e), ?_⟩, ?_, fun inner h => inflight_all_falsy inner _ h, ?_, ?_⟩
  · rw [hr]; exact nested_log_length _ _
  · intro outer en inner hs
    rw [hr, hs, nested_append, nested_cons_log]
    have hlen := nested_log_length inner (.raises e)
    simp only [List.append_assoc]
    rw [List.getElem?_append_right (by omega), hlen]
    simp [Outcome.exc]
  · rw [hr]; exact nested_outcome stack (.raises e)
  · intro h
    rw [hr]
    refine ⟨?_, nested_all_falsy_log stack (.raises e) h⟩
    rw [nested_outcome]
    show ofExc (inflight stack (some e)) = _
    rw [inflight_all_falsy stack _ h]; rfl

/-- **ExitStack: a cancellation raised INSIDE an exit reaches all remaining exits.**  Whatever the
    block outcome (normal, an exception, a cancellation): if the exit `en` — handed the exception in
    flight when its turn comes — is itself cancelled (its behaviour is to raise `c`), then the
    later-registered exits `inner` have run exactly as without it, `en` has run once, and the remaining
    (earlier-registered) exits `outer` run exactly as if THEIR block had been left by `c`: each once, in
    reverse order, handed `c` until one of them suppresses or replaces it
    (`C18_exitstack_cancellation_runs_every_exit_with_it` for `outer`), and what propagates is what
    propagates from that — `c` itself if none of them suppresses or replaces. -/
theorem C18_exitstack_cancellation_inside_exit (outer inner : List Entry) (en : Entry) (body : Outcome)
    (c : ExcId) (hc : en.run (inflight inner body.exc) = .raise c) :
    implExit (outer ++ en :: inner) body
      = ((implExit outer (.raises c)).1,
         (implExit inner body).2 ++ (en.id, if en.isCallback then none else inflight inner body.exc)
            :: (implExit outer (.raises c)).2) ∧
    ((∀ x ∈ outer, x.run (some c) = .falsy) → (implExit (outer ++ en :: inner) body).1 = .raises c) := by
  have h1 : nested (en :: inner) body
      = (.raises c, (nested inner body).2 ++ [(en.id, if en.isCallback then none else inflight inner body.exc)]) := by
    apply Prod.ext
    · rw [nested_cons_outcome]; simp [react, hc, ofExc]
    · exact nested_cons_log en inner body
  have h2 : implExit (outer ++ en :: inner) body
      = ((implExit outer (.raises c)).1,
         (implExit inner body).2 ++ (en.id, if en.isCallback then none else inflight inner body.exc)
            :: (implExit outer (.raises c)).2) := by
    rw [C14_nested, C14_nested, C14_nested, nested_append, h1]
    simp
  refine ⟨h2, fun h => ?_⟩
  rw [h2]
  exact ((C18_exitstack_cancellation_runs_every_exit_with_it outer c).2.2.2.2 h).1

/-- **ExitStack, whole histories: the exits of a cancelled block never run again.**  In any history
    (several stacks, `push`/`callback`/`enter_context`, `pop_all`, `aclose`, blocks left normally, by
    exception or by cancellation), leaving the block of stack `sid` by the cancellation `e` runs exactly
    the exits then registered on it with `e` (the unwinding above), leaves the stack empty — a later
    `aclose()` or a second exit runs nothing — and over the whole history no exit ever runs twice. -/
theorem C18_exitstack_cancelled_block_unwinds_once (ops : List Op) (hreg : (regIds ops).Nodup)
    (sid : Nat) (e : ExcId) (b2 : Outcome) :
    let h := runOps ops
    let h' := step h (.leave sid (.raises e))
    h'.log = h.log ++ (implExit (h.stack sid) (.raises e)).2 ∧
    h'.outs = h.outs ++ [(implExit (h.stack sid) (.raises e)).1] ∧
    h'.stack sid = [] ∧ (step h' (.aclose sid)).log = h'.log ∧ (step h' (.leave sid b2)).log = h'.log ∧
    (h'.log.map Prod.fst).Nodup := by
  intro h h'
  have hs : h'.stack sid = [] := by
    show (unwind h sid (.raises e)).stack sid = []
    rw [stack_unwind]; simp
  refine ⟨rfl, rfl, hs, C14_unwind_again h sid (.raises e) .normal, C14_unwind_again h sid (.raises e) b2, ?_⟩
  have hrun : h' = runOps (ops ++ [.leave sid (.raises e)]) := by
    simp [h', h, runOps, List.foldl_append]
  have hids : regIds (ops ++ [.leave sid (.raises e)]) = regIds ops := by
    clear hreg hrun hs
    induction ops with
    | nil => rfl
    | cons op rest ih => cases op <;> simp [regIds, ih]
  rw [hrun]
  exact C14_once _ (by rw [hids]; exact hreg)

/-! Non-vacuity (ExitStack): a manager that keeps the exception, one that replaces a cancellation by
    77, a callback, one that suppresses, and an exit that is itself cancelled (raises 99). -/
private def eKeep : Entry := ⟨1, false, fun _ => .falsy⟩
private def eRepl : Entry := ⟨2, false, fun o => match o with | some _ => .raise 77 | none => .falsy⟩
private def eCb : Entry := ⟨3, true, fun _ => .falsy⟩
private def eSupp : Entry := ⟨4, false, fun _ => .truthy⟩
private def eCanc : Entry := ⟨5, false, fun _ => .raise 99⟩

/-- nobody suppresses or replaces: the cancellation 5 reaches every exit and propagates -/
example : ∀ en ∈ [eKeep, eCb, eKeep], en.run (some 5) = .falsy := by decide
example : implExit [eKeep, eCb, eKeep] (.raises 5) = (.raises 5, [(1, some 5), (3, none), (1, some 5)]) := by decide
/-- replaced by 77 on the way out; the outermost exit sees 77, which propagates -/
example : implExit [eKeep, eRepl, eCb, eKeep] (.raises 5)
    = (.raises 77, [(1, some 5), (3, none), (2, some 5), (1, some 77)]) := by decide
example : inflight [eRepl, eCb, eKeep] (some 5) = some 77 ∧ inflight [eSupp, eKeep] (some 5) = none := by decide
/-- hypothesis of `C18_exitstack_cancellation_inside_exit`: the block ends normally, `eCanc` is
    cancelled inside its exit; the two earlier-registered exits are handed 99, which propagates -/
example : eCanc.run (inflight [eKeep] Outcome.normal.exc) = .raise 99 := by decide
example : implExit ([eKeep, eCb] ++ eCanc :: [eKeep]) .normal
    = (.raises 99, [(1, none), (5, none), (3, none), (1, some 99)]) := by decide
/-- a history: the block of stack 0 is cancelled, then `aclose()` and a second leave run nothing -/
example : (regIds [.register 0 eKeep, .register 0 eRepl, .register 0 eCb]).Nodup := by decide
example : (runOps [.register 0 eKeep, .register 0 eRepl, .register 0 eCb, .leave 0 (.raises 5), .aclose 0,
    .leave 0 (.raises 6)]).log = [(3, none), (2, some 5), (1, some 77)] := by decide

end AsyncVerif.ExitStack

/-! ## scoped_iter (`Machines/Borrow.lean`) -/
namespace AsyncVerif.Borrow

/-- **scoped_iter: a block left by cancellation closes the iterator exactly once.**  Open a scope
    directly on the underlying iterator (which has `aclose`) in any state in which no other scope sits
    directly on it.  Let the block run ANY prefix `body` of what it would have done (pulls on any
    handle, tools, `asend`, borrowing, nested scopes entered and left, closing handles — anything but
    closing the underlying iterator itself, scoping it directly once more, or leaving this scope), and
    then be cancelled: either between two operations (`pending = none`) or inside a pull on any target
    `t` (`pending = some t`: the cancellation is thrown at the suspension inside the underlying
    iterator's `__anext__`, `Op.nextCancel t`).  The block is then left by the cancellation
    (`__aexit__` with `ExitMode.cancel`).  Whatever the prefix and wherever the cancellation landed:

    * while the block ran, and while the cancellation propagated through the handles, no `aclose()`
      reached the underlying iterator;
    * leaving the scope makes exactly ONE `aclose()` reach it, after which it is dead (closed — or
      already exhausted / failed / killed by the cancellation);
    * the scoped handle is inert afterwards;
    * the state is exactly the state after leaving the same block normally or by an exception. -/
theorem C18_scoped_iter_cancellation_closes_once (s0 : State) (body : List Op) (pending : Option (Option Nat))
    (m : ExitMode) (hc : s0.u.hasClose = true)
    (hno : ∀ (c : Nat) (cx : Ctx), s0.ctxs[c]? = some cx → cx.target ≠ none)
    (hb : ∀ op ∈ body, op.inBlock s0.ctxs.length = true) :
    let cut : List Op := body ++ (match pending with | none => [] | some t => [.nextCancel t])
    (exec s0 (.enter none :: cut)).u.closeReqs = s0.u.closeReqs ∧
    (exec s0 (.enter none :: cut ++ [.exit s0.ctxs.length .cancel])).u.closeReqs = s0.u.closeReqs + 1 ∧
    (exec s0 (.enter none :: cut ++ [.exit s0.ctxs.length .cancel])).u.status.dead = true ∧
    (∃ hd, (exec s0 (.enter none :: cut ++ [.exit s0.ctxs.length .cancel])).hs[s0.hs.length]? = some hd ∧ Inert hd) ∧
    exec s0 (.enter none :: cut ++ [.exit s0.ctxs.length .cancel])
      = exec s0 (.enter none :: cut ++ [.exit s0.ctxs.length m]) := by
  intro cut
  have hcut : ∀ op ∈ cut, op.inBlock s0.ctxs.length = true := by
    intro op hop
    rcases List.mem_append.1 hop with h | h
    · exact hb op h
    · cases pending with
      | none => simp at h
      | some t => simp only [List.mem_singleton] at h; subst h; rfl
  obtain ⟨h1, _, h3, h4, h5⟩ := C08_closed_exactly_once_at_exit s0 cut .cancel hc hno hcut
  refine ⟨h1, h3, h4, h5, ?_⟩
  show exec s0 ((.enter none :: cut) ++ [.exit s0.ctxs.length .cancel])
    = exec s0 ((.enter none :: cut) ++ [.exit s0.ctxs.length m])
  rw [exec_append, exec_append]
  show (step _ _).1 = (step _ _).1
  rw [C08_exit_mode_irrelevant _ _ .cancel m]

/-- **scoped_iter: after the cancelled block the handle yields nothing.**  Whatever happens later
    (`ops`), pulling the handle of a scope that was left by cancellation — also a cancelled pull, also
    through `asend` — answers StopAsyncIteration and changes nothing. -/
theorem C18_scoped_iter_handle_inert_after_cancellation (s : State) (c : Nat) (cx : Ctx) (hid : Nat)
    (hc : s.ctxs[c]? = some cx) (ho : cx.own = some hid) (hv : hid < s.hs.length) (ops : List Op) :
    let s' := exec (step s (.exit c .cancel)).1 ops
    step s' (.next (some hid)) = (s', .res .stop)
    ∧ step s' (.nextCancel (some hid)) = (s', .res .stop)
    ∧ (step s' (.send hid) = (s', .res .stop) ∨ step s' (.send hid) = (s', .noattr)) :=
  C08_handle_inert_after_exit s c .cancel cx hid hc ho hv ops

/-! Non-vacuity (scoped_iter): an async generator; the block pulls two items through the scoped handle,
    then a pull is cancelled inside the generator (which dies of it); the scope is left by the
    cancellation. -/
private def uG : U :=
  { gen := true, hasClose := true, hasSend := true,
    rest := [.item 1, .item 2, .item 3, .item 4], status := .fresh, log := [], closeReqs := 0 }

example : (init uG).u.hasClose = true := rfl
example : ∀ op ∈ ([.next (some 0), .next (some 0)] : List Op), op.inBlock (init uG).ctxs.length = true := by decide
example : outs (init uG) [.enter none, .next (some 0), .next (some 0), .nextCancel (some 0), .exit 0 .cancel,
      .next (some 0), .next none]
    = [.entered 0 (some 0), .res (.item 1), .res (.item 2), .res .cancelled, .ok, .res .stop, .res .stop] := by
  decide
example :
    (exec (init uG) [.enter none, .next (some 0), .next (some 0), .nextCancel (some 0)]).u.closeReqs = 0 ∧
    (exec (init uG) [.enter none, .next (some 0), .next (some 0), .nextCancel (some 0)]).u.status = .killed ∧
    (exec (init uG) [.enter none, .next (some 0), .next (some 0), .nextCancel (some 0), .exit 0 .cancel]).u.closeReqs = 1 ∧
    (exec (init uG) [.enter none, .next (some 0), .next (some 0), .exit 0 .cancel]).u.status = .closed := by
  decide

/-- hypotheses of `C18_scoped_iter_handle_inert_after_cancellation` -/
example :
    let s := exec (init uG) [.enter none, .next (some 0)]
    s.ctxs[0]? = some ⟨none, some 0⟩ ∧ (0 : Nat) < s.hs.length := by decide

end AsyncVerif.Borrow

/-! ## ContextDecorator (`Machines/Decorator.lean`) -/
namespace AsyncVerif.Decorator

/-- **ContextDecorator: a cancelled call exits its own context with the cancellation, once.**  For
    every configuration (generator-based or class-based manager, any number of calls, any scripted
    behaviour and suspension counts) and after ANY schedule `ops` (any interleaving of the calls, earlier
    cancellations), throw the cancellation `x` into the task of call `c` at its current suspension point
    (`⟨c, .cancel x⟩`).  What call `c` logs in that step and where it ends up, by suspension point:

    * not started yet: nothing of it runs — no manager is created, entered or exited — `x` leaves;
    * inside `await cm.__aenter__()`: the context was not established: no body, no exit, `x` leaves;
    * inside the body `await func(...)` (with any number `k` of suspensions to come): the body ends with
      `x`, and the call's OWN manager's exit starts, handed exactly `x` — then either the exit code is
      suspended (the call is in `exiting (raised x)`), or it has answered `resp` and the call is
      finished with `combine (raised x) resp`: `x` itself if the exit answered falsy, `None` if it
      suppressed, the exit's exception if it raised;
    * inside `await cm.__aexit__(...)`: the exit code is not started again, `x` leaves (replacing what
      was in flight);
    * already finished: nothing happens.

    And no other call is disturbed: program counter, generator reference, the generator object it
    holds and its events are untouched. -/
theorem C18_decorator_cancellation (cfg : Cfg) (ops : List Op) (c : Nat) (cc : CallCfg) (x : Exc)
    (hcc : cfg.calls[c]? = some cc) :
    let s := (run cfg ops).1
    let s' := (run cfg (ops ++ [⟨c, .cancel x⟩])).1
    ((s.calls c).pc = .fresh →
      proj c s'.log = proj c s.log ++ [.finish (.raised x)] ∧ (s'.calls c).pc = .done (.raised x)) ∧
    (∀ k, (s.calls c).pc = .entering k →
      proj c s'.log = proj c s.log ++ [.finish (.raised x)] ∧ (s'.calls c).pc = .done (.raised x)) ∧
    (∀ k, (s.calls c).pc = .body k →
      (proj c s'.log = proj c s.log ++ [.bodyEnd (.raised x), .exit (some x)] ∧
        ∃ j, (s'.calls c).pc = .exiting (.raised x) j) ∨
      (∃ resp, proj c s'.log = proj c s.log
          ++ [.bodyEnd (.raised x), .exit (some x), .exited resp, .finish (combine (.raised x) resp)] ∧
        (s'.calls c).pc = .done (combine (.raised x) resp))) ∧
    (∀ o k, (s.calls c).pc = .exiting o k →
      ∃ resp, proj c s'.log = proj c s.log ++ [.exited resp, .finish (.raised x)] ∧
        (s'.calls c).pc = .done (.raised x)) ∧
    (∀ r, (s.calls c).pc = .done r → proj c s'.log = proj c s.log ∧ (s'.calls c).pc = .done r) ∧
    (∀ c', c' ≠ c → s'.calls c' = s.calls c' ∧ proj c' s'.log = proj c' s.log ∧
      ∀ g, (s.calls c').gid = some g → s'.gens g = s.gens g) ∧
    (combine (.raised x) (.returned false) = .raised x ∧ combine (.raised x) (.returned true) = .none ∧
      ∀ y, combine (.raised x) (.raised y) = .raised y) := by
  obtain ⟨hcoh, hpc, hlog, hpc'⟩ := run_snoc cfg ops ⟨c, .cancel x⟩ cc hcc
  -- what call `c` logs in this step and where it ends up is what `callStep` does on its private
  -- state `l`: the clauses are the lemmas about `callStep`, one per suspension point
  dsimp only at hcoh hpc hlog hpc' ⊢
  rw [hlog, hpc', ← hpc]
  generalize (prun cfg ops).1.calls c = l at hcoh
  refine ⟨fun h => ?_, fun k h => ?_, fun k h => ?_, fun o k h => ?_, fun r h => ?_, fun c' hne => ?_,
    rfl, rfl, fun _ => rfl⟩
  · rw [callStep_fresh_cancel _ cc l x h]; exact ⟨rfl, rfl⟩
  · obtain ⟨a, b, _⟩ := callStep_cancel_entering _ cc l x k h hcoh
    rw [a, b]; exact ⟨rfl, rfl⟩
  · rcases callStep_cancel_body _ cc l x k h hcoh with ⟨a, j, b⟩ | ⟨resp, a, b⟩
    · left; rw [a]; exact ⟨rfl, j, b⟩
    · right; rw [a]; exact ⟨resp, rfl, b⟩
  · obtain ⟨resp, a, b, _⟩ := callStep_cancel_exiting _ cc l x o k h hcoh
    rw [a, b]; exact ⟨resp, rfl, rfl⟩
  · rw [callStep_done _ cc l _ r h]; exact ⟨List.append_nil _, h⟩
  · have := C15_noninterference cfg ops ⟨c, .cancel x⟩ c' (fun h => hne h.symm)
    rw [run_snoc_state]
    exact ⟨this.1, this.2.2, this.2.1⟩

/-- **ContextDecorator: the context of a call is exited at most once**, under every schedule with any
    cancellations at any suspension points (in particular a cancellation arriving while the exit is
    already running does not start it again, and a suppressed cancellation does not re-enter it). -/
theorem C18_decorator_exit_at_most_once (cfg : Cfg) (ops : List Op) (c : Nat) :
    (proj c (run cfg ops).1.log).countP isExitEv ≤ 1 := by
  obtain ⟨full, r, hpre, hshape⟩ := C15_prefix_of_complete cfg ops c
  exact Nat.le_trans (hpre.sublist.countP_le) (completeShape_exit_once full r hshape)

/-- **ContextDecorator: what a call whose body was cancelled finally gives.**  Under every schedule:
    if the body of call `c` ended with the cancellation `x` and the call is finished with result `r`,
    then its complete history is `enter, entered, bodyBegin, bodyEnd (raised x), exit (some x),
    exited resp, finish r` — the exit ran exactly once and was handed `x` — and `r` is `x` itself
    unless the context suppressed it (`resp` truthy: `None`) or its exit raised (that exception). -/
theorem C18_decorator_cancelled_body_result (cfg : Cfg) (ops : List Op) (c : Nat) (x : Exc) (r : Result)
    (hb : LEv.bodyEnd (.raised x) ∈ proj c (run cfg ops).1.log)
    (hd : ((run cfg ops).1.calls c).pc = .done r) :
    ∃ resp, r = combine (.raised x) resp ∧
      proj c (run cfg ops).1.log
        = [.enter, .entered, .bodyBegin, .bodyEnd (.raised x), .exit (some x), .exited resp, .finish r] ∧
      (resp = .returned false → r = .raised x) := by
  have hs := C15_complete_call cfg ops c r hd
  generalize proj c (run cfg ops).1.log = l at hb hs
  cases hs with
  | thrownBeforeStart y => simp at hb
  | enterFailed y => simp at hb
  | paired o resp =>
    have ho : o = .raised x := by
      simp only [List.mem_cons, reduceCtorEq, LEv.bodyEnd.injEq, false_or, List.not_mem_nil, or_false] at hb
      exact hb.symm
    subst ho
    exact ⟨resp, rfl, rfl, fun h => by rw [h]; rfl⟩

/-! Non-vacuity (ContextDecorator): a generator-based manager whose enter, exit and handler suspend
    once; call 0's generator re-raises what is thrown in, call 1's swallows it. -/
private def gRe : GenProg := ⟨1, .yields, 1, .stops, 1, .reraise⟩
private def pD : PlainProg := ⟨1, .ok, 1, .falsy, .truthy⟩
private def cfgD : Cfg :=
  { generatorBased := true,
    calls := [⟨gRe, pD, 2, .returns 7⟩, ⟨{ gRe with thr := .swallow }, pD, 2, .returns 8⟩] }
private def sd (c : Nat) : Op := ⟨c, .resume⟩

example : cfgD.calls[0]? = some ⟨gRe, pD, 2, .returns 7⟩ := rfl
/-- the four suspension points of call 0 -/
example : ((run cfgD []).1.calls 0).pc = .fresh ∧ ((run cfgD [sd 0]).1.calls 0).pc = .entering 0 ∧
    ((run cfgD [sd 0, sd 0]).1.calls 0).pc = .body 1 ∧ ((run cfgD [sd 0, sd 0, sd 0]).1.calls 0).pc = .body 0 ∧
    ((run cfgD [sd 0, sd 0, sd 0, sd 0]).1.calls 0).pc = .exiting (.returned 7) 0 := by decide
/-- body cancelled at its first / second suspension point, interleaved with call 1: the exit is handed
    the cancellation, suspends once, then re-raises it: the cancellation propagates -/
example : proj 0 (run cfgD [sd 0, sd 1, sd 0, ⟨0, .cancel (.user 99)⟩, sd 1, sd 0]).1.log
    = [.enter, .entered, .bodyBegin, .bodyEnd (.raised (.user 99)), .exit (some (.user 99)),
       .exited (.returned false), .finish (.raised (.user 99))] := by decide
example : proj 0 (run cfgD [sd 0, sd 0, sd 0, ⟨0, .cancel (.user 99)⟩]).1.log
    = [.enter, .entered, .bodyBegin, .bodyEnd (.raised (.user 99)), .exit (some (.user 99))] ∧
    ((run cfgD [sd 0, sd 0, sd 0, ⟨0, .cancel (.user 99)⟩]).1.calls 0).pc = .exiting (.raised (.user 99)) 0 := by
  decide
/-- hypotheses of `C18_decorator_cancelled_body_result` -/
example :
    let s := (run cfgD [sd 0, sd 1, sd 0, ⟨0, .cancel (.user 99)⟩, sd 1, sd 0]).1
    LEv.bodyEnd (.raised (.user 99)) ∈ proj 0 s.log ∧ (s.calls 0).pc = .done (.raised (.user 99)) := by decide
/-- call 1's manager swallows: the cancelled call returns `None` -/
example : ((run cfgD [sd 1, sd 1, ⟨1, .cancel (.user 99)⟩, sd 1]).1.calls 1).pc = .done .none := by decide
/-- cancelled inside enter / inside exit -/
example : proj 0 (run cfgD [sd 0, ⟨0, .cancel (.user 99)⟩]).1.log = [.enter, .finish (.raised (.user 99))] := by decide
example : proj 0 (run cfgD [sd 0, sd 0, sd 0, sd 0, ⟨0, .cancel (.user 99)⟩]).1.log
    = [.enter, .entered, .bodyBegin, .bodyEnd (.returned 7), .exit none, .exited (.raised (.user 99)),
       .finish (.raised (.user 99))] := by decide
/-- a class-based manager (its `__aexit__` suspends once and answers truthy to an exception) -/
example : proj 0 (run { cfgD with generatorBased := false } [sd 0, sd 0, ⟨0, .cancel (.user 99)⟩, sd 0]).1.log
    = [.enter, .entered, .bodyBegin, .bodyEnd (.raised (.user 99)), .exit (some (.user 99)),
       .exited (.returned true), .finish .none] := by decide

end AsyncVerif.Decorator
