import AsyncVerif.Proofs.CachedPropertyMono
/-!
# C12 — "values are per instance": frame theorems

`C12_values_are_per_instance`, `C12_foreign_history_invisible` and the frame lemmas under them
(`micro_slot_frame` … `step_slot_frame`).  Model: `Machines/CachedProperty.lean`.  An operation that belongs to instance `i`
(an attribute access on `i`, a `del` on `i`, one step or a cancellation of a task whose handle came from `i`)
never changes what is stored for another instance `j ≠ i`, in every reachable state and under every
interleaving; a new task for an old handle changes nothing at all.
-/
namespace AsyncVerif.CachedProperty

/-- the instance an operation belongs to (none: the operation cannot write at all) -/
def Op.owner (s : State) : Op → Option Nat
  | .spawn i => some i
  | .del i => some i
  | .sched t => some (s.tinst t)
  | .cancel _ => none
  | .respawn _ => none

theorem access_slot_frame (s : State) (i j : Nat) (hj : j ≠ i) : (access s i).1.slot j = s.slot j := by
  unfold access
  split
  · rfl
  · simp [newPh, hj]

theorem access_tinst (s : State) (i : Nat) : (access s i).1.tinst = s.tinst := by
  unfold access; split <;> rfl

@[simp] theorem setPc_slot (s : State) (t : Nat) (x : Pc) : (setPc s t x).slot = s.slot := rfl
@[simp] theorem setPc_tinst (s : State) (t : Nat) (x : Pc) : (setPc s t x).tinst = s.tinst := rfl
@[simp] theorem setLock_slot (s : State) (p : Nat) (o : Option Nat) : (setLock s p o).slot = s.slot := rfl
@[simp] theorem setLock_tinst (s : State) (p : Nat) (o : Option Nat) : (setLock s p o).tinst = s.tinst := rfl
@[simp] theorem setRunSt_slot (s : State) (r : Nat) (x : RunSt) : (setRunSt s r x).slot = s.slot := rfl
@[simp] theorem setRunSt_tinst (s : State) (r : Nat) (x : RunSt) : (setRunSt s r x).tinst = s.tinst := rfl
@[simp] theorem setSlot_tinst (s : State) (i : Nat) (x : Option Stored) : (setSlot s i x).tinst = s.tinst := rfl
theorem setSlot_slot_frame (s : State) (i j : Nat) (x : Option Stored) (hj : j ≠ i) :
    (setSlot s i x).slot j = s.slot j := by simp [setSlot, hj]
@[simp] theorem release_slot (cfg : Cfg) (s : State) (p : Nat) : (release cfg s p).slot = s.slot := by
  unfold release; split <;> rfl
@[simp] theorem release_tinst (cfg : Cfg) (s : State) (p : Nat) : (release cfg s p).tinst = s.tinst := by
  unfold release; split <;> rfl
@[simp] theorem awaitStored_slot (s : State) (t : Nat) (x : Stored) : (awaitStored s t x).1.slot = s.slot := by
  cases x <;> rfl
@[simp] theorem awaitStored_tinst (s : State) (t : Nat) (x : Stored) : (awaitStored s t x).1.tinst = s.tinst := by
  cases x <;> rfl

/-- one micro-step of task `t` writes only the slot of the instance `t`'s handle came from -/
theorem micro_slot_frame (cfg : Cfg) (s : State) (t j : Nat) (h : Inv cfg s) (hj : j ≠ s.tinst t) :
    (micro cfg s t).1.slot j = s.slot j ∧ (micro cfg s t).1.tinst = s.tinst :=
  micro_ind cfg s t (P := fun s' => s'.slot j = s.slot j ∧ s'.tinst = s.tinst) ⟨rfl, rfl⟩
    (fun p hp => by
      have hq : s.phInst p = s.tinst t := hp.elim (fun e => (h.pc_entered t p e).2) (fun e => (h.pc_holding t p e).2)
      exact ⟨access_slot_frame s _ j (hq ▸ hj), access_tinst s _⟩)
    (fun _ _ _ h _ => h) (fun _ _ _ h => h)
    (fun p r hp => by
      have hq : s.phInst p = s.tinst t := (h.pc_getter t p r 0 hp).2
      obtain ⟨lk, e⟩ := complete_fst cfg s t p r
      rw [e]
      refine ⟨?_, rfl⟩
      show (if cfg.ok r then _ else _ : Nat → Option Stored) j = _
      split
      · exact if_neg (hq ▸ hj)
      · rfl)

theorem schedN_slot_frame (cfg : Cfg) (n : Nat) : ∀ (s : State) (t j : Nat), Inv cfg s → j ≠ s.tinst t →
    (schedN cfg n s t).1.slot j = s.slot j ∧ (schedN cfg n s t).1.tinst = s.tinst := by
  intro s t j h hj
  refine (schedN_ind cfg t (P := fun s' => Inv cfg s' ∧ s'.slot j = s.slot j ∧ s'.tinst = s.tinst) ?_ n s
    ⟨h, rfl, rfl⟩).2
  intro s' ⟨h', e1, e2⟩
  obtain ⟨f1, f2⟩ := micro_slot_frame cfg s' t j h' (by rw [e2]; exact hj)
  exact ⟨micro_inv cfg s' t h', f1.trans e1, f2.trans e2⟩

/-- **Values are per instance (one operation).**  In every state that satisfies the machine's invariant — in
    particular every reachable one — an operation leaves the slot of every instance other than its owner
    untouched: an access or `del` on `i` writes only `i`, a step of task `t` under any interleaving writes only
    the instance `t`'s handle came from, a cancellation and a second `await` of an old handle write nothing. -/
theorem step_slot_frame (cfg : Cfg) (s : State) (op : Op) (j : Nat) (h : Inv cfg s) (hj : Op.owner s op ≠ some j) :
    (step cfg s op).1.slot j = s.slot j := by
  cases op with
  | spawn i =>
    have hji : j ≠ i := fun e => hj (by simp [Op.owner, e])
    have := access_slot_frame s i j hji
    simp only [step]
    generalize access s i = r at this
    obtain ⟨s1, x⟩ := r
    simpa [addTask] using this
  | respawn t =>
    simp only [step]
    split <;> simp [addTask]
  | sched t =>
    have hjt : j ≠ s.tinst t := fun e => hj (by simp [Op.owner, e])
    exact (schedN_slot_frame cfg schedFuel s t j h hjt).1
  | cancel t =>
    simp only [step, cancel]
    split <;> simp
  | del i =>
    have hji : j ≠ i := fun e => hj (by simp [Op.owner, e])
    simp only [step]
    split
    · rfl
    · simp [delSlot, hji]

theorem exec_snoc (cfg : Cfg) (ops : List Op) (op : Op) : ∀ s0,
    exec cfg s0 (ops ++ [op]) = (step cfg (exec cfg s0 ops) op).1 := by
  induction ops with
  | nil => intro s0; rfl
  | cons o os ih => intro s0; exact ih _

/-- **C12: values are per instance**, for every history and every interleaving (`reach cfg ops` is the state after
    ANY operation sequence in ANY environment): the next operation changes nothing that is stored for an instance
    it does not belong to. -/
theorem C12_values_are_per_instance (cfg : Cfg) (ops : List Op) (op : Op) (j : Nat)
    (hj : Op.owner (reach cfg ops) op ≠ some j) :
    (step cfg (reach cfg ops) op).1.slot j = (reach cfg ops).slot j :=
  step_slot_frame cfg _ op j (reach_inv cfg ops) hj

/-- Operations of other instances are invisible to instance `j`: a whole sequence of operations none of which
    belongs to `j` leaves `j`'s slot as it was — a cached value stays cached (and is served: `C12_cached_value_served_*`),
    an uncached instance stays uncached. -/
theorem C12_foreign_history_invisible (cfg : Cfg) (j : Nat) (more : List Op) : ∀ (ops : List Op),
    (∀ k (hk : k < more.length), Op.owner (reach cfg (ops ++ more.take k)) (more[k]) ≠ some j) →
    (reach cfg (ops ++ more)).slot j = (reach cfg ops).slot j := by
  induction more with
  | nil => intro ops _; simp
  | cons op more ih =>
    intro ops hall
    have h0 := hall 0 (by simp)
    simp only [List.take_zero, List.append_nil, List.getElem_cons_zero] at h0
    have hstep := C12_values_are_per_instance cfg ops op j h0
    have hr : reach cfg (ops ++ [op]) = (step cfg (reach cfg ops) op).1 := exec_snoc cfg ops op State.init
    have := ih (ops ++ [op]) (by
      intro k hk
      have := hall (k + 1) (by simp; omega)
      simpa [List.take_succ_cons, List.append_assoc] using this)
    rw [List.append_assoc, List.singleton_append] at this
    rw [this, hr, hstep]

/-- non-vacuity: two instances, instance 1 is computed and cached by task 1 while task 0 (instance 0) is in the
    middle of its own computation; instance 1's operations never change slot 0 and vice versa -/
example :
    let cfg : Cfg := { lock := true, susp := fun _ => 1, ok := fun _ => true }
    let ops := [Op.spawn 0, .spawn 1, .sched 0, .sched 1, .sched 1]
    (reach cfg ops).slot 1 = some (.val 1) ∧ (reach cfg ops).slot 0 = some (.ph 0) ∧
    Op.owner (reach cfg ops) (.sched 0) = some 0 := by decide
