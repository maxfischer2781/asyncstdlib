import AsyncVerif.Proofs.Core
import AsyncVerif.Impl.Aggregations
import AsyncVerif.Proofs.SelectValue
/-!
# C20 — bounded retention  (partial by nature)

Object lifetime is a property of CPython frames and reference counts, which the model does not
have.  What the model does have are the *explicit containers* a tool carries from one step to the
next — they are the arguments of the model's loops: `batch` of `batched`, the row under
construction of `zip`/`map`, the heap of `merge` (one entry per live source), the previous item of
`pairwise`, the running value of `accumulate`/`reduce`/`min`/`max`; all other streaming loops carry
no item at all (`filterLoop`, `takewhileLoop`, `enumerateLoop` carry at most a counter).  The
theorems below bound those containers for **every world** and every stream length.  That the real
frames hold nothing else is measured on every run with weak references (harness/props/c20.py).
-/
namespace AsyncVerif

/-- `batched`: the batch under construction never exceeds the window `n` (and is exactly `n` when
    reported full), for every source script and fault position -/
theorem C20_batched_window (s : Nat) : ∀ (n : Nat) (acc : List Val) (w : World) (batch : List Val) (full : Bool) (w' : World),
    Std.collect s n acc w = (.ok (batch, full), w') →
    batch.length ≤ acc.length + n ∧ (full = true → batch.length = acc.length + n) := by
  intro n
  induction n with
  | zero => intro acc w batch full w' h; cases h; exact ⟨Nat.le_refl _, fun _ => rfl⟩
  | succ n ih =>
    intro acc w batch full w' h
    obtain ⟨o, w1, -, h⟩ := bind_ok h
    cases o with
    | none => cases h; exact ⟨Nat.le_add_right _ _, nofun⟩
    | some x =>
      have := ih (acc ++ [x]) w1 batch full w' h
      rw [List.length_append, List.length_singleton, Nat.add_assoc, Nat.add_comm 1] at this
      exact this

/-- `zip` / `map` / `zip(strict)`: a completed row has exactly one item per source -/
theorem C20_zip_row (srcs : List Nat) : ∀ (acc : List Val) (w : World) (row : List Val) (w' : World),
    Std.zipRow srcs acc w = (.ok (some row), w') → row.length = acc.length + srcs.length := by
  induction srcs with
  | nil => intro acc w row w' h; cases h; rfl
  | cons s rest ih =>
    intro acc w row w' h
    obtain ⟨o, w1, -, h⟩ := bind_ok h
    cases o with
    | none => cases h
    | some x =>
      rw [ih (acc ++ [x]) w1 row w' h, List.length_append, List.length_singleton, Nat.add_assoc, Nat.add_comm 1]
      rfl

/-- `merge`: collecting the first items creates at most one heap entry per source -/
theorem C20_merge_one_head_per_source (fn : Option Nat) (srcs : List Nat) :
    ∀ (idx : Nat) (acc : List Std.Entry) (w : World) (hs : List Std.Entry) (w' : World),
    Std.heads fn srcs idx acc w = (.ok hs, w') → hs.length ≤ acc.length + srcs.length := by
  induction srcs with
  | nil => intro idx acc w hs w' h; cases h; exact Nat.le_refl _
  | cons s rest ih =>
    intro idx acc w hs w' h
    obtain ⟨o, w1, -, h⟩ := bind_ok h
    cases o with
    | none => exact Nat.le_trans (ih (idx + 1) acc w1 hs w' h) (Nat.le_succ _)
    | some x =>
      obtain ⟨k, w2, -, h⟩ := bind_ok h
      have := ih (idx + 1) _ w2 hs w' h
      rw [List.length_append, List.length_singleton, Nat.add_assoc, Nat.add_comm 1] at this
      exact this

theorem popMin_length (reverse : Bool) : ∀ heap : List Std.Entry,
    match Std.popMin reverse heap with
    | none => heap = []
    | some p => p.2.length + 1 = heap.length
  | [] => rfl
  | x :: rest => by
    have ih := popMin_length reverse rest
    unfold Std.popMin
    generalize Std.popMin reverse rest = r at ih
    match r with
    | none => rw [ih]; rfl
    | some (m, os) =>
      by_cases hb : Std.Entry.before reverse m x = true <;> simp only [hb, ↓reduceIte] <;>
        exact congrArg (· + 1) ih

/-- `merge`: taking the minimum entry out of the heap removes exactly one entry, so the heap of the
    merging loop (`others`, or `others` plus the refilled entry) never grows -/
theorem C20_merge_heap_never_grows (reverse : Bool) : ∀ (heap : List Std.Entry) (e : Std.Entry) (others : List Std.Entry),
    Std.popMin reverse heap = some (e, others) → others.length + 1 = heap.length := by
  intro heap e others h
  have := popMin_length reverse heap
  rwa [h] at this

/-- one round: the heap keeps its size whether or not the item is accepted -/
theorem C20_nbest_round (c : Sel.Cfg) (st st' : List Sel.VE × Int) (k x : Val) (h : Sel.acceptV c st k x = .ok st') :
    st'.1.length = st.1.length := by
  unfold Sel.acceptV at h
  split at h
  · cases h; rfl
  · rename_i worst hl
    obtain ⟨b, -, hb⟩ := Sel.bind_eq_ok h
    cases b with
    | false => cases hb; rfl
    | true =>
      obtain ⟨r, hi, hp⟩ := Sel.bind_eq_ok hb
      cases hp
      have hpos : 0 < st.1.length := List.length_pos_iff.mpr (by intro h0; simp [h0] at hl)
      show r.length = _
      rw [Sel.insV_length c _ _ _ hi, List.length_dropLast]; omega

/-- `nlargest` / `nsmallest`: the heap holds at most `n` entries after the first phase — in **every world** (any source
    script, any fault, any key behaviour), for every direction and stamp convention -/
theorem C20_nbest_heap_at_most_n (c : Sel.Cfg) (n : Nat) (fn : Option Nat) (s : Nat) (w w' : World)
    (first : List (Val × Val)) (h0 : List Sel.VE)
    (hfirst : Std.nbFirst fn s n [] w = (.ok first, w')) (hheap : Sel.heapifyV c first = .ok h0) :
    h0.length ≤ n := by
  have h1 := nbFirst_length fn s n [] w first w' hfirst
  have h2 := Sel.heapifyV_length c first 0 [] h0 hheap
  simp at h1 h2
  omega

/-- … and **no round of the scan changes its size**, however long the stream: every state the scan loop passes through
    (each is the start state of the remaining scan) holds exactly as many entries as the heap it started from; an
    accepted item replaces the worst entry, a rejected one is dropped at once. -/
theorem C20_nbest_window_constant (c : Sel.Cfg) (fn : Option Nat) (s fuel : Nat) (st st' : List Sel.VE × Int) (w w' : World)
    (h : Std.nbScan c fn s st fuel w = (.ok st', w')) : st'.1.length = st.1.length := by
  induction fuel generalizing st w with
  | zero => cases h
  | succ fuel ih =>
    obtain ⟨o, w1, -, h⟩ := bind_ok h
    cases o with
    | none => cases h; rfl
    | some x =>
      obtain ⟨key, w2, -, h⟩ := bind_ok h
      obtain ⟨st1, w3, ha, h⟩ := bind_ok h
      rw [liftExc_apply] at ha
      obtain ⟨hacc, rfl⟩ := Prod.mk.inj ha
      rw [ih st1 w2 h, C20_nbest_round c st st1 key x hacc]

/-! Non-vacuity -/
example : (Sel.acceptV ⟨true, false⟩ ([⟨.int 5, 0, .obj 1 5⟩, ⟨.int 3, -1, .obj 2 3⟩], -2) (.int 4) (.obj 3 4)).map
    (fun st => st.1.map (·.item)) = .ok [.obj 1 5, .obj 3 4] := by rfl
example : (Std.popMin false [⟨.int 3, .int 3, 0, 0⟩, ⟨.int 1, .int 1, 1, 1⟩]).map (fun p => (p.1.idx, p.2.length)) = some (1, 1) := by
  decide

end AsyncVerif
