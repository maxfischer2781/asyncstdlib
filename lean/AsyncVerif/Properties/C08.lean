import AsyncVerif.Proofs.Borrow
/-!
# C08 — scoped_iter keeps an iterator alive for the block and closes it exactly at exit

Property theorems only.  Model: `Machines/Borrow.lean` — `Op.enter t` = `scoped_iter(t).__aenter__()`
(`_ScopedAsyncIteratorContext` with a fresh `_ScopedAsyncIterator`, or `nullcontext` when the
iterator has no `aclose`), `Op.exit c m` = its `__aexit__` for fall-through / exception /
cancellation, and everything the block may do with the handle is an `Op` (a library tool is
`TOp.tool`: some pulls, possibly one that is cancelled, then possibly `aclose()` on the handle).
-/
namespace AsyncVerif.Borrow

/-- How the block is left — fall-through, exception, cancellation — makes no difference to what
    `__aexit__` does. -/
theorem C08_exit_mode_irrelevant (s : State) (c : Nat) (m m' : ExitMode) :
    step s (.exit c m) = step s (.exit c m') := rfl

/-- The heart of C08.  Open a scope directly on the underlying iterator (which has `aclose`) in any
    state in which no other scope sits directly on it; let the block do anything at all — pulls on
    any handle, cancelled pulls, `asend`, closing handles, borrowing, nested scopes over handles
    entered and left in any order, tools — except closing the underlying iterator itself, scoping
    it directly once more, or leaving this very scope.  Then, whatever the block did:
    * inside the block no `aclose()` reached the underlying iterator and it did not become closed;
    * leaving the scope (in any mode) makes exactly one `aclose()` reach it, after which it is dead;
    * the scoped handle is inert afterwards. -/
theorem C08_closed_exactly_once_at_exit (s0 : State) (body : List Op) (m : ExitMode)
    (hc : s0.u.hasClose = true)
    (hno : ∀ (c : Nat) (cx : Ctx), s0.ctxs[c]? = some cx → cx.target ≠ none)
    (hb : ∀ op ∈ body, op.inBlock s0.ctxs.length = true) :
    (exec s0 (.enter none :: body)).u.closeReqs = s0.u.closeReqs
    ∧ ((exec s0 (.enter none :: body)).u.status = .closed → s0.u.status = .closed)
    ∧ (exec s0 (.enter none :: body ++ [.exit s0.ctxs.length m])).u.closeReqs = s0.u.closeReqs + 1
    ∧ (exec s0 (.enter none :: body ++ [.exit s0.ctxs.length m])).u.status.dead = true
    ∧ ∃ hd, (exec s0 (.enter none :: body ++ [.exit s0.ctxs.length m])).hs[s0.hs.length]? = some hd
        ∧ Inert hd := by
  -- the state right after `__aenter__`
  have e0 : (step s0 (.enter none)).1
      = { s0 with hs := s0.hs ++ [newHandle s0 none .scoped],
                  ctxs := s0.ctxs ++ [{ target := none, own := some s0.hs.length }] } := by
    simp [step, validT, hc]
  have hs0 : OnlyScope s0.ctxs.length (step s0 (.enter none)).1 := by
    intro c cx hcx ht
    rw [e0] at hcx
    by_cases hl : c < s0.ctxs.length
    · simp only [] at hcx
      rw [List.getElem?_append_left hl] at hcx
      exact absurd ht (hno c cx hcx)
    · have := lt_of_getElem? hcx
      simp at this
      omega
  obtain ⟨hz, _⟩ := exec_onlyScope s0.ctxs.length body _ hb hs0
  have hk := exec_keep body _ hz
  have hcr : (exec s0 (.enter none :: body)).u.closeReqs = s0.u.closeReqs := by
    rw [exec_cons, exec_closeReqs, hz, e0]; rfl
  have hu0 : (step s0 (.enter none)).1.u = s0.u := by rw [e0]
  -- the context and the handle are still there after the body
  obtain ⟨l, hl⟩ := exec_ctxs body (step s0 (.enter none)).1
  have hctx : (exec s0 (.enter none :: body)).ctxs[s0.ctxs.length]?
      = some { target := none, own := some s0.hs.length } := by
    rw [exec_cons, hl, e0]
    simp
  have hh0 : (step s0 (.enter none)).1.hs[s0.hs.length]? = some (newHandle s0 none .scoped) := by
    rw [e0]; simp
  obtain ⟨hd1, ehd1, _⟩ := (exec_mono body (step s0 (.enter none)).1).2 _ _ hh0
  have hcl : (exec s0 (.enter none :: body)).u.hasClose = true := by
    rw [(exec_caps _ s0).2.1]; exact hc
  -- the exit
  have ex : (step (exec s0 (.enter none :: body)) (.exit s0.ctxs.length m)).1
      = { exec s0 (.enter none :: body) with
            hs := (exec s0 (.enter none :: body)).hs.modify s0.hs.length closeWrapper,
            u := closeU (exec s0 (.enter none :: body)).u } := by
    simp [step, hctx, closeT]
  have eall : exec s0 (.enter none :: body ++ [.exit s0.ctxs.length m])
      = (step (exec s0 (.enter none :: body)) (.exit s0.ctxs.length m)).1 := by
    show exec s0 ((.enter none :: body) ++ [.exit s0.ctxs.length m]) = _
    rw [exec_append]; rfl
  obtain ⟨st, log, hdead, ecl⟩ := closeU_of_hasClose _ hcl
  rw [ecl] at ex
  refine ⟨hcr, ?_, ?_, ?_, ?_⟩
  · intro h
    rw [exec_cons] at h
    have := hk.notClosed h
    rw [hu0] at this; exact this
  · rw [eall, ex]
    exact congrArg (· + 1) hcr
  · rw [eall, ex]
    exact hdead
  · rw [eall, ex]
    refine ⟨closeWrapper hd1, ?_, closeWrapper_inert hd1⟩
    simp only []
    rw [exec_cons]
    exact getElem?_modify_self _ _ hd1 closeWrapper ehd1

/-- After the block of a scope has been left, its handle yields nothing further — whatever happens
    later, pulling it (also through `asend`) answers StopAsyncIteration and changes nothing. -/
theorem C08_handle_inert_after_exit (s : State) (c : Nat) (m : ExitMode) (cx : Ctx) (hid : Nat)
    (hc : s.ctxs[c]? = some cx) (ho : cx.own = some hid) (hv : hid < s.hs.length) (ops : List Op) :
    let s' := exec (step s (.exit c m)).1 ops
    step s' (.next (some hid)) = (s', .res .stop)
    ∧ step s' (.nextCancel (some hid)) = (s', .res .stop)
    ∧ (step s' (.send hid) = (s', .res .stop) ∨ step s' (.send hid) = (s', .noattr)) := by
  intro s'
  have : ∃ hd, s.hs[hid]? = some hd := ⟨s.hs[hid], by simp [hv]⟩
  obtain ⟨hd, ehd⟩ := this
  have e : (step s (.exit c m)).1 = closeT { s with hs := s.hs.modify hid closeWrapper } cx.target := by
    simp [step, hc, ho]
  have h1 : ({ s with hs := s.hs.modify hid closeWrapper } : State).hs[hid]? = some (closeWrapper hd) :=
    getElem?_modify_self s.hs hid hd closeWrapper ehd
  obtain ⟨hd2, e2, l2⟩ := (closeT_grows { s with hs := s.hs.modify hid closeWrapper } cx.target).mono.2 _ _ h1
  rw [← e] at e2
  obtain ⟨hd', e', hi, _⟩ := inert_exec ops _ hid _ e2 ((closeWrapper_inert hd).le l2)
  exact inert_pulls s' hid hd' e' hi

/-- Nested scopes: leaving a scope that was opened over a *scoped handle* ends only its own
    handle — the underlying iterator, the outer handle and everything else are untouched. -/
theorem C08_inner_exit_ends_only_own_handle (s : State) (c : Nat) (m : ExitMode) (cx : Ctx)
    (hid p : Nat) (hp : Handle) (hc : s.ctxs[c]? = some cx) (ho : cx.own = some hid)
    (ht : cx.target = some p) (hpp : s.hs[p]? = some hp) (hk : hp.kind = .scoped) :
    step s (.exit c m) = ({ s with hs := s.hs.modify hid closeWrapper }, .ok) := by
  have e : step s (.exit c m)
      = (closeT { s with hs := s.hs.modify hid closeWrapper } (some p), .ok) := by
    simp [step, hc, ho, ht]
  rw [e]
  by_cases hq : hid = p
  · subst hq
    have h1 : ({ s with hs := s.hs.modify hid closeWrapper } : State).hs[hid]? = some (closeWrapper hp) :=
      getElem?_modify_self s.hs hid hp closeWrapper hpp
    rw [closeT_scoped _ hid _ h1 (by simpa [closeWrapper] using hk)]
  · have h1 : ({ s with hs := s.hs.modify hid closeWrapper } : State).hs[p]? = some hp := by
      show (s.hs.modify hid closeWrapper)[p]? = some hp
      rw [getElem?_modify_ne _ _ _ _ hq]; exact hpp
    rw [closeT_scoped _ p _ h1 hk]

/-- Nothing a tool does by closing its input affects a scoped handle: `aclose()` on it, directly or
    through `aiter`, is a no-op; hence a tool that closes the handle when done leaves exactly the
    state of the same tool not closing it. -/
theorem C08_scoped_survives_close (s : State) (h : Nat) (hd : Handle) (hh : s.hs[h]? = some hd)
    (hk : hd.kind = .scoped) (k : Nat) (cancel : Bool) :
    step s (.close (some h)) = (s, .ok) ∧ step s (.closeIter h) = (s, .ok)
    ∧ exec s (TOp.expand (.tool (some h) k cancel true))
        = exec s (TOp.expand (.tool (some h) k cancel false)) := by
  have hclose : ∀ (s2 : State) (hd2 : Handle), s2.hs[h]? = some hd2 → hd2.kind = .scoped →
      step s2 (.close (some h)) = (s2, .ok) := by
    intro s2 hd2 h2 k2
    have hv : validT s2 (some h) = true := by simp [validT, lt_of_getElem? h2]
    simp [step, hv, closeT_scoped s2 h hd2 h2 k2]
  have hv : validT s (some h) = true := by simp [validT, lt_of_getElem? hh]
  refine ⟨hclose s hd hh hk, by simp [step, hv, closeT_scoped s h hd hh hk], ?_⟩
  have e : TOp.expand (.tool (some h) k cancel true)
      = TOp.expand (.tool (some h) k cancel false) ++ [.close (some h)] := by
    simp [TOp.expand]
  rw [e, exec_append]
  obtain ⟨hd', e', l⟩ := (exec_mono (TOp.expand (.tool (some h) k cancel false)) s).2 h hd hh
  show (step (exec s (TOp.expand (.tool (some h) k cancel false))) (.close (some h))).1 = _
  rw [hclose _ hd' e' (l.kind.trans hk)]

/-- A scoped handle survives whatever the block does, as long as the underlying iterator keeps
    yielding: over any operations that do not leave a scope and whose pulls all delivered items
    (no StopAsyncIteration, exception or cancellation came through), the handle is unchanged —
    still open.  With `C07_items_exactly_once_in_order` this is the shared-iterator behaviour:
    successive tools see consecutive items of one and the same iterator. -/
theorem C08_scoped_open_while_items (s : State) (h : Nat) (hd : Handle) (hh : s.hs[h]? = some hd)
    (hk : hd.kind = .scoped) (ops : List Op) (hne : ∀ op ∈ ops, op.isExit = false)
    (hout : ∀ o ∈ outs s ops, o.keepsOpen = true) :
    (exec s ops).hs[h]? = some hd := by
  induction ops generalizing s with
  | nil => exact hh
  | cons op r ih =>
    exact ih _ ((step_spec s op).scopedStays (hne op (.head _)) (hout _ (.head _)) h hd hh hk)
      (fun o hm => hne o (.tail _ hm)) (fun o hm => hout o (.tail _ hm))

/-- Number of `aclose()` calls reaching the underlying iterator, for every run: exactly the number
    of operations that are the owner's `U.aclose()` or the exit of a scope opened directly on it.
    In particular exits of inner scopes (over handles) never count. -/
theorem C08_close_calls_counted (s : State) (ops : List Op) :
    (exec s ops).u.closeReqs = s.u.closeReqs + closeOps s ops :=
  exec_closeReqs ops s

/-! Non-vacuity: a class-based iterator; an outer scope, two tools on the scoped handle (the first
    closes it when done, the second is cancelled), a nested scope over the scoped handle that is
    used and left by exception, the outer handle used again, exit by cancellation, then the outer
    handle and the underlying iterator itself answer StopAsyncIteration. -/
private def u1 : U :=
  { gen := false, hasClose := true, hasSend := false,
    rest := [.item 1, .item 2, .item 3, .item 4, .item 5, .item 6], status := .fresh, log := [],
    closeReqs := 0 }

private def body1 : List Op :=
  flatten [.tool (some 0) 2 false true, .prim (.enter (some 0)), .prim (.next (some 1)),
           .prim (.exit 1 (.exc 7)), .prim (.next (some 1)), .tool (some 0) 1 true true,
           .prim (.next (some 0))]

example : (init u1).u.hasClose = true := rfl
example : ∀ op ∈ body1, op.inBlock (init u1).ctxs.length = true := by decide
example : outs (init u1) (.enter none :: body1 ++ [.exit 0 .cancel, .next (some 0), .next none])
    = [.entered 0 (some 0), .res (.item 1), .res (.item 2), .ok, .entered 1 (some 1), .res (.item 3), .ok,
       .res .stop, .res (.item 4), .res .cancelled, .ok, .res .stop, .ok, .res .stop, .res .stop] := by
  decide
example : (exec (init u1) (.enter none :: body1)).u.closeReqs = 0
    ∧ (exec (init u1) (.enter none :: body1 ++ [.exit 0 .cancel])).u.closeReqs = 1
    ∧ (exec (init u1) (.enter none :: body1 ++ [.exit 0 .cancel])).u.status = .closed := by decide

end AsyncVerif.Borrow
