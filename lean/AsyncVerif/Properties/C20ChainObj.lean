import AsyncVerif.Proofs.ChainObj
import AsyncVerif.Properties.C04Cleanup
/-!
# C20 / C04 / C17 / C18 — `asyncstdlib.itertools.chain` as an object

Property theorems only.  Model: `Machines/ChainObj.lean` (`init` = `chain.__init__` /
`chain.from_iterable`, `next` = one send of the task awaiting `chain.__anext__()`, `aclose` =
`try: await close_all(self._owned_iterators) finally: await self._iterator.aclose()`, `cancel` = a
CancelledError thrown into the task suspended inside a pull).  All theorems are about
`reach mode args ops`, the state after an ARBITRARY list of operations on a chain over an
ARBITRARY list of argument descriptors (any kinds, item lists, suspension counts, close
behaviours); they are proved by induction over the operation list with the invariant
`Inv` (`Proofs/ChainObj.lean`), not by enumeration.

Vocabulary (`Proofs/ChainObj.lean`): `scopeAt st i` = where the generator is relative to
`async with ScopedIter(args[i])` (`untouched | open | left`); `closedByAt st i` = who invoked
`aclose` on argument `i`'s iterator so far, in order (`owner` = `close_all(_owned_iterators)`,
`scope` = `ScopedIter.__aexit__`); `innerClose args pc` / `innerBeh args pc` = the close event /
the `Cleanup.CloseBeh` of the scope the generator is suspended in (nothing / `noAclose` unless it
is suspended at the `yield`); `ownedBehs args owned` = the `aclose` behaviours of the owned
iterators in tuple order; `outOf dflt exc` = `raised e` for `some e`, else `dflt`.
-/
namespace AsyncVerif.ChainObj

/-- C20: `_owned_iterators` is computed once.  For every mode, argument list and operation
    sequence: (1) the owned list after the operations is the one `__init__` computed; (2) no
    single operation changes it, in any state; (3) for `from_iterable` it is empty, initially and
    forever; (4) it never has more entries than there are positional arguments; (5) it depends
    only on the KINDS of the arguments — not on their item lists (the stream length), their
    suspensions, their close behaviour, nor on the operations performed: nothing accumulates with
    the length of the stream. -/
theorem C20_chain_owned_fixed (mode : Mode) (args : List Arg) (ops : List Op) :
    (reach mode args ops).owned = (init mode args).owned
    ∧ (∀ (st : State) (op : Op), (step args st op).1.owned = st.owned)
    ∧ (init .fromIterable args).owned = [] ∧ (reach .fromIterable args ops).owned = []
    ∧ (reach mode args ops).owned.length ≤ args.length
    ∧ (∀ (args' : List Arg) (ops' : List Op), args'.map (·.kind) = args.map (·.kind) →
        (reach mode args' ops').owned = (reach mode args ops).owned) := by
  have ho := fun args ops => (reach_reach mode args ops).owned
  refine ⟨ho args ops, step_owned args, rfl, (reach_reach _ args ops).owned, ?_, fun args' ops' h => ?_⟩
  · rw [ho]; exact ownedOf_length_le mode args
  · rw [ho, ho]; exact ownedOf_kinds mode args' args h

/-- C20: the chain holds at most one inner iterator at a time.  In every reachable state: (1) the
    scope of argument `i` is open exactly when the generator's pc is inside it (suspended at its
    `yield` or inside its pull) — so before the first `next`, after exhaustion, failure,
    cancellation or `aclose` NO scope is open; (2) two open scopes are the same scope; (3) at most
    one argument has an open scope; (4) in particular at most one inner iterator that the chain
    created itself (`aiter(iterable)` of a re-iterable async iterable, the `_aiter_sync` wrapper
    of a synchronous one) is open — every earlier one was closed/left before the next was made. -/
theorem C20_chain_holds_one_inner (mode : Mode) (args : List Arg) (ops : List Op) :
    (∀ i, scopeAt (reach mode args ops) i = some .open ↔ (reach mode args ops).pc.current = some i)
    ∧ (∀ i j, scopeAt (reach mode args ops) i = some .open →
        scopeAt (reach mode args ops) j = some .open → i = j)
    ∧ (reach mode args ops).status.countP (fun s => s.scope == .open) ≤ 1
    ∧ (args.zip (reach mode args ops).status).countP
        (fun p => p.1.createdByChain && p.2.scope == .open) ≤ 1 := by
  have hinv := (reach_reach mode args ops).inv
  generalize reach mode args ops = st at hinv
  have huniq : ∀ i j, scopeAt st i = some .open → scopeAt st j = some .open → i = j := fun i j hi hj =>
    Option.some.inj (((hinv.2 i).mp hi).symm.trans ((hinv.2 j).mp hj))
  have h3 : st.status.countP (fun s => s.scope == .open) ≤ 1 :=
    countP_le_one_of_unique _ _ fun i j a b hi hj ha hb =>
      huniq i j (by rw [scopeAt, hi]; exact congrArg some (eq_of_beq ha))
        (by rw [scopeAt, hj]; exact congrArg some (eq_of_beq hb))
  refine ⟨hinv.2, huniq, h3,
    Nat.le_trans (List.countP_mono_left (q := fun p => p.2.scope == .open) fun p _ hp => ?_) ?_⟩
  · exact (Bool.and_eq_true _ _ ▸ hp).2
  · -- the chain-made ones among the arguments with an open scope
    rw [← List.map_snd_zip (l₁ := args) (Nat.le_of_eq hinv.1), List.countP_map] at h3
    exact h3

/-- C04: `chain.aclose()` while the generator is not running (not started, suspended at the
    `yield`, or finished), in every reachable state, whatever the `aclose` of each iterator does:
    (1) the user-visible events of the call are exactly: one `close i` for every owned argument, in
    tuple order (`close_all`), and then the close of the scope the generator is suspended in
    (`self._iterator.aclose()` in the `finally` clause) — nothing else, no pull, no item; an
    exception raised by one `aclose` does not prevent any of the later ones;
    (2) the owned positions are strictly increasing (each owned iterator exactly once) and each is
    an existing argument of kind `asyncIteratorWithClose`; none of them is dropped
    (`ownedBehs` has the same length);
    (3) per argument: it gained exactly one `owner` close iff it is owned, followed by exactly one
    `scope` close iff the generator was suspended in its scope and the iterator has an `aclose`;
    (4) the answer is what `Machines/Cleanup.lean`'s `close_all` raises for the list
    `owned ++ [current inner iterator]` — i.e. the MOST RECENT failure in the order of the Python
    code propagates (`getLast?` of the raised exceptions), `closed` if none;
    (5) afterwards the generator is finished and no scope is open; the owned list is unchanged. -/
theorem C04_chain_aclose_closes_all_owned (mode : Mode) (args : List Arg) (ops : List Op) (op : Op)
    (hop : op = .aclose ∨ op = .acloseWhileRunning)
    (hidle : (reach mode args ops).pc.running = false) :
    (step args (reach mode args ops) op).1.log
        = (reach mode args ops).log ++ (reach mode args ops).owned.map Ev.close
            ++ innerClose args (reach mode args ops).pc
    ∧ (reach mode args ops).owned.Pairwise (· < ·)
    ∧ (∀ i ∈ (reach mode args ops).owned,
        ∃ a, args[i]? = some a ∧ a.kind = .asyncIteratorWithClose)
    ∧ (ownedBehs args (reach mode args ops).owned).length = (reach mode args ops).owned.length
    ∧ (∀ j, closedByAt (step args (reach mode args ops) op).1 j
        = (closedByAt (reach mode args ops) j).map (fun l =>
            l ++ (if j ∈ (reach mode args ops).owned then [Closer.owner] else [])
              ++ (if (reach mode args ops).pc = .suspendedAtYield j
                    ∧ innerBeh args (reach mode args ops).pc ≠ .noAclose
                  then [Closer.scope] else [])))
    ∧ (step args (reach mode args ops) op).2
        = outOf .closed (Cleanup.closeAllRobust
            (ownedBehs args (reach mode args ops).owned ++ [innerBeh args (reach mode args ops).pc])).2
    ∧ (step args (reach mode args ops) op).2
        = outOf .closed ((ownedBehs args (reach mode args ops).owned
            ++ [innerBeh args (reach mode args ops).pc]).filterMap Cleanup.CloseBeh.exc).getLast?
    ∧ (step args (reach mode args ops) op).1.pc = .done
    ∧ NoOpen (step args (reach mode args ops) op).1
    ∧ (step args (reach mode args ops) op).1.owned = (reach mode args ops).owned := by
  have hr := reach_reach mode args ops
  generalize reach mode args ops = st at hr hidle
  have hlt : ∀ i ∈ st.owned, i < args.length := by rw [hr.owned]; exact ownedOf_lt mode args
  have hpw : st.owned.Pairwise (· < ·) := by rw [hr.owned]; exact ownedOf_pairwise mode args
  have hin : ∀ idx, st.pc = .suspendedAtYield idx → idx < args.length :=
    fun idx hpc => inv_current_lt _ st hr.inv idx (by rw [hpc]; rfl)
  have hf := closeOwned_frame args st.owned st
  have hg := genAclose_idle args (closeOwned args st.owned st).1
    (by rw [hf.pc]; exact hidle) (by rw [hf.pc]; exact hin)
  have hans := aclose_snd_idle args st hidle hin
  rw [show step args st op = aclose args st by rcases hop with rfl | rfl <;> rfl]
  refine ⟨?_, hpw, fun i hi => ?_, ownedBehs_length args _ hlt, fun j => ?_, hans, ?_, ?_, ?_, aclose_owned args st⟩
  · rw [aclose_eq, hg.log, hf.pc]
    exact congrArg (· ++ _) (closeOwned_log args _ (st, none) hlt)
  · obtain ⟨-, a, ha, ho⟩ := (mem_ownedOf mode args i).mp (hr.owned ▸ hi)
    exact ⟨a, ha, eq_of_beq ho⟩
  · -- first `close_all`: one `owner` for each owned argument, then the generator's own close
    have hc : closedByAt (closeOwned args st.owned st).1 j
        = (closedByAt st j).map (· ++ List.replicate (st.owned.count j) .owner) :=
      closeOwned_closedByAt args _ (st, none) hlt j
    rw [aclose_eq, hg.closedByAt j, hf.pc, hc, List.Nodup.count (hpw.imp Nat.ne_of_lt)]
    by_cases hm : j ∈ st.owned <;>
      by_cases hy : st.pc = .suspendedAtYield j ∧ innerBeh args st.pc ≠ .noAclose
    · rw [if_pos hy, if_pos hy, if_pos hm, if_pos hm, Option.map_map]; rfl
    · rw [if_neg hy, if_neg hy, if_pos hm, if_pos hm]; simp only [List.append_nil]; rfl
    · rw [if_pos hy, if_pos hy, if_neg hm, if_neg hm, Option.map_map]; rfl
    · rw [if_neg hy, if_neg hy, if_neg hm, if_neg hm]; simp only [List.append_nil, List.replicate_zero]
  · rw [hans, (Cleanup.C18_cleanup_last_failure_propagates _).2.1]
  · rw [aclose_eq]; exact hg.pc
  · rw [aclose_eq]
    exact hg.noOpen fun i hi => by rw [hf.scope] at hi; rw [hf.pc]; exact (hr.inv.2 i).mp hi

/-- C17: a second task calls `chain.aclose()` while the first one is suspended inside a pull
    (`pc = runningInPull idx k`), in every reachable state: (1) the call answers RuntimeError
    (`busy`) — CPython's "asynchronous generator is already running", raised by
    `self._iterator.aclose()` in the `finally` clause — and that answer is not a suspension: the
    library adds no suspension point of its own; the plain `aclose` op is the same call; (2) the
    running pull is intact: pc (argument and number of suspensions taken), the remaining items, the
    scope of every argument (the one of `idx` is still open) and the owned list are unchanged;
    (3) the only events are the `close i` of the owned arguments, in tuple order — `close_all` ran
    BEFORE the RuntimeError —, no pull/item/end event; (4) the first task's pull goes on with its
    remaining suspensions: if it has some left, its next send suspends in the same pull. -/
theorem C17_chain_close_while_running_never_suspends (mode : Mode) (args : List Arg) (ops : List Op)
    (idx k : Nat) (hpc : (reach mode args ops).pc = .runningInPull idx k) :
    (step args (reach mode args ops) .acloseWhileRunning).2 = .busy
    ∧ (step args (reach mode args ops) .acloseWhileRunning).2.isSusp = false
    ∧ step args (reach mode args ops) .aclose = step args (reach mode args ops) .acloseWhileRunning
    ∧ (step args (reach mode args ops) .acloseWhileRunning).1.pc = .runningInPull idx k
    ∧ (step args (reach mode args ops) .acloseWhileRunning).1.cur = (reach mode args ops).cur
    ∧ (∀ j, scopeAt (step args (reach mode args ops) .acloseWhileRunning).1 j
        = scopeAt (reach mode args ops) j)
    ∧ scopeAt (step args (reach mode args ops) .acloseWhileRunning).1 idx = some .open
    ∧ (step args (reach mode args ops) .acloseWhileRunning).1.owned = (reach mode args ops).owned
    ∧ (step args (reach mode args ops) .acloseWhileRunning).1.log
        = (reach mode args ops).log ++ (reach mode args ops).owned.map Ev.close
    ∧ (∀ a, args[idx]? = some a → k < a.pullSusp →
        (step args (step args (reach mode args ops) .acloseWhileRunning).1 .next).2 = .susp idx
        ∧ (step args (step args (reach mode args ops) .acloseWhileRunning).1 .next).1.pc
            = .runningInPull idx (k + 1)) := by
  have hr := reach_reach mode args ops
  generalize reach mode args ops = st at hr hpc
  have hf := closeOwned_frame args st.owned st
  have hstep : step args st .acloseWhileRunning = ((closeOwned args st.owned st).1, .busy) :=
    aclose_running args _ (by rw [hpc]; rfl)
  rw [hstep]
  refine ⟨rfl, rfl, hstep, hf.pc.trans hpc, hf.cur, hf.scope, (hf.scope idx).trans ?_, hf.owned,
    closeOwned_log args _ (st, none) (by rw [hr.owned]; exact ownedOf_lt mode args), fun a ha hk => ?_⟩
  · exact (hr.inv.2 idx).mpr (by rw [hpc]; rfl)
  · rw [show step args _ .next = next args _ from rfl, next_running args _ idx k a (hf.pc.trans hpc) ha,
      continuePull_eq, if_pos hk]
    exact ⟨rfl, rfl⟩

/-- C18: a cancellation thrown into the task while it is suspended inside the pull of argument
    `idx`, in every reachable state: (1) that argument exists and its scope is the open one;
    (2) the only event is the close of that scope (`ScopedIter.__aexit__`: `close idx` if the
    iterator has a user-visible `aclose`), afterwards the scope is left and NO scope is open — the
    inner iterator is released —, the generator is finished (a later `next` answers
    StopAsyncIteration without touching anything); (3) the cancellation comes back out unless that
    `aclose` raises, in which case its exception replaces it; never a suspension; (4) the owned
    list is unchanged and no other argument was closed: the owned iterators are left to
    `chain.aclose()`; (5) and a following `chain.aclose()` does close every owned iterator, in
    order, and nothing else. -/
theorem C18_chain_cancel_releases (mode : Mode) (args : List Arg) (ops : List Op)
    (idx k : Nat) (hpc : (reach mode args ops).pc = .runningInPull idx k) :
    ∃ a, args[idx]? = some a
      ∧ scopeAt (reach mode args ops) idx = some .open
      ∧ (step args (reach mode args ops) .cancel).1.log
          = (reach mode args ops).log ++ scopeCloseEv a idx
      ∧ scopeAt (step args (reach mode args ops) .cancel).1 idx = some .left
      ∧ NoOpen (step args (reach mode args ops) .cancel).1
      ∧ (step args (reach mode args ops) .cancel).1.pc = .done
      ∧ step args (step args (reach mode args ops) .cancel).1 .next
          = ((step args (reach mode args ops) .cancel).1, .end_)
      ∧ (step args (reach mode args ops) .cancel).2 = outOf .cancelled a.scopeBeh.exc
      ∧ (step args (reach mode args ops) .cancel).2.isSusp = false
      ∧ (step args (reach mode args ops) .cancel).1.owned = (reach mode args ops).owned
      ∧ (∀ j, j ≠ idx → closedByAt (step args (reach mode args ops) .cancel).1 j
          = closedByAt (reach mode args ops) j)
      ∧ closedByAt (step args (reach mode args ops) .cancel).1 idx
          = (if a.scopeBeh ≠ .noAclose then (closedByAt (reach mode args ops) idx).map (· ++ [.scope])
             else closedByAt (reach mode args ops) idx)
      ∧ (step args (step args (reach mode args ops) .cancel).1 .aclose).1.log
          = (step args (reach mode args ops) .cancel).1.log
              ++ (reach mode args ops).owned.map Ev.close := by
  have hr := reach_reach mode args ops
  generalize reach mode args ops = st at hr hpc
  have hcur : st.pc.current = some idx := by rw [hpc]; rfl
  have hlt : idx < args.length := inv_current_lt _ _ hr.inv idx hcur
  have hopen : scopeAt st idx = some .open := (hr.inv.2 idx).mpr hcur
  have hr' := hr.step .cancel
  have hown := step_owned args st .cancel
  rw [show step args st .cancel = _ from
    cancel_running args st idx k args[idx] hpc (List.getElem?_eq_getElem hlt)] at hr' hown ⊢
  refine ⟨_, List.getElem?_eq_getElem hlt, hopen, leaveScope_log _ idx _, ?_,
    leaveScope_noOpen _ idx _ (inv_onlyOpen _ _ hr.inv idx hcur), rfl, rfl, rfl, ?_, hown, fun j hj => ?_, ?_, ?_⟩
  · exact (leaveScope_scopeAt _ idx st idx).trans (by rw [if_pos rfl, hopen]; rfl)
  · cases args[idx].scopeBeh.exc <;> rfl
  · exact (leaveScope_closedByAt _ idx st j).trans (if_neg fun h => hj h.1.symm)
  · refine (leaveScope_closedByAt _ idx st idx).trans ?_
    by_cases hb : args[idx].scopeBeh = .noAclose <;> simp [hb]
  · rw [← hown]
    exact aclose_done_log args _ rfl (by rw [hr'.owned]; exact ownedOf_lt mode args)

section Examples

/-- an owned iterator whose pulls suspend twice and whose `aclose` raises 7 -/
private def exA1 : Arg :=
  { kind := .asyncIteratorWithClose, items := [2, 3], susp := 2, close := .raises 7 }

/-- a re-iterable async iterable (its iterator is made by the chain) whose pulls suspend once -/
private def exR : Arg := { kind := .reiterableAsync, items := [4], susp := 1, close := .ok }

/-- an owned iterator with one item; `exA1`; `exR`; a synchronous iterable; an async iterator
    without `aclose` -/
private def exArgs : List Arg :=
  [ { kind := .asyncIteratorWithClose, items := [1], susp := 0, close := .ok }, exA1, exR,
    { kind := .syncIterable, items := [5], susp := 0, close := .ok },
    { kind := .asyncIteratorNoClose, items := [], susp := 0, close := .ok } ]

/-- the same kinds with entirely different streams -/
private def exArgs' : List Arg :=
  exArgs.map (fun a => { a with items := a.items ++ [10, 11, 12, 13, 14, 15], susp := 3 })

/-- a synchronous iterable, `exR`, an async iterator whose `aclose` raises 3 -/
private def exArgs2 : List Arg :=
  [ { kind := .syncIterable, items := [5], susp := 0, close := .ok }, exR,
    { kind := .asyncIteratorWithClose, items := [9], susp := 0, close := .raises 3 } ]

/-- owned = the two async iterators with `aclose`, whatever happens and however long the streams -/
example : (reach .positional exArgs [.next, .next, .acloseWhileRunning, .next, .cancel, .aclose]).owned = [0, 1] :=
  (C20_chain_owned_fixed .positional exArgs _).1.trans (by decide)

example : (reach .positional exArgs' [.next, .next, .next, .next, .next]).owned
    = (reach .positional exArgs [.aclose]).owned :=
  (C20_chain_owned_fixed .positional exArgs [.aclose]).2.2.2.2.2 exArgs' _ (by decide)

example : (reach .fromIterable exArgs [.next, .next, .next]).owned = [] :=
  (C20_chain_owned_fixed .fromIterable exArgs _).2.2.2.1

/-- after `1`, and two sends into the pull of argument 1: suspended there, exactly that scope open -/
example : (reach .positional exArgs [.next, .next, .next]).pc = .runningInPull 1 2 := by decide

example : scopeAt (reach .positional exArgs [.next, .next, .next]) 1 = some .open :=
  ((C20_chain_holds_one_inner .positional exArgs [.next, .next, .next]).1 1).mpr (by decide)

/-- the chain is suspended at `yield 4` inside the iterator it made for the re-iterable argument 1;
    the wrapper it made for the synchronous argument 0 was closed before -/
private def exOpsYield : List Op := [.next, .next, .next]

example : (reach .fromIterable exArgs2 exOpsYield).pc = .suspendedAtYield 1
    ∧ (reach .fromIterable exArgs2 exOpsYield).log
        = [.pull 0, .item 5, .pull 0, .end_ 0, .pull 1, .item 4]
    ∧ closedByAt (reach .fromIterable exArgs2 exOpsYield) 0 = some [.scope] := by decide

/-- exactly one chain-made inner iterator is open there (that of argument 1) -/
example : (exArgs2.zip (reach .fromIterable exArgs2 exOpsYield).status).countP
      (fun p => p.1.createdByChain && p.2.scope == .open) ≤ 1
    ∧ (exArgs2.zip (reach .fromIterable exArgs2 exOpsYield).status).countP
      (fun p => p.1.createdByChain && p.2.scope == .open) = 1 :=
  ⟨(C20_chain_holds_one_inner .fromIterable exArgs2 exOpsYield).2.2.2, by decide⟩

/-- `from_iterable`: nothing is owned, `aclose` closes exactly the inner iterator 1 -/
example : (step exArgs2 (reach .fromIterable exArgs2 exOpsYield) .aclose).1.log
    = (reach .fromIterable exArgs2 exOpsYield).log ++ [.close 1] :=
  (C04_chain_aclose_closes_all_owned .fromIterable exArgs2 exOpsYield .aclose (.inl rfl)
    (by decide)).1.trans (by decide)

/-- positional, suspended at `yield 2` inside owned argument 1 (whose `aclose` raises 7): both
    owned iterators are closed although the second raises, then the scope of 1 is closed; the most
    recent failure (7, from the scope's close) propagates -/
private def exOpsYield1 : List Op := [.next, .next, .next, .next]

example : (reach .positional exArgs exOpsYield1).pc = .suspendedAtYield 1 := by decide

example : (step exArgs (reach .positional exArgs exOpsYield1) .aclose).1.log
      = (reach .positional exArgs exOpsYield1).log ++ [.close 0, .close 1, .close 1]
    ∧ (step exArgs (reach .positional exArgs exOpsYield1) .aclose).2 = .raised 7
    ∧ closedByAt (step exArgs (reach .positional exArgs exOpsYield1) .aclose).1 1
        = some [.owner, .scope] := by
  have h := C04_chain_aclose_closes_all_owned .positional exArgs exOpsYield1 .aclose (.inl rfl)
    (by decide)
  exact ⟨h.1.trans (by decide), h.2.2.2.2.2.1.trans (by decide), (h.2.2.2.2.1 1).trans (by decide)⟩

/-- positional over `exArgs2`, not started: the owned iterator 2 is closed, its failure 3 propagates -/
example : (step exArgs2 (reach .positional exArgs2 []) .aclose).2 = .raised 3 :=
  (C04_chain_aclose_closes_all_owned .positional exArgs2 [] .aclose (.inl rfl)
    (by decide)).2.2.2.2.2.1.trans (by decide)

/-- a second task closes while the first is inside the pull of argument 1: busy, both owned
    closed, the pull goes on -/
example : (step exArgs (reach .positional exArgs [.next, .next]) .acloseWhileRunning).2 = .busy
    ∧ (step exArgs (reach .positional exArgs [.next, .next]) .acloseWhileRunning).1.log
        = (reach .positional exArgs [.next, .next]).log ++ [.close 0, .close 1]
    ∧ (step exArgs (step exArgs (reach .positional exArgs [.next, .next]) .acloseWhileRunning).1
        .next).2 = .susp 1 := by
  have h := C17_chain_close_while_running_never_suspends .positional exArgs [.next, .next] 1 1
    (by decide)
  exact ⟨h.1, h.2.2.2.2.2.2.2.2.1.trans (by decide),
    (h.2.2.2.2.2.2.2.2.2 exA1 (by decide) (by decide)).1⟩

/-- a cancellation inside the pull of argument 1 (close raises 7): the scope's close replaces the
    cancellation, the owned iterators are closed by the following `aclose` -/
example : (step exArgs (reach .positional exArgs [.next, .next]) .cancel).2 = .raised 7
    ∧ (step exArgs (reach .positional exArgs [.next, .next]) .cancel).1.log
        = (reach .positional exArgs [.next, .next]).log ++ [.close 1]
    ∧ (step exArgs (step exArgs (reach .positional exArgs [.next, .next]) .cancel).1 .aclose).1.log
        = (step exArgs (reach .positional exArgs [.next, .next]) .cancel).1.log ++ [.close 0, .close 1] := by
  obtain ⟨a, ha, -, hlog, -, -, -, -, hout, -, -, -, -, hacl⟩ :=
    C18_chain_cancel_releases .positional exArgs [.next, .next] 1 1 (by decide)
  have h2 : exArgs[1]? = some exA1 := by decide
  rw [h2] at ha
  cases ha
  exact ⟨hout, hlog, hacl.trans (by decide)⟩

/-- a cancellation inside the pull of the chain-made iterator 1: it is closed and comes back out -/
example : (step exArgs2 (reach .fromIterable exArgs2 [.next, .next]) .cancel).2 = .cancelled
    ∧ (step exArgs2 (reach .fromIterable exArgs2 [.next, .next]) .cancel).1.log
        = (reach .fromIterable exArgs2 [.next, .next]).log ++ [.close 1] := by
  obtain ⟨a, ha, -, hlog, -, -, -, -, hout, -⟩ :=
    C18_chain_cancel_releases .fromIterable exArgs2 [.next, .next] 1 1 (by decide)
  have h2 : exArgs2[1]? = some exR := by decide
  rw [h2] at ha
  cases ha
  exact ⟨hout, hlog⟩

end Examples

end AsyncVerif.ChainObj
