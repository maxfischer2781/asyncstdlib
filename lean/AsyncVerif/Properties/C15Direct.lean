import AsyncVerif.Proofs.DecoratorDirect
import AsyncVerif.Properties.C15
/-!
# C15 (direct use) — the decorating manager object is also entered directly

Property theorems only.  Model: `Machines/DecoratorDirect.lean` (on top of `Machines/Decorator.lean`).

* `drun cfg d dops` — the heap machine of `Machines/Decorator.lean` plus ONE extra task running
  `async with cm: <body>` on the decorating manager object `cm` itself (`d : CallCfg` scripts the
  generator the manager was constructed with = generator object 0, the `__aenter__`/`__aexit__` of
  a class-based manager during the direct use, and the body of the block).  `DOp.call op` = an
  operation on a decorated call, `DOp.directSend` / `DOp.directThrow x` = one `send` / `throw` on the
  direct task.  The direct task's events go to a log of their own (`dlog`).
* `run cfg (callOps dops)` — the `Decorator` machine on the interleaving with the direct ops erased.
* `soloRun gb d (directOps dops)` — the direct task alone, with the call ops erased.

All statements are for every configuration, every direct program `d` and every interleaving
`dops : List DOp` (direct ops at arbitrary points between the operations of the decorated calls, any
cancellations on either side), by induction over `dops`.
-/
namespace AsyncVerif.Decorator

/-- **Direct use is invisible to the decorated calls.** For every configuration, every direct
    program and every interleaving: the `Decorator.State` component reached — event log of the
    calls, program counters and generator references of all calls, number of generator objects,
    and every generator object of index ≥ 1 — is exactly the one the `Decorator` machine reaches on
    the call ops alone, and the scheduler sees the same outputs for the call ops.  Erasing the
    direct ops changes nothing for the decorated calls. -/
theorem C15_direct_use_invisible (cfg : Cfg) (d : CallCfg) (dops : List DOp) :
    let s := (drun cfg d dops).1.st
    let t := (run cfg (callOps dops)).1
    s.log = t.log ∧ s.calls = t.calls ∧ s.ngens = t.ngens ∧ (∀ g, 1 ≤ g → s.gens g = t.gens g) ∧
    callOuts dops (drun cfg d dops).2 = (run cfg (callOps dops)).2 := by
  obtain ⟨hm, ho, _⟩ := decompose_run cfg d dops
  obtain ⟨x, hx⟩ := hm.st
  refine ⟨by rw [hx]; rfl, by rw [hx]; rfl, by rw [hx]; rfl, ?_, ho⟩
  intro g hg
  rw [hx]
  exact patch_gens_pos _ _ (by omega)

/-- **The decorated calls are invisible to the direct use.** Symmetrically: program counter and
    event log of the direct task, the scheduler-visible outputs of the direct ops, and (for a
    generator-based manager) the manager's own generator object 0 are exactly those of the direct
    task run alone on the direct ops — erasing the call ops changes nothing for the direct use. -/
theorem C15_direct_task_unaffected (cfg : Cfg) (d : CallCfg) (dops : List DOp) :
    let s := (drun cfg d dops).1
    let a := (soloRun cfg.generatorBased d (directOps dops)).1
    s.dpc = a.loc.pc ∧ s.dlog = a.log ∧
    (cfg.generatorBased = true → s.st.gens 0 = a.loc.cell) ∧
    directOuts dops (drun cfg d dops).2 = (soloRun cfg.generatorBased d (directOps dops)).2 := by
  obtain ⟨hm, _, ho⟩ := decompose_run cfg d dops
  refine ⟨by rw [hm.loc], hm.log.symm, ?_, ho⟩
  intro hgb
  rw [hm.loc]
  simp [directCell, hgb]

/-- **The direct task only ever touches generator 0; no decorated call ever touches generator 0.**
    In every state `s` reached by an interleaving:
    (a) an operation on the direct task changes nothing of the heap machine except (at most)
        generator object 0 — call log, call states, number of generators and every generator of
        index ≠ 0 are untouched, and for a class-based manager no generator at all is touched;
    (b) an operation on a decorated call leaves generator object 0, and the direct task's program
        counter and log, untouched;
    (c) no call holds a reference to generator 0, and no event of a call was logged by generator 0. -/
theorem C15_direct_uses_only_gen0 (cfg : Cfg) (d : CallCfg) (dops : List DOp) :
    let s := (drun cfg d dops).1
    (∀ dop, dop.isDirect = true →
      let s' := (dstep cfg d s dop).1
      s'.st.log = s.st.log ∧ s'.st.calls = s.st.calls ∧ s'.st.ngens = s.st.ngens ∧
      (∀ g, g ≠ 0 → s'.st.gens g = s.st.gens g) ∧
      (cfg.generatorBased = false → s'.st.gens = s.st.gens)) ∧
    (∀ op,
      let s' := (dstep cfg d s (.call op)).1
      s'.st.gens 0 = s.st.gens 0 ∧ s'.dpc = s.dpc ∧ s'.dlog = s.dlog) ∧
    (∀ c, (s.st.calls c).gid ≠ some 0) ∧
    (∀ e ∈ s.st.log, e.gen ≠ some 0) := by
  obtain ⟨hm, _, _⟩ := decompose_run cfg d dops
  obtain ⟨x, hx⟩ := hm.st
  have hrel := rel_reach cfg (callOps dops)
  have hgid : ∀ c, (((drun cfg d dops).1).st.calls c).gid ≠ some 0 := by
    intro c hc
    rw [hx] at hc
    have := (hrel.own c 0 hc).1
    omega
  refine ⟨?_, ?_, hgid, ?_⟩
  · intro dop hdop
    obtain ⟨cop, _, _, hstep⟩ := dstep_direct cfg d (drun cfg d dops).1 dop hdop
    simp only [hstep, directStep]
    refine ⟨trivial, trivial, trivial, ?_, ?_⟩
    · intro g hg
      cases cfg.generatorBased with
      | false => rfl
      | true => simp [setAt, hg]
    · intro hgb
      simp [hgb]
  · intro op
    have hs := step_patch (cfg := cfg) (own_of_rel hrel) op x
    simp only [dstep, hx, hs, patch_gens0, and_self]
  · intro e he hgen
    rw [hx] at he
    have ht := hrel.tagged e he
    rw [hgen] at ht
    have := (hrel.own e.call 0 ht.symm).1
    omega

/-- **Every decorated call is paired, also when the manager is used directly in between**
    (`C15_paired` for runs with direct use): under every interleaving with the direct task, the
    events of each decorated call form a run of the per-call specification automaton — enter before
    body, body only in an established context, exit after the body and handed exactly the body's
    exception, no body/exit after a failed enter, result `combine (body outcome) (exit answer)` —
    ending in the state that corresponds to the call's program counter. -/
theorem C15_direct_paired (cfg : Cfg) (d : CallCfg) (dops : List DOp) (c : Nat) :
    specFrom .init (proj c (drun cfg d dops).1.st.log) =
      some (absSt ((drun cfg d dops).1.st.calls c).pc) := by
  obtain ⟨h1, h2, _⟩ := C15_direct_use_invisible cfg d dops
  rw [h1, h2]
  exact C15_paired cfg (callOps dops) c

/-- **Each call gets its own generator, also when the manager is used directly in between**
    (`C15_fresh_generator` for runs with direct use): a generator reference held by a call points to
    an existing object created after decoration time (index ≥ 1); two different calls never hold the
    same generator; with a generator-based manager every `enter` event of a call was logged by the
    per-call generator of index ≥ 1 that this call holds; and the manager's own generator (index 0)
    is in exactly the state the direct task alone left it in (never started as long as no direct op
    happened: `soloRun true d [] = Solo.init d`), and untouched altogether for a class-based manager. -/
theorem C15_direct_fresh_generator (cfg : Cfg) (d : CallCfg) (dops : List DOp) :
    let s := (drun cfg d dops).1.st
    (∀ c g, (s.calls c).gid = some g → 1 ≤ g ∧ g < s.ngens) ∧
    (∀ c c' g, (s.calls c).gid = some g → (s.calls c').gid = some g → c = c') ∧
    (cfg.generatorBased = true → s.gens 0 = (soloRun true d (directOps dops)).1.loc.cell) ∧
    (cfg.generatorBased = false → s.gens 0 = initCell d) ∧
    (cfg.generatorBased = true → ∀ e ∈ s.log, e.ev = .enter →
      ∃ g, 1 ≤ g ∧ e.gen = some g ∧ (s.calls e.call).gid = some g) := by
  obtain ⟨h1, h2, h3, _, _⟩ := C15_direct_use_invisible cfg d dops
  obtain ⟨f1, f2, _, f4⟩ := C15_fresh_generator cfg (callOps dops)
  obtain ⟨hm, _, _⟩ := decompose_run cfg d dops
  show _ ∧ _ ∧ _ ∧ _ ∧ _
  rw [h1, h2, h3]
  refine ⟨f1, f2, ?_, ?_, ?_⟩
  · intro hgb
    have := (C15_direct_task_unaffected cfg d dops).2.2.1 hgb
    rw [hgb] at this
    rw [← this]
  · exact hm.plain0
  · intro hgb e he hev
    obtain ⟨g, hg1, hg2⟩ := f4 hgb e he hev
    exact ⟨g, (f1 e.call g hg2).1, hg1, hg2⟩

/-- **The direct use is itself a paired context, whatever the decorated calls do meanwhile.** The
    events of the direct task (its separate log) form a run of the same specification automaton,
    ending in the state that corresponds to the direct task's program counter: the manager object is
    entered, the block runs in the established context, the exit is handed the block's exception. -/
theorem C15_direct_task_paired (cfg : Cfg) (d : CallCfg) (dops : List DOp) :
    specFrom .init (drun cfg d dops).1.dlog = some (absSt (drun cfg d dops).1.dpc) := by
  obtain ⟨h1, h2, _⟩ := C15_direct_task_unaffected cfg d dops
  rw [h1, h2]
  exact (soloInv_run (directOps dops) (soloInv_init cfg.generatorBased d)).acc

/-- **Decorated calls still refine the private-manager machine under direct use**
    (`C15_refines_private` for runs with direct use): outputs of the call ops, the calls' event log
    and the calls' program counters equal those of the specification machine in which every call
    privately owns its manager and no direct task exists. -/
theorem C15_direct_refines_private (cfg : Cfg) (d : CallCfg) (dops : List DOp) :
    callOuts dops (drun cfg d dops).2 = (prun cfg (callOps dops)).2 ∧
    (drun cfg d dops).1.st.log.map (fun e => (e.call, e.ev)) = (prun cfg (callOps dops)).1.log ∧
    ∀ c, ((drun cfg d dops).1.st.calls c).pc = ((prun cfg (callOps dops)).1.calls c).pc := by
  obtain ⟨h1, h2, _, _, h5⟩ := C15_direct_use_invisible cfg d dops
  obtain ⟨r1, r2, r3⟩ := C15_refines_private cfg (callOps dops)
  rw [h1, h2, h5]
  exact ⟨r1, r2, r3⟩

/-- **Every call and the direct use complete, under every interleaving.** A decorated call that has
    been operated on at least `sendBound` times is done, however many direct ops were interleaved;
    and the direct task is done once it has been operated on `sendBound` times, however many call
    ops were interleaved. -/
theorem C15_direct_terminates (cfg : Cfg) (d : CallCfg) (dops : List DOp) :
    (∀ c cc, cfg.calls[c]? = some cc → sendBound cfg.generatorBased cc ≤ opsOn c (callOps dops) →
      ∃ r, ((drun cfg d dops).1.st.calls c).pc = .done r) ∧
    (sendBound cfg.generatorBased d ≤ (dops.filter DOp.isDirect).length →
      ∃ r, (drun cfg d dops).1.dpc = .done r) := by
  obtain ⟨_, h2, _⟩ := C15_direct_use_invisible cfg d dops
  obtain ⟨u1, _⟩ := C15_direct_task_unaffected cfg d dops
  refine ⟨?_, ?_⟩
  · intro c cc hcc hb
    rw [h2]
    exact C15_terminates cfg (callOps dops) c cc hcc hb
  · intro hb
    rw [u1]
    exact solo_done _ d _ (by rw [directOps_length]; exact hb)

/-! ## Non-vacuity: concrete interleavings -/

private def gSusp : GenProg := ⟨1, .yields, 1, .stops, 1, .swallow⟩
private def pDflt : PlainProg := ⟨0, .ok, 0, .falsy, .falsy⟩
/-- call 0 returns 7; call 1 raises 11, which its generator swallows -/
private def cfg2 : Cfg :=
  { generatorBased := true,
    calls := [⟨gSusp, pDflt, 1, .returns 7⟩, ⟨gSusp, pDflt, 1, .raises 11⟩] }
/-- the direct use: `async with cm: <suspend once>; return 5`, the manager's own generator suspends
    once in each of its halves -/
private def dprog : CallCfg := ⟨gSusp, pDflt, 1, .returns 5⟩
private def s (c : Nat) : DOp := .call ⟨c, .resume⟩
private def D : DOp := .directSend
/-- two calls and the direct task interleaved at every suspension point -/
private def isched : List DOp := [s 1, D, s 0, D, s 0, s 1, D, s 1, D, s 0, s 0, s 1]

/-- the direct task ran to completion in its own log … -/
example : (drun cfg2 dprog isched).1.dlog =
    [.enter, .entered, .bodyBegin, .bodyEnd (.returned 5), .exit none, .exited (.returned false),
     .finish (.value 5)] := by decide
example : (drun cfg2 dprog isched).1.dpc = .done (.value 5) := by decide
/-- … using generator object 0, which is now exhausted, … -/
example : (drun cfg2 dprog isched).1.st.gens 0 = ⟨gSusp, .finished⟩ := by decide
/-- … while the calls got generators 2 and 1 and their usual paired histories and results -/
example : (List.range 2).map (fun c => ((drun cfg2 dprog isched).1.st.calls c).gid) = [some 2, some 1] := by decide
example : proj 1 (drun cfg2 dprog isched).1.st.log =
    [.enter, .entered, .bodyBegin, .bodyEnd (.raised (.user 11)), .exit (some (.user 11)),
     .exited (.returned true), .finish .none] := by decide
example : (drun cfg2 dprog isched).2 =
    [.suspended .enter, .suspended .enter, .suspended .enter, .suspended .body, .suspended .body,
     .suspended .body, .suspended .exit, .suspended .exit, .finished (.value 5), .suspended .exit,
     .finished (.value 7), .finished .none] := by decide
/-- the erasures of this interleaving -/
example : callOps isched = [⟨1, .resume⟩, ⟨0, .resume⟩, ⟨0, .resume⟩, ⟨1, .resume⟩, ⟨1, .resume⟩,
    ⟨0, .resume⟩, ⟨0, .resume⟩, ⟨1, .resume⟩] ∧ directOps isched = [.resume, .resume, .resume, .resume] := by decide
example : (drun cfg2 dprog isched).1.st.log = (run cfg2 (callOps isched)).1.log ∧
    (drun cfg2 dprog isched).1.st.ngens = 3 := by decide
example : callOuts isched (drun cfg2 dprog isched).2 = (run cfg2 (callOps isched)).2 ∧
    directOuts isched (drun cfg2 dprog isched).2 =
      [.suspended .enter, .suspended .body, .suspended .exit, .finished (.value 5)] := by decide
/-- the bounds of `C15_direct_terminates` are met by this interleaving -/
example : sendBound true dprog = 4 ∧ (isched.filter DOp.isDirect).length = 4 ∧
    opsOn 0 (callOps isched) = 4 := by decide
/-- a direct use that is cancelled inside the block: its generator swallows the exception; the
    calls do not notice -/
example : (drun cfg2 dprog [s 0, D, D, s 0, .directThrow (.user 9), D, s 0, s 0]).1.dlog =
    [.enter, .entered, .bodyBegin, .bodyEnd (.raised (.user 9)), .exit (some (.user 9)),
     .exited (.returned true), .finish .none] ∧
    ((drun cfg2 dprog [s 0, D, D, s 0, .directThrow (.user 9), D, s 0, s 0]).1.st.calls 0).pc = .done (.value 7) := by
  decide
/-- a class-based manager (`_recreate_cm` returns `self`): the direct use and the calls run the same
    plain enter/exit program, no generator object is ever touched -/
example : (drun { cfg2 with generatorBased := false } dprog [s 0, D, D, s 0]).1.dlog =
    [.enter, .entered, .bodyBegin, .bodyEnd (.returned 5), .exit none, .exited (.returned false),
     .finish (.value 5)] ∧
    (drun { cfg2 with generatorBased := false } dprog [s 0, D, D, s 0]).1.st.gens 0 = initCell dprog ∧
    ((drun { cfg2 with generatorBased := false } dprog [s 0, D, D, s 0]).1.st.calls 0).pc = .done (.value 7) := by
  decide
example : D.isDirect = true ∧ (DOp.directThrow (.user 1)).isDirect = true ∧ (s 0).isDirect = false := by decide

end AsyncVerif.Decorator
