import AsyncVerif.Impl.Aggregations
import AsyncVerif.Proofs.Core
import AsyncVerif.Proofs.TwinMore
import AsyncVerif.Proofs.Chain
import AsyncVerif.Proofs.IsliceTwin
/-!
# C05 — laziness: sources pulled and callables invoked in the stdlib's order

`Twin a b`: in **every** world — every input, every fault script, every number of consumer steps and
every way the consumer ends (exhaust / close / throw) — `a` and `b` end the same way and leave the
same interleaved log of pulls, end-of-source detections, callable invocations with their arguments
and results, and yields.  `Impl.T` models asyncstdlib, `Std.T` the CPython algorithm.
-/
namespace AsyncVerif

theorem C05_filter (fn : Option Nat) (s fuel : Nat) :
    Twin (Impl.filter fn s fuel) (Std.filterLoop fn false s fuel) := scopedIter_twin s _

theorem C05_filterfalse (fn : Option Nat) (s fuel : Nat) :
    Twin (Impl.filterfalse fn s fuel) (Std.filterLoop fn true s fuel) := scopedIter_twin s _

theorem C05_enumerate (s : Nat) (start : Int) (fuel : Nat) :
    Twin (Impl.enumerate s start fuel) (Std.enumerateLoop s start fuel) := scopedIter_twin s _

theorem C05_takewhile (f s fuel : Nat) :
    Twin (Impl.takewhile f s fuel) (Std.takewhileLoop f s fuel) := scopedIter_twin s _

theorem C05_starmap (f s fuel : Nat) :
    Twin (Impl.starmap f s fuel) (Std.starmapLoop f s fuel) := scopedIter_twin s _

theorem C05_accumulate (fn : Option Nat) (initial : Option Val) (s fuel : Nat) :
    Twin (Impl.accumulate fn initial s fuel) (Std.accumulate fn initial s fuel) := scopedIter_twin s _

theorem C05_batched (n : Nat) (strict : Bool) (s fuel : Nat) :
    Twin (Impl.batched n strict s fuel) (Std.batched n strict s fuel) :=
  Twin.ite _ (Twin.refl _) (scopedIter_twin s _)

theorem C05_pairwise (s fuel : Nat) : Twin (Impl.pairwise s fuel) (Std.pairwise s fuel) :=
  scopedIter_twin s _

theorem C05_zip (srcs : List Nat) (fuel : Nat) : Twin (Impl.zip srcs fuel) (Std.zip srcs fuel) :=
  Twin.ite _ (Twin.refl _) (tryFinally_twin _ _ (closeAll_quiet srcs))

theorem C05_zip_strict (srcs : List Nat) (fuel : Nat) :
    Twin (Impl.zipStrict srcs fuel) (Std.zipStrict srcs fuel) :=
  Twin.ite _ (Twin.refl _) (tryFinally_twin _ _ (closeAll_quiet srcs))

theorem C05_map (f : Nat) (srcs : List Nat) (fuel : Nat) :
    Twin (Impl.map f srcs fuel) (Std.map f srcs fuel) :=
  Twin.ite _ (Twin.refl _) (tryFinally_twin _ _ (closeAll_quiet srcs))

theorem C05_zip_longest (fillv : Val) (srcs : List Nat) (fuel : Nat) :
    Twin (Impl.zipLongest fillv srcs fuel) (Std.zipLongest fillv srcs fuel) :=
  Twin.ite _ (Twin.refl _) (tryFinally_twin _ _ (closeAll_quiet srcs))

theorem C05_iter_sentinel (f : Nat) (sentinel : Val) (fuel : Nat) :
    Twin (Impl.iterSentinel f sentinel fuel) (Std.iterSentinel f sentinel fuel) := Twin.refl _

/-- `cycle`: the first pass is scoped, the replay phase touches only the consumer -/
theorem C05_cycle (s fuel : Nat) : Twin (Impl.cycle s fuel) (Std.cycle s fuel) := by
  unfold Impl.cycle Std.cycle
  exact twin_bind_visOnly (fun w => tryFinally_quiet _ _ (closeSrc_quiet s) w) (fun buf => visOnly_replay buf fuel [])

/-- `merge`: asyncstdlib's merge is heapq's algorithm inside `try … finally` closing every iterator -/
theorem C05_merge (fn : Option Nat) (reverse : Bool) (srcs : List Nat) (fuel : Nat) :
    Twin (Impl.merge fn reverse srcs fuel) (Std.merge fn reverse srcs fuel) :=
  tryFinally_twin _ _ (closeAll_quiet srcs)

/-- `chain`: every input in its own scope, then on to the next one; the handle's `aclose()` closes owned
    iterators.  Proved through a relation between the two runs' worlds (`VR`), since after the first
    input they differ (closed vs. merely exhausted). -/
theorem C05_chain (srcs : List Nat) (fuel : Nat) : Twin (Impl.chain srcs fuel) (Std.chain srcs fuel) :=
  chain_twin srcs fuel

/-- `dropwhile`: asyncstdlib's two loops over one iterator = `dropwhile_next`'s single loop with a flag -/
theorem C05_dropwhile (f s fuel : Nat) : Twin (Impl.dropwhile f s fuel) (Std.dropwhileLoop f s false fuel) := by
  rw [← dropwhile_body_eq f s fuel]
  exact scopedIter_twin s _

/-- `compress`: two scopes around a `zip` of both iterators = `compress_next` -/
theorem C05_compress (d sel fuel : Nat) : Twin (Impl.compress d sel fuel) (Std.compressLoop d sel fuel) := by
  refine (scopedIter_twin d _).trans ((scopedIter_twin sel _).trans ((tryFinally_twin _ _ (closeAll_quiet _)).trans ?_))
  rw [zipLoop_eq_compressLoop d sel ?_ fuel]
  · exact Twin.refl _
  · exact fun _ _ => rfl

theorem C05_all (s fuel : Nat) : Twin (Impl.all s fuel) (Std.allLoop s fuel) := scopedIter_twin s _
theorem C05_any (s fuel : Nat) : Twin (Impl.any s fuel) (Std.anyLoop s fuel) := scopedIter_twin s _

/-! ## islice

asyncstdlib's `islice` (skip `start` items, then an indexed loop with a limit) and CPython's `islice_next`
(`cnt`/`next` state machine) are different loop structures, and their models burn fuel at different rates
(asyncstdlib: one unit per pulled item; CPython: one unit per yielded item).  A literal `Twin` at equal
fuel is therefore false at the fuel boundary (see the last example below); the twin is stated *up to
fuel*, together with the proof that the fuel hypothesis is satisfiable in every world. -/

/-- twin up to fuel: whenever neither run hits the model's fuel bound, same outcome and same visible log -/
theorem C05_islice (s start : Nat) (stop : Option Nat) (step : Nat) (hstep : 1 ≤ step) (f1 f2 : Nat) (w : World)
    (h1 : (Impl.islice s start stop step f1 w).1 ≠ .error .outOfFuel)
    (h2 : (Std.islice s start stop step f2 w).1 ≠ .error .outOfFuel) :
    (Impl.islice s start stop step f1 w).1 = (Std.islice s start stop step f2 w).1 ∧
    (Impl.islice s start stop step f1 w).2.vis = (Std.islice s start stop step f2 w).2.vis :=
  IsliceTwin.islice_twin s start stop step hstep f1 f2 w h1 h2

/-- fuel adequacy, asyncstdlib side: in every world (any source kind/status, any fault script, any consumer)
    `script length of s + 1` units of fuel are enough -/
theorem islice_impl_fuel_adequate (s start : Nat) (stop : Option Nat) (step : Nat) (w : World) (f : Nat)
    (hf : (w.srcs s).script.length + 1 ≤ f) :
    (Impl.islice s start stop step f w).1 ≠ .error .outOfFuel :=
  islice_fuel_adequate s start stop step w f hf

/-- fuel adequacy, CPython side -/
theorem islice_std_fuel_adequate (s start : Nat) (stop : Option Nat) (step : Nat) (w : World) (f : Nat)
    (hf : (w.srcs s).script.length + 1 ≤ f) :
    (Std.islice s start stop step f w).1 ≠ .error .outOfFuel :=
  IsliceTwin.islice_std_adequate s start stop step f w hf

/-- the two combined: with enough fuel on both sides (not necessarily the same amount), in **every**
    world the two `islice`s end the same way and leave the same visible log -/
theorem C05_islice_fueled (s start : Nat) (stop : Option Nat) (step : Nat) (hstep : 1 ≤ step) (f1 f2 : Nat)
    (w : World) (hf1 : (w.srcs s).script.length + 1 ≤ f1) (hf2 : (w.srcs s).script.length + 1 ≤ f2) :
    (Impl.islice s start stop step f1 w).1 = (Std.islice s start stop step f2 w).1 ∧
    (Impl.islice s start stop step f1 w).2.vis = (Std.islice s start stop step f2 w).2.vis :=
  C05_islice s start stop step hstep f1 f2 w
    (islice_impl_fuel_adequate s start stop step w f1 hf1)
    (islice_std_fuel_adequate s start stop step w f2 hf2)

/-! ### The hypotheses are satisfiable on concrete, non-trivial worlds -/

section Examples

private def it (n : Nat) : Resp := .item (.obj n n)

/-- source 0: a class-based iterator delivering seven items; source 1: a generator that fails at its
    fourth `__anext__`; the consumer takes two items more and then closes the tool -/
private def exW : World where
  srcs := fun s =>
    if s = 0 then { kind := .aobj, script := [it 0, it 1, it 2, it 3, it 4, it 5, it 6] }
    else { kind := .agen, script := [it 0, it 1, it 2, .err 9, it 4] }
  fns := fun _ _ _ => .ok .none
  calls := fun _ => 0
  cons := .run 2 .close
  vis := []
  rel := []

-- consumer closes at the third yield (indices 1, 3, 5 of source 0): both end with GeneratorExit
private theorem exImpl : (Impl.islice 0 1 (some 7) 2 6 exW).1 = .error .genExit := by rfl
private theorem exStd : (Std.islice 0 1 (some 7) 2 3 exW).1 = .error .genExit := by rfl
example : (Impl.islice 0 1 (some 7) 2 6 exW).2.vis = (Std.islice 0 1 (some 7) 2 3 exW).2.vis :=
  (C05_islice 0 1 (some 7) 2 (by decide) 6 3 exW (by rw [exImpl]; simp) (by rw [exStd]; simp)).2
-- the source fails while items are being skipped: both propagate the fault after the same log
example : (Impl.islice 1 0 none 3 6 exW).1 = .error (.user 9) := by rfl
example : (Impl.islice 1 0 none 3 6 exW).2.vis = (Std.islice 1 0 none 3 6 exW).2.vis :=
  (C05_islice_fueled 1 0 none 3 (by decide) 6 6 exW (by decide) (by decide)).2
-- an exhausting consumer, `stop` cutting the slice: source 0 is pulled exactly `stop = 5` times
example : (Impl.islice 0 2 (some 5) 2 8 { exW with cons := .run 0 .exhaust }).2.vis
    = [.pull 0, .item 0 (.obj 0 0), .pull 0, .item 0 (.obj 1 1), .pull 0, .item 0 (.obj 2 2), .yld (.obj 2 2),
       .pull 0, .item 0 (.obj 3 3), .pull 0, .item 0 (.obj 4 4), .yld (.obj 4 4)] := by rfl
-- why "up to fuel": at equal fuel 5 CPython's model (one unit per yield) is done, asyncstdlib's model
-- (one unit per pull) is not — a literal `Twin` at equal fuel does not hold at the boundary
example : (Std.islice 0 0 none 2 5 { exW with cons := .run 0 .exhaust }).1 = .ok () := by rfl
example : (Impl.islice 0 0 none 2 5 { exW with cons := .run 0 .exhaust }).1 = .error .outOfFuel := by rfl

end Examples

end AsyncVerif
