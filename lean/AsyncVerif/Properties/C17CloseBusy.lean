import AsyncVerif.Proofs.CloseBusy
/-!
# C17 / C07 / C08 — closing a library iterator WHILE ANOTHER TASK IS INSIDE IT

Machine: `Machines/CloseBusy.lean`.  Task A is suspended inside the user's `S.__anext__()` reached through a library
handle `H` (`k` more user suspensions to come); task B runs `await H.aclose()`; every schedule of the two.
Every suspension that reaches the event loop is logged with its origin (`Origin.user tok` / `Origin.lib`).

## What the real code does (hand-driven, CPython 3.12; 32 130 small-scope cases agree with the model for
`map`/`zip`, `chain`, `groupby`, `borrow`, `scoped_iter`, `tee` child, `Tee.aclose`)

* No kind ever suspends B on a library object: C17 holds.
* `borrow(S).aclose()` while A is inside is NOT a silent no-op: it raises
  `RuntimeError("aclose(): asynchronous generator is already running")` (the wrapper generator is running).  The
  source is untouched either way.  (`scoped_iter`'s handle: `aclose` is `pass`, always returns.)
* `chain.aclose()` and `groupby.aclose()` have no busy check in front of the user's source: with a CLASS-BASED
  source they run the user's `S.aclose()` while A is inside `S.__anext__()` (A then gets whatever the user's source
  does when closed under a reader: StopAsyncIteration in the harness's `AObjSource`).  `chain.aclose()` then
  STILL raises RuntimeError (its own generator is running) — after having closed the source — and A, leaving
  `ScopedIter`, calls `S.aclose()` a second time.  All of these suspensions are the user's.
* `islice` (not a `gen` in the sense of the machine when idle): it nests a second library generator
  (`enumerate(async_iter)`).  Closing an IDLE `islice` drops that inner generator; without asyncgen hooks (no event
  loop) CPython finalises it synchronously, its `ScopedIter.__aexit__` enters `S.aclose()` too: a source whose
  `aclose()` suspends is left half-closed ("async generator ignored GeneratorExit"), and for a native generator
  source `islice(...).aclose()` itself then raises `RuntimeError: aclose(): asynchronous generator is already
  running` although nobody else is using it (`islice(src, 5)`, one `anext`, `aclose()`, `closeSusp ≥ 1`); a source
  whose `aclose()` does not suspend is closed twice.  No library suspension is involved, so C17 is not affected.
-/
namespace AsyncVerif.CloseBusy

/-- **C17, one step, every state** — take ANY state of the two-task machine (reachable or not) and schedule either
    task `t`.  Then exactly one of two things happens: the task's coroutine is finished afterwards and the step
    added no event (it returned / raised, or it had finished before), or the step added exactly one event, made
    by `t`, whose origin is an awaitable of the USER's source (`Origin.user tok`), and `t` is suspended there.
    There is no step that leaves a task suspended on something of the library's own. -/
theorem C17_close_busy_step_suspends_only_in_user_code (s : St) (t : Task) :
    ((step s (.sched t)).events = s.events ∧ (step s (.sched t)).finished t = true) ∨
    (∃ tok, (step s (.sched t)).events = s.events ++ [⟨t, .user tok⟩] ∧
      (step s (.sched t)).finished t = false) := by
  rcases step_sent s t with ⟨h1, h2⟩ | ⟨-, -, -, h⟩
  · rw [h2]; exact Or.inl ⟨rfl, h1⟩
  · exact h

/-- **C17, close while busy: only the user's suspensions reach the loop** — every kind of handle (`gen`, `chain`,
    `groupby`, `borrow`, `scoped_iter`, a `tee` child, the whole `tee`), native or class-based source, every number
    `k` of suspensions A still has in front of it, every number `cs` of suspensions of the user's `aclose`, every
    schedule of A and B: no event of origin `lib` ever occurs; each event is a token the user's source really
    produces — suspension `1 … k` of the `S.__anext__()` A is in (made by A), or suspension `0 … cs-1` of a
    `S.aclose()`. -/
theorem C17_close_busy_only_user_suspensions (kind : Kind) (srcKind : SrcKind) (k cs : Nat) (ops : List Op) :
    ∀ e ∈ (exec kind srcKind k cs ops).events, e.origin ≠ .lib ∧ TokOk k cs e := by
  intro e he
  have hc := run_cfg ops (init kind srcKind k cs)
  have : TokOk (run _ ops).cfg.2.2.1 (run _ ops).cfg.2.2.2 e := (run_wf ops _ (init_wf kind srcKind k cs)).ev e he
  rw [hc] at this
  refine ⟨fun hl => ?_, this⟩
  rw [TokOk, hl] at this
  exact this

/-- **C17, close while busy: B terminates, without busy-waiting** — every kind, source, `k`, `cs`, schedule:
    (1) once B has been scheduled more than `closeBound kind cs` times it is through — `closeBound` counts the user
    suspensions of the `S.aclose()` calls the handle may legitimately await (`cs` for a generator tool / `groupby` /
    `Tee.aclose`, `2·cs` for `chain`, which may close `S` through `close_all` and through `ScopedIter`, `0` for
    `borrow`, `scoped_iter`, a `tee` child) and mentions neither `k` nor the schedule: whatever A does;
    (2) B never uses more than `closeBound kind cs + 1` `send`s;
    (3) B's `send`s are exactly its user suspensions plus the one `send` that finished it: no `send` is spent
    polling or waiting for A;
    (4) as long as B is not through, every time it was scheduled was such a user suspension;
    (5) each of B's suspensions is a token of the user's `S.aclose()`. -/
theorem C17_close_busy_B_terminates (kind : Kind) (srcKind : SrcKind) (k cs : Nat) (ops : List Op) :
    (closeBound kind cs < count .B ops → (exec kind srcKind k cs ops).b = .done) ∧
    (exec kind srcKind k cs ops).bSteps ≤ closeBound kind cs + 1 ∧
    (exec kind srcKind k cs ops).bSteps = ((exec kind srcKind k cs ops).eventsOf .B).length +
      (if (exec kind srcKind k cs ops).b = .done then 1 else 0) ∧
    ((exec kind srcKind k cs ops).b ≠ .done →
      ((exec kind srcKind k cs ops).eventsOf .B).length = count .B ops) ∧
    (∀ e ∈ (exec kind srcKind k cs ops).eventsOf .B, ∃ t, e.origin = .user (.close t) ∧ t < cs) := by
  unfold exec
  have hpot := run_potential ops (init kind srcKind k cs)
  have hcnt : (run (init kind srcKind k cs) ops).bSteps = _ := run_counted ops _ (init_counted kind srcKind k cs) .B
  have hst := (run_steps .B ops (init kind srcKind k cs)).2
  rw [show (init kind srcKind k cs).bSteps + bRemaining (init kind srcKind k cs) = closeBound kind cs + 1
    from Nat.zero_add _] at hpot
  rw [show (init kind srcKind k cs).steps .B + count .B ops = count .B ops from Nat.zero_add _] at hst
  simp only [finished_B] at hcnt
  have hdone : (run (init kind srcKind k cs) ops).b ≠ .done →
      (run (init kind srcKind k cs) ops).bSteps = count .B ops :=
    fun hb => hst (Bool.eq_false_iff.2 (fun h => hb ((finished_B _).1 h)))
  refine ⟨fun h => ?_, Nat.le_trans (Nat.le_add_right _ _) hpot, hcnt, fun hb => ?_, fun e he => ?_⟩
  · -- an unfinished B has been sent `count .B ops` times and needs at least one more `send`
    apply Classical.byContradiction
    intro hb
    have h1 := hdone hb
    have h2 : bRemaining (run (init kind srcKind k cs) ops) ≠ 0 := fun h0 => hb ((bRemaining_zero _).1 h0)
    omega
  · have h1 := hdone hb
    rw [if_neg hb] at hcnt
    omega
  · have hmem := List.mem_filter.1 he
    have hok := (C17_close_busy_only_user_suspensions kind srcKind k cs ops e hmem.1).2
    unfold TokOk at hok
    split at hok
    · rw [of_decide_eq_true hmem.2] at hok; exact absurd hok.1 (by decide)
    · rename_i t ho; exact ⟨t, ho, hok⟩
    · exact absurd hok id

/-- **C07, borrowed iterator closed while busy: the source stays open, the reader gets its item** — `H = borrow(S)`,
    native or class-based `S`, every `k`, `cs`, every schedule: the source is never closed, no `S.aclose()` call ever
    enters the user's code, B is never suspended (it needs at most one `send`: RuntimeError if the wrapper
    generator was running, None otherwise), and A's pull is undisturbed: after `n ≤ k` of its `send`s it has made
    exactly the source's suspensions `1 … n` and is still inside with `k - n` to come; from its `k+1`-st `send` on it
    has its ITEM (never StopAsyncIteration) after exactly the source's `k` suspensions. -/
theorem C07_borrowed_close_busy_leaves_source (srcKind : SrcKind) (k cs : Nat) (ops : List Op) :
    let s := exec .borrowed srcKind k cs ops
    s.dead = false ∧ s.closes = 0 ∧ s.closeCalls = 0 ∧ s.eventsOf .B = [] ∧ s.bSteps ≤ 1 ∧
    (s.bOut = [] ∨ s.bOut = [.busy] ∨ s.bOut = [.ret]) ∧
    (k < count .A ops → s.a = .done .item ∧ s.aOut = aTrace k ++ [.item]) ∧
    (count .A ops ≤ k → s.a = .inSrc (k - count .A ops) ∧ s.aOut = aTrace (count .A ops)) :=
  untouched_summary .borrowed rfl srcKind k cs ops

/-- **C07, the handle of `scoped_iter` closed while busy** — the same for `H` = the iterator handed out by
    `async with scoped_iter(S)`, whose `aclose` is `pass`: source never closed, B never suspended, A gets its item. -/
theorem C07_scoped_close_busy_leaves_source (srcKind : SrcKind) (k cs : Nat) (ops : List Op) :
    let s := exec .scoped srcKind k cs ops
    s.dead = false ∧ s.closes = 0 ∧ s.closeCalls = 0 ∧ s.eventsOf .B = [] ∧ s.bSteps ≤ 1 ∧
    (s.bOut = [] ∨ s.bOut = [.busy] ∨ s.bOut = [.ret]) ∧
    (k < count .A ops → s.a = .done .item ∧ s.aOut = aTrace k ++ [.item]) ∧
    (count .A ops ≤ k → s.a = .inSrc (k - count .A ops) ∧ s.aOut = aTrace (count .A ops)) :=
  untouched_summary .scoped rfl srcKind k cs ops

/-- **C08, a refusing handle closed while busy: RuntimeError for the closer, nothing else happens** — any handle
    with `refusesWhenBusy kind srcKind` (every generator-based handle: `gen`, `borrow`, a `tee` child, the whole
    `tee`; `chain` / `groupby` over a NATIVE generator source).  Schedule: first only A runs (`pre`, at most `k`
    times, so A is still inside), then B calls `H.aclose()`, then anything (`post`).  B is through with
    RuntimeError after that ONE `send`, without any suspension; the source is not closed, no `S.aclose()` entered the
    user's code, the handle's generator is neither closed nor finished; A's pull goes on exactly as if nothing had
    happened and completes with its item after the source's `k` suspensions. -/
theorem C08_close_busy_refused_leaves_running (kind : Kind) (srcKind : SrcKind)
    (hr : refusesWhenBusy kind srcKind = true) (k cs : Nat) (pre post : List Op)
    (hB : count .B pre = 0) (hA : count .A pre ≤ k) :
    let s := exec kind srcKind k cs (pre ++ .sched .B :: post)
    s.b = .done ∧ s.bOut = [.busy] ∧ s.bSteps = 1 ∧ s.eventsOf .B = [] ∧
    s.dead = false ∧ s.closeCalls = 0 ∧ s.handleDone = false ∧
    (k < count .A (pre ++ post) → s.a = .done .item ∧ s.aOut = aTrace k ++ [.item]) ∧
    (count .A (pre ++ post) ≤ k →
      s.a = .inSrc (k - count .A (pre ++ post)) ∧ s.aOut = aTrace (count .A (pre ++ post))) := by
  intro s
  have hf := refused_run kind srcKind k cs pre post hr hB hA
  have hres := quiet_result kind srcKind k cs _ hf.quiet
  rw [show count .A (pre ++ .sched .B :: post) = count .A (pre ++ post) by
    simp only [count_append, count, if_neg (show Task.B ≠ Task.A by decide), Nat.zero_add]] at hres
  exact ⟨hf.b, hf.bOut, hf.bSteps, hf.quiet.bEvents, hf.quiet.dead, hf.quiet.closeCalls, hf.handleDone,
    hres.1, hres.2⟩

/-- **C08, an async-generator tool closed while busy: it keeps running** — `H` = `zip` / `map` / `filter` / … over
    `S` (native or class-based), A inside, B calls `H.aclose()`: `aclose()` on the running generator raises
    RuntimeError at once (one `send`, no suspension), generator and source stay open, and A's pull completes normally
    — A gets its item after exactly the source's `k` suspensions — after B's RuntimeError, whatever the schedule. -/
theorem C08_gen_close_busy_leaves_running (srcKind : SrcKind) (k cs : Nat) (pre post : List Op)
    (hB : count .B pre = 0) (hA : count .A pre ≤ k) :
    let s := exec .gen srcKind k cs (pre ++ .sched .B :: post)
    s.b = .done ∧ s.bOut = [.busy] ∧ s.bSteps = 1 ∧ s.eventsOf .B = [] ∧
    s.dead = false ∧ s.closeCalls = 0 ∧ s.handleDone = false ∧
    (k < count .A (pre ++ post) → s.a = .done .item ∧ s.aOut = aTrace k ++ [.item]) ∧
    (count .A (pre ++ post) ≤ k →
      s.a = .inSrc (k - count .A (pre ++ post)) ∧ s.aOut = aTrace (count .A (pre ++ post))) :=
  C08_close_busy_refused_leaves_running .gen srcKind rfl k cs pre post hB hA

section Examples
open Op AsyncVerif.CloseBusy.Task

/-- `chain` over a class-based source, A has 2 suspensions to go, the user's `aclose` suspends twice; B closes
    while A is inside: B is suspended twice in the USER's `aclose`, then RuntimeError; A, whose source was closed
    under it, leaves `ScopedIter` through the user's `aclose` again.  Six events, all of origin `user`. -/
example : (exec .chainObj .cls 2 2 [sched B, sched A, sched B, sched B, sched A, sched A, sched A, sched A]).events =
    [⟨B, .user (.close 0)⟩, ⟨A, .user (.src 1)⟩, ⟨B, .user (.close 1)⟩, ⟨A, .user (.src 2)⟩,
     ⟨A, .user (.close 0)⟩, ⟨A, .user (.close 1)⟩] := by decide

example : (exec .chainObj .cls 2 2 [sched B, sched A, sched B, sched B, sched A, sched A, sched A, sched A]).bOut =
    [.susp (.user (.close 0)), .susp (.user (.close 1)), .busy] := by decide

/-- C17 step theorem on that run's 3rd step: B ends suspended on one new user token -/
example : (step (exec .chainObj .cls 2 2 [sched B, sched A]) (sched B)).events =
    (exec .chainObj .cls 2 2 [sched B, sched A]).events ++ [⟨B, .user (.close 1)⟩] ∧
    (step (exec .chainObj .cls 2 2 [sched B, sched A]) (sched B)).finished B = false := by decide

/-- `C17_close_busy_B_terminates` is tight for `chain`: A finishes first, B closes the source twice:
    `closeBound = 4` suspensions, the 5th `send` finishes B -/
example : closeBound .chainObj 2 = 4 ∧
    (exec .chainObj .cls 0 2 [sched A, sched B, sched B, sched B, sched B]).b ≠ .done ∧
    (exec .chainObj .cls 0 2 [sched A, sched B, sched B, sched B, sched B, sched B]).b = .done ∧
    (exec .chainObj .cls 0 2 [sched A, sched B, sched B, sched B, sched B, sched B]).bSteps = 5 ∧
    (exec .chainObj .cls 0 2 [sched A, sched B, sched B, sched B, sched B, sched B]).bOut =
      [.susp (.user (.close 0)), .susp (.user (.close 1)), .susp (.user (.close 0)), .susp (.user (.close 1)),
       .ret] := by decide

/-- the deliberately WRONG `aclose()` that waits for the handle to become idle violates both C17 statements:
    it reaches the loop with an event of origin `lib`, and the number of B's `send`s follows A's progress
    (`k = 3`: three polls, then the close) -/
example : (runPolling (init .gen .native 3 1) [sched B, sched A, sched B, sched A, sched B, sched A, sched A,
      sched B, sched B]).events =
    [⟨B, .lib⟩, ⟨A, .user (.src 1)⟩, ⟨B, .lib⟩, ⟨A, .user (.src 2)⟩, ⟨B, .lib⟩, ⟨A, .user (.src 3)⟩,
     ⟨B, .user (.close 0)⟩] ∧
    (runPolling (init .gen .native 3 1) [sched B, sched A, sched B, sched A, sched B, sched A, sched A,
      sched B, sched B]).bSteps = 5 ∧ closeBound .gen 1 + 1 = 2 := by decide

/-- the same schedule on the machine as written: RuntimeError at once, B used one `send` -/
example : (exec .gen .native 3 1 [sched B, sched A, sched B, sched A, sched B, sched A, sched A,
      sched B, sched B]).bOut = [.busy] ∧
    (exec .gen .native 3 1 [sched B, sched A, sched B, sched A, sched B, sched A, sched A,
      sched B, sched B]).bSteps = 1 ∧
    (exec .gen .native 3 1 [sched B, sched A, sched B, sched A, sched B, sched A, sched A,
      sched B, sched B]).aOut = aTrace 3 ++ [.item] := by decide

/-- C07: `borrow(S)`, class-based source with a suspending `aclose`; B closes while A is inside: RuntimeError for B,
    the source is never closed, A gets its item -/
example : (exec .borrowed .cls 2 3 [sched A, sched B, sched A, sched B, sched A]).dead = false ∧
    (exec .borrowed .cls 2 3 [sched A, sched B, sched A, sched B, sched A]).bOut = [.busy] ∧
    (exec .borrowed .cls 2 3 [sched A, sched B, sched A, sched B, sched A]).a = .done .item ∧
    count A [sched A, sched B, sched A, sched B, sched A] = 3 := by decide

/-- C07 is about `borrow`, not about every handle: `groupby` over the same source DOES close it under the reader,
    who then gets StopAsyncIteration -/
example : (exec .groupbyObj .cls 2 1 [sched B, sched B, sched A, sched A, sched A]).dead = true ∧
    (exec .groupbyObj .cls 2 1 [sched B, sched B, sched A, sched A, sched A]).bOut =
      [.susp (.user (.close 0)), .ret] ∧
    (exec .groupbyObj .cls 2 1 [sched B, sched B, sched A, sched A, sched A]).a = .done .stop := by decide

/-- C08: hypotheses of `C08_gen_close_busy_leaves_running` on `pre = [A]`, `k = 2`, `post = [A, B, A, A]` -/
example : count B [sched A] = 0 ∧ count A [sched A] ≤ 2 ∧
    (exec .gen .cls 2 2 ([sched A] ++ sched B :: [sched A, sched B, sched A, sched A])).bOut = [.busy] ∧
    (exec .gen .cls 2 2 ([sched A] ++ sched B :: [sched A, sched B, sched A, sched A])).aOut =
      [.susp (.user (.src 1)), .susp (.user (.src 2)), .item] ∧
    (exec .gen .cls 2 2 ([sched A] ++ sched B :: [sched A, sched B, sched A, sched A])).dead = false := by decide

/-- C08 needs "A is still inside": once A has its item the generator is idle and `aclose()` closes it, through the
    user's `aclose` -/
example : (exec .gen .cls 0 2 [sched A, sched B, sched B, sched B]).bOut =
      [.susp (.user (.close 0)), .susp (.user (.close 1)), .ret] ∧
    (exec .gen .cls 0 2 [sched A, sched B, sched B, sched B]).dead = true ∧
    (exec .gen .cls 0 2 [sched A, sched B, sched B, sched B]).handleDone = true := by decide

/-- `refusesWhenBusy` is exactly "generator in front of the source, or native source" -/
example : refusesWhenBusy .chainObj .native = true ∧ refusesWhenBusy .chainObj .cls = false ∧
    refusesWhenBusy .groupbyObj .cls = false ∧ refusesWhenBusy .scoped .native = false ∧
    refusesWhenBusy .teeAll .cls = true := by decide

end Examples

end AsyncVerif.CloseBusy
