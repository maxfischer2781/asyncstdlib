import AsyncVerif.Proofs.ExitStack
/-!
# C14 — ExitStack unwinds like nested async-with; each exit runs at most once

Property theorems only.  Model: `Machines/ExitStack.lean` (`implExit` = the loop of
`ExitStack.__aexit__`, `nested` = literally nested `async with`, `step` = history machine).
-/
namespace AsyncVerif.ExitStack

/-- Unwinding an ExitStack has the outcome (which exception object propagates, or suppression)
    and the exit log (which exit was handed which in-flight exception, in which order) of the
    equivalent nested `async with` statements — for every stack, every behaviour of every entry
    and every block outcome. -/
theorem C14_nested (stack : List Entry) (body : Outcome) :
    implExit stack body = nested stack body :=
  implExit_nested stack body

/-- Exits are called in reverse registration order, each exactly once per unwind. -/
theorem C14_order (stack : List Entry) (body : Outcome) :
    (implExit stack body).2.map Prod.fst = (stack.map (·.id)).reverse := by
  simp only [implExit, foldl_log, loopInit, List.map_nil, List.nil_append, List.map_reverse]

/-- A callback can never suppress: whatever its function returns, the loop sees falsy, or the
    exception the function raised. -/
theorem C14_callback_cannot_suppress (en : Entry) (h : en.isCallback = true) (infl : Option ExcId) :
    en.run infl ≠ .truthy := by
  unfold Entry.run; simp only [h, if_true]; split <;> simp

/-- Every registered exit runs at most once over the whole history (any mix of registering,
    leaving blocks, `aclose`, `pop_all`, unwinding again), provided registrations are distinct
    objects (distinct ids). -/
theorem C14_once (ops : List Op) (hreg : (regIds ops).Nodup) :
    ((runOps ops).log.map Prod.fst).Nodup :=
  (HInv.runOps ops hreg).logNodup

/-- Only registered exits ever run: in particular a manager whose enter failed is never exited. -/
theorem C14_only_registered (ops : List Op) (hreg : (regIds ops).Nodup) (x : Nat)
    (hx : x ∈ (runOps ops).log.map Prod.fst) : x ∈ regIds ops :=
  (HInv.runOps ops hreg).known x (Or.inl hx)

/-- An exit that has run is on no stack any more (so a second `aclose`, or `aclose` after the
    block, cannot run it again), and no exit is on two stacks (after `pop_all` the original stack
    does not hold it). -/
theorem C14_ran_is_gone (ops : List Op) (hreg : (regIds ops).Nodup) (sid : Nat) (x : Nat)
    (hx : x ∈ ids ((runOps ops).stack sid)) :
    x ∉ (runOps ops).log.map Prod.fst ∧ ∀ sid', sid' ≠ sid → x ∉ ids ((runOps ops).stack sid') := by
  have := HInv.runOps ops hreg
  exact ⟨this.logStack sid x hx, fun sid' hne => this.stackStack sid sid' x (Ne.symm hne) hx⟩

/-- `pop_all` empties the original stack and hands the very same exits to the new one. -/
theorem C14_popAll (h : Hist) (sid : Nat) (hl : sid < h.stacks.length) :
    (step h (.popAll sid)).stack sid = [] ∧
    (step h (.popAll sid)).stack h.stacks.length = h.stack sid := by
  constructor
  · rw [stack_popAll h sid sid hl]; simp
  · rw [stack_popAll h sid _ hl]
    have : ¬ (h.stacks.length = sid) := by omega
    simp [this]

/-- After an unwind the stack is empty: unwinding again runs nothing. -/
theorem C14_unwind_again (h : Hist) (sid : Nat) (b1 b2 : Outcome) :
    (unwind (unwind h sid b1) sid b2).log = (unwind h sid b1).log := by
  have : (unwind h sid b1).stack sid = [] := by rw [stack_unwind]; simp
  have h2 : (unwind (unwind h sid b1) sid b2).log
      = (unwind h sid b1).log ++ (implExit ((unwind h sid b1).stack sid) b2).2 := rfl
  rw [h2, this]; simp [implExit, loopInit]

/-! Non-vacuity: a concrete three-entry stack with a suppressing manager, a raising one and a
    callback; and a history that pops, closes twice and leaves. -/
private def eSupp : Entry := ⟨1, false, fun _ => .truthy⟩
private def eRaise : Entry := ⟨2, false, fun o => match o with | some _ => .raise 77 | none => .falsy⟩
private def eCb : Entry := ⟨3, true, fun _ => .truthy⟩

example : implExit [eSupp, eRaise, eCb] (.raises 5) = (.normal, [(3, none), (2, some 5), (1, some 77)]) := by
  decide
example : (regIds [.register 0 eSupp, .register 0 eRaise, .popAll 0, .aclose 0, .register 0 eCb,
    .leave 1 (.raises 5), .aclose 1, .aclose 0]).Nodup := by decide
example : (runOps [.register 0 eSupp, .register 0 eRaise, .popAll 0, .aclose 0, .register 0 eCb,
    .leave 1 (.raises 5), .aclose 1, .aclose 0]).log = [(2, some 5), (1, some 77), (3, none)] := by
  decide

end AsyncVerif.ExitStack
