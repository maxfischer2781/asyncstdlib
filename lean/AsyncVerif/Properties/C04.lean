import AsyncVerif.Impl.Aggregations
import AsyncVerif.Proofs.ReleaseMore
import AsyncVerif.Proofs.Release
import AsyncVerif.Proofs.Chain
import AsyncVerif.Proofs.ChainCancel
/-!
# C04 — owned async iterators are released when a tool finishes, fails or is closed

`Released src` : an async generator source is closed, exhausted or finished by its own failure; a
class-based source with `aclose` had `aclose()` called or delivered `StopAsyncIteration`.
Every theorem is for **every world**: every input, every fault script of sources and callables,
every consumer behaviour (exhaust, close after any number of items, throw after any number of items).
The only proviso is that the model did not run out of fuel: `tryFinally` skips the cleanup on `.outOfFuel`
(fuel is a model artefact bounding loops).  Properties/C04Fuel.lean discharges it: every fuel above the
script length(s) is adequate.
-/
namespace AsyncVerif

theorem C04_filter (fn : Option Nat) (s fuel : Nat) (w : World)
    (h : (Impl.filter fn s fuel w).1 ≠ .error .outOfFuel) :
    Released ((Impl.filter fn s fuel w).2.srcs s) := scopedIter_released s _ w h

theorem C04_filterfalse (fn : Option Nat) (s fuel : Nat) (w : World)
    (h : (Impl.filterfalse fn s fuel w).1 ≠ .error .outOfFuel) :
    Released ((Impl.filterfalse fn s fuel w).2.srcs s) := scopedIter_released s _ w h

theorem C04_enumerate (s : Nat) (start : Int) (fuel : Nat) (w : World)
    (h : (Impl.enumerate s start fuel w).1 ≠ .error .outOfFuel) :
    Released ((Impl.enumerate s start fuel w).2.srcs s) := scopedIter_released s _ w h

theorem C04_takewhile (f s fuel : Nat) (w : World)
    (h : (Impl.takewhile f s fuel w).1 ≠ .error .outOfFuel) :
    Released ((Impl.takewhile f s fuel w).2.srcs s) := scopedIter_released s _ w h

theorem C04_dropwhile (f s fuel : Nat) (w : World)
    (h : (Impl.dropwhile f s fuel w).1 ≠ .error .outOfFuel) :
    Released ((Impl.dropwhile f s fuel w).2.srcs s) := scopedIter_released s _ w h

theorem C04_starmap (f s fuel : Nat) (w : World)
    (h : (Impl.starmap f s fuel w).1 ≠ .error .outOfFuel) :
    Released ((Impl.starmap f s fuel w).2.srcs s) := scopedIter_released s _ w h

theorem C04_accumulate (fn : Option Nat) (initial : Option Val) (s fuel : Nat) (w : World)
    (h : (Impl.accumulate fn initial s fuel w).1 ≠ .error .outOfFuel) :
    Released ((Impl.accumulate fn initial s fuel w).2.srcs s) := scopedIter_released s _ w h

/-- valid parameters (`n ≥ 1`): the `ValueError` for `n < 1` is raised before the iterable is touched -/
theorem C04_batched (n : Nat) (hn : 1 ≤ n) (strict : Bool) (s fuel : Nat) (w : World)
    (h : (Impl.batched n strict s fuel w).1 ≠ .error .outOfFuel) :
    Released ((Impl.batched n strict s fuel w).2.srcs s) := by
  have hn' : ¬ n < 1 := by omega
  unfold Impl.batched at h ⊢
  simp only [hn', if_false] at h ⊢
  exact scopedIter_released s _ w h

theorem C04_islice (s start : Nat) (stop : Option Nat) (step fuel : Nat) (w : World)
    (h : (Impl.islice s start stop step fuel w).1 ≠ .error .outOfFuel) :
    Released ((Impl.islice s start stop step fuel w).2.srcs s) := scopedIter_released s _ w h

theorem C04_pairwise (s fuel : Nat) (w : World)
    (h : (Impl.pairwise s fuel w).1 ≠ .error .outOfFuel) :
    Released ((Impl.pairwise s fuel w).2.srcs s) := scopedIter_released s _ w h

theorem C04_all (s fuel : Nat) (w : World) (h : (Impl.all s fuel w).1 ≠ .error .outOfFuel) :
    Released ((Impl.all s fuel w).2.srcs s) := scopedIter_released s _ w h

theorem C04_any (s fuel : Nat) (w : World) (h : (Impl.any s fuel w).1 ≠ .error .outOfFuel) :
    Released ((Impl.any s fuel w).2.srcs s) := scopedIter_released s _ w h

/-- the multi-source tools: nothing to release for no sources, else `finally` closes every source -/
theorem ifEmpty_closeAll_released {α : Type} (srcs : List Nat) {a : α} (body : M α) (w : World)
    (h : ((if srcs.isEmpty then pure a else tryFinally body (closeAll srcs)) w).1 ≠ .error .outOfFuel) :
    ∀ s ∈ srcs, Released (((if srcs.isEmpty then pure a else tryFinally body (closeAll srcs)) w).2.srcs s) := by
  cases srcs with
  | nil => exact nofun
  | cons x rest => exact tryFinally_closeAll_released _ body w h

theorem C04_zip (srcs : List Nat) (fuel : Nat) (w : World)
    (h : (Impl.zip srcs fuel w).1 ≠ .error .outOfFuel) :
    ∀ s ∈ srcs, Released ((Impl.zip srcs fuel w).2.srcs s) :=
  ifEmpty_closeAll_released srcs _ w h

theorem C04_zip_strict (srcs : List Nat) (fuel : Nat) (w : World)
    (h : (Impl.zipStrict srcs fuel w).1 ≠ .error .outOfFuel) :
    ∀ s ∈ srcs, Released ((Impl.zipStrict srcs fuel w).2.srcs s) :=
  ifEmpty_closeAll_released srcs _ w h

theorem C04_map (f : Nat) (srcs : List Nat) (fuel : Nat) (w : World)
    (h : (Impl.map f srcs fuel w).1 ≠ .error .outOfFuel) :
    ∀ s ∈ srcs, Released ((Impl.map f srcs fuel w).2.srcs s) :=
  ifEmpty_closeAll_released srcs _ w h

theorem C04_zip_longest (fillv : Val) (srcs : List Nat) (fuel : Nat) (w : World)
    (h : (Impl.zipLongest fillv srcs fuel w).1 ≠ .error .outOfFuel) :
    ∀ s ∈ srcs, Released ((Impl.zipLongest fillv srcs fuel w).2.srcs s) :=
  ifEmpty_closeAll_released srcs _ w h

/-- both iterators of `compress` (two nested scopes) -/
theorem C04_compress (d sel fuel : Nat) (w : World)
    (h : (Impl.compress d sel fuel w).1 ≠ .error .outOfFuel) :
    Released ((Impl.compress d sel fuel w).2.srcs d) ∧ Released ((Impl.compress d sel fuel w).2.srcs sel) := by
  refine ⟨scopedIter_released d _ w h, ?_⟩
  unfold Impl.compress at h ⊢
  obtain ⟨hw, hb⟩ := tryFinally_final _ (closeSrc d) (closeSrc_quiet d) w h
  unfold scopedIter at hw hb ⊢
  rw [hw]
  apply closeSrc_preserves
  exact scopedIter_released sel _ w hb

/-- `chain` run to exhaustion: every input has been released (each in its own scope, never un-released later) -/
theorem C04_chain_exhausted (srcs : List Nat) (fuel : Nat) (w : World)
    (h : (Impl.chain srcs fuel w).1 = .ok ()) :
    ∀ s ∈ srcs, Released ((Impl.chain srcs fuel w).2.srcs s) := by
  have hg : (Impl.chain srcs fuel w).1 ≠ .error .genExit := by rw [h]; nofun
  rw [chain_eq_chainIter srcs fuel w hg] at h ⊢
  exact chainIter_released fuel srcs w h

/-- `chain` closed by its consumer (`chain.aclose()`, started or not at that input): every input is released,
    also those never reached -/
theorem C04_chain_closed (srcs : List Nat) (fuel : Nat) (w : World)
    (h : (Impl.chain srcs fuel w).1 = .error .genExit) :
    ∀ s ∈ srcs, Released ((Impl.chain srcs fuel w).2.srcs s) := by
  rcases chain_apply srcs fuel w with ⟨hne, e⟩ | ⟨_, e⟩
  · exact absurd (e ▸ h) hne
  · rw [e]; exact closeOwned_releases srcs _

/-- The owner's `chain.aclose()` (in the model: `Impl.closeOwned srcs`, i.e. `for it in self._owned_iterators:
    await it.aclose()`; closing the already finished `_chain_iterator` generator is a no-op) run after **any** run
    of the handle — exhausted, closed, raised, even cut off by the model's fuel: every argument is released. -/
theorem C04_chain_owner_close (srcs : List Nat) (fuel : Nat) (w : World) :
    ∀ s ∈ srcs, Released ((Impl.closeOwned srcs (Impl.chain srcs fuel w).2).2.srcs s) :=
  closeOwned_releases srcs _

/-- What is open when `chain` has stopped (for whatever reason other than the model's fuel): an argument that is
    not released at that point was never touched — it is exactly as it was handed in.  So the only arguments
    `chain` leaves open are the ones it had not started (known finding D19). -/
theorem C04_chain_unreleased_untouched (srcs : List Nat) (fuel : Nat) (w : World)
    (h : (Impl.chain srcs fuel w).1 ≠ .error .outOfFuel) :
    ∀ s ∈ srcs, Released ((Impl.chain srcs fuel w).2.srcs s) ∨ (Impl.chain srcs fuel w).2.srcs s = w.srcs s := by
  by_cases hg : (Impl.chain srcs fuel w).1 = .error .genExit
  · exact fun s hs => Or.inl (C04_chain_closed srcs fuel w hg s hs)
  · rw [chain_eq_chainIter srcs fuel w hg] at h ⊢
    exact chainIter_unreleased_untouched fuel srcs w h

/-- Known finding D19, formally.  `chain`'s iterator **raises** `x` while it is advanced (a fault of an argument,
    an exception thrown in by the consumer, a cancellation — anything but the model's fuel).  At that point the
    arguments reached so far are released (each in its own scope) but the arguments not yet started are still as
    they were handed in, possibly open (first conjunct: released *or untouched*).  They are released by the owner's
    `chain.aclose()` (second conjunct), which is what the check verifies. -/
theorem C04_chain_raised (srcs : List Nat) (fuel : Nat) (w : World) (x : Exc)
    (h : (Impl.chain srcs fuel w).1 = .error x) (hx : x ≠ .outOfFuel) :
    (∀ s ∈ srcs, Released ((Impl.chain srcs fuel w).2.srcs s) ∨ (Impl.chain srcs fuel w).2.srcs s = w.srcs s)
    ∧ ∀ s ∈ srcs, Released ((Impl.closeOwned srcs (Impl.chain srcs fuel w).2).2.srcs s) := by
  refine ⟨C04_chain_unreleased_untouched srcs fuel w ?_, C04_chain_owner_close srcs fuel w⟩
  rw [h]; intro hc; injection hc with hc; exact hx hc

theorem C04_merge (fn : Option Nat) (reverse : Bool) (srcs : List Nat) (fuel : Nat) (w : World)
    (h : (Impl.merge fn reverse srcs fuel w).1 ≠ .error .outOfFuel) :
    ∀ s ∈ srcs, Released ((Impl.merge fn reverse srcs fuel w).2.srcs s) :=
  tryFinally_closeAll_released srcs _ w h

theorem C04_sum (start : Option Val) (s fuel : Nat) (w : World) (h : (Impl.sum start s fuel w).1 ≠ .error .outOfFuel) :
    Released ((Impl.sum start s fuel w).2.srcs s) := scopedIter_released s _ w h

theorem C04_min_max (fn : Option Nat) (isMax : Bool) (d : Option Val) (s fuel : Nat) (w : World)
    (h : (Impl.minmax fn isMax d s fuel w).1 ≠ .error .outOfFuel) :
    Released ((Impl.minmax fn isMax d s fuel w).2.srcs s) := scopedIter_released s _ w h

theorem C04_reduce (f : Nat) (ini : Option Val) (s fuel : Nat) (w : World)
    (h : (Impl.reduce f ini s fuel w).1 ≠ .error .outOfFuel) :
    Released ((Impl.reduce f ini s fuel w).2.srcs s) := scopedIter_released s _ w h

theorem C04_list (s fuel : Nat) (w : World) (h : (Impl.list s fuel w).1 ≠ .error .outOfFuel) :
    Released ((Impl.list s fuel w).2.srcs s) := scopedIter_released s _ w h

theorem C04_tuple (s fuel : Nat) (w : World) (h : (Impl.tuple s fuel w).1 ≠ .error .outOfFuel) :
    Released ((Impl.tuple s fuel w).2.srcs s) := scopedIter_released s _ w h

theorem C04_nlargest_nsmallest (largest : Bool) (n : Nat) (fn : Option Nat) (s fuel : Nat) (w : World)
    (h : (Impl.nBest largest n fn s fuel w).1 ≠ .error .outOfFuel) :
    Released ((Impl.nBest largest n fn s fuel w).2.srcs s) := scopedIter_released s _ w h

/-- `cycle`: the source is owned only during the first pass; the replay phase never touches it -/
theorem C04_cycle (s fuel : Nat) (w : World) (h : (Impl.cycle s fuel w).1 ≠ .error .outOfFuel) :
    Released ((Impl.cycle s fuel w).2.srcs s) :=
  scoped_then_frame_released s _ _ (fun buf => srcsFrame_replay buf fuel []) w h

/-- `sorted`: items and keys are collected inside the scope; sorting happens after the source was released -/
theorem C04_sorted (fn : Option Nat) (reverse : Bool) (s fuel : Nat) (w : World)
    (h : (Impl.sorted fn reverse s fuel w).1 ≠ .error .outOfFuel) :
    Released ((Impl.sorted fn reverse s fuel w).2.srcs s) :=
  scoped_then_frame_released s _ _
    (fun _ => srcsFrame_order.bind (srcsFrame_order.liftExc _) fun _ => srcsFrame_order.pure _) w h

theorem C04_set (s fuel : Nat) (w : World) (h : (Impl.set s fuel w).1 ≠ .error .outOfFuel) :
    Released ((Impl.set s fuel w).2.srcs s) := scopedIter_released s _ w h

theorem C04_dict (s fuel : Nat) (w : World) (h : (Impl.dict s fuel w).1 ≠ .error .outOfFuel) :
    Released ((Impl.dict s fuel w).2.srcs s) := scopedIter_released s _ w h

/-! Non-vacuity for the `chain` theorems: source 0 (an async generator) fails at its second use, sources 1
    (async generator) and 2 (class-based with `aclose`) were not started. -/
section Examples

private def wChain : World where
  srcs := fun s =>
    if s = 0 then { kind := .agen, script := [.item (.obj 1 5), .err 7] }
    else if s = 1 then { kind := .agen, script := [.item (.obj 3 1)] }
    else { kind := .aobj, script := [.item (.obj 4 2)] }
  fns := fun _ _ args => .ok (args.headD .none)
  calls := fun _ => 0
  cons := .run 5 .exhaust
  vis := []
  rel := []

example : (Impl.chain [0, 1, 2] 10 wChain).1 = .error (.user 7) := by rfl
example : ((Impl.chain [0, 1, 2] 10 wChain).2.srcs 0).status = .failed := by rfl
example : (Impl.chain [0, 1, 2] 10 wChain).2.srcs 1 = wChain.srcs 1 := by rfl
example : ((Impl.chain [0, 1, 2] 10 wChain).2.srcs 1).status = .fresh := by rfl
example : ∀ s ∈ [0, 1, 2], Released ((Impl.closeOwned [0, 1, 2] (Impl.chain [0, 1, 2] 10 wChain).2).2.srcs s) :=
  (C04_chain_raised [0, 1, 2] 10 wChain (.user 7) rfl (by simp)).2
example : ((Impl.closeOwned [0, 1, 2] (Impl.chain [0, 1, 2] 10 wChain).2).2.srcs 1).status = .closed := by rfl
example : ((Impl.closeOwned [0, 1, 2] (Impl.chain [0, 1, 2] 10 wChain).2).2.srcs 2).closes = 1 := by rfl

end Examples

end AsyncVerif
