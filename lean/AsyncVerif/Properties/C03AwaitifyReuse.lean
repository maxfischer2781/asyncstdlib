import AsyncVerif.Proofs.AwaitifyReuse
/-!
# C03 — async neutrality of `awaitify` across SEPARATE tool calls and across failures

Machine: `Machines/AwaitifyReuse.lean` (function objects with per-call scripts of answers, a history
of `wrap f` = `awaitify(f)` and `call w` = `await w(*args)`).  Reference: `specRun` — every call
gives what awaiting-if-awaitable the function's answer gives, whatever happened before.
An `Event` carries the operation, the function's answer in that call and the outcome, so
"`run` and `specRun` agree at position `i`" means: same function call, same answer, same outcome.
-/
namespace AsyncVerif.AwaitifyReuse

/-- **Wrapper state is per wrapper (one step).** In ANY state: a call through handle `w` leaves every
    other handle exactly as it was (in particular other `Awaitify` objects around the SAME function
    object) and creates none; `awaitify(f)` leaves every existing handle as it was, and what it returns
    is the function itself for a coroutine function and otherwise an UNDECIDED `Awaitify` object —
    whatever earlier wrappers of `f` have seen: nothing is cached on the function object. -/
theorem C03_awaitify_wrapper_state_is_per_wrapper (fs : Nat → Func) (s : St) :
    (∀ w w', w' ≠ w → (step fs s (.call w)).1.wrappers[w']? = s.wrappers[w']?) ∧
    (∀ w, (step fs s (.call w)).1.wrappers.length = s.wrappers.length) ∧
    (∀ f w', w' < s.wrappers.length → (step fs s (.wrap f)).1.wrappers[w']? = s.wrappers[w']?) ∧
    (∀ f, (step fs s (.wrap f)).1.wrappers[s.wrappers.length]? =
      some (if (fs f).coro then Wrapper.function f else Wrapper.awaitify f .undecided)) := by
  refine ⟨fun w w' hne => ?_, fun w => ?_, fun f w' h => List.getElem?_append_left h,
    fun f => List.getElem?_concat_length⟩
  · cases h : s.wrappers[w]? with
    | none => rw [step_call_none fs s w h]
    | some wr => rw [step_call_some fs s w wr h]; exact List.getElem?_set_ne (Ne.symm hne)
  · cases h : s.wrappers[w]? with
    | none => rw [step_call_none fs s w h]
    | some wr => rw [step_call_some fs s w wr h]; exact List.length_set

/-- **Wrapper state is per wrapper (whole histories).** After any history, the `_async_call` of an
    `Awaitify` object is determined by the answers that went through THAT object alone: it is fixed by
    the first of them that did not raise at call time (`decidedBy`).  Calls through other wrappers of
    the same function object, or calls that raised at call time, have no influence. -/
theorem C03_awaitify_wrapper_state_from_own_calls (fs : Nat → Func) (ops : List Op) (w f : Nat) (ws : WState)
    (h : (stateAfter fs init ops).wrappers[w]? = some (.awaitify f ws)) :
    ws = decidedBy (answersVia w (run fs init ops)) :=
  ((inv_final fs ops).aw w f ws h).2

/-- **Stable flavour within one wrapper's lifetime.** For all function scripts and all histories
    (any interleaving of wraps and calls, several wrappers of one function object, coroutine functions,
    unknown handles): if the answers that the function gave in the calls through handle `w` are all
    plain or all awaitable — calls raising at call time allowed anywhere, also first — then at every
    position where the history calls through `w` the model's event is the reference's event: same
    value returned, same exception raised. -/
theorem C03_awaitify_matches_spec_when_flavour_is_stable (fs : Nat → Func) (ops : List Op) (w : Nat)
    (hs : Stable (answersVia w (specRun fs specInit ops)))
    (i : Nat) (e : Event) (h : (run fs init ops)[i]? = some e) (hop : e.op = .call w) :
    (specRun fs specInit ops)[i]? = some e := by
  rw [answersVia_specRun] at hs
  have := specEv_eq_of_stable fs ops i e h (fun w' hw' => by
    rw [hop] at hw'; cases hw'; exact hs)
  rw [← proj_init, specRun_eq, List.getElem?_map, h, Option.map_some, this]

/-- **A first call that raises synchronously does not poison the wrapper** (nothing is stored): the
    wrapper is still undecided and the next call probes again. -/
theorem C03_awaitify_raising_probe_leaves_wrapper_undecided (e : Nat) (as : List Answer) :
    callWrapper .undecided (.raisesSync e) = (.undecided, .raised e) ∧
    decidedBy (.raisesSync e :: as) = decidedBy as :=
  ⟨rfl, rfl⟩

/-- **Fresh wrapper per tool call.** Tool calls run one after the other, each doing `awaitify(f)` once
    and then `ncalls` calls through the wrapper; the function objects may be shared between tool calls.
    If within each tool call the answers have one flavour (`StableTools`, a condition on the scripts
    alone) — the flavour may change from one tool call to the next — the whole run is the reference run. -/
theorem C03_awaitify_fresh_wrapper_per_tool_call (fs : Nat → Func) (tcs : List ToolCall)
    (h : StableTools fs (fun _ => 0) tcs) :
    run fs init (toolOps 0 tcs) = specRun fs specInit (toolOps 0 tcs) := by
  rw [← proj_init, specRun_eq]
  exact (map_specEv_eq_self _ (tools_match fs tcs init h)).symm

/-- **Fresh wrapper per tool call, interleaved.** Any history, tool calls interleaved at will (a tool
    call = the lifetime of one handle): if for every handle the answers that went through it have one
    flavour, the whole run is the reference run. -/
theorem C03_awaitify_fresh_wrapper_per_tool_call_interleaved (fs : Nat → Func) (ops : List Op)
    (hs : ∀ w, Stable (answersVia w (specRun fs specInit ops))) :
    run fs init ops = specRun fs specInit ops := by
  rw [← proj_init, specRun_eq]
  refine (map_specEv_eq_self _ fun e he => ?_).symm
  obtain ⟨i, h⟩ := List.getElem?_of_mem he
  exact specEv_eq_of_stable fs ops i e h (fun w _ => by rw [← answersVia_specRun]; exact hs w)

/-- **Flavour change within one wrapper's lifetime: what the code does.** Let `w` be the handle returned
    by `awaitify(f)` for a non-coroutine function somewhere in the history.  At every call through `w`
    where the function answers `a`, the outcome is `outIn ws a`, where `ws = decidedBy pre` is fixed by
    the first answer among the EARLIER calls through `w` (`pre`) that did not raise at call time:
    nothing earlier → reference outcome (this is the probing call); a plain value earlier → awaitables
    are handed back un-awaited (`force_async` does not await; an exception inside is never raised),
    everything else as the reference; an awaitable earlier → a plain value gives `TypeError` (`await 3`),
    everything else as the reference.  Hence the outcome differs from the reference exactly when the
    flavour of `a` is the opposite of the flavour that decided the wrapper. -/
theorem C03_awaitify_flavour_change_within_wrapper (fs : Nat → Func) (ops : List Op) (f w : Nat)
    (hwrap : (⟨.wrap f, none, .wrapper w⟩ : Event) ∈ run fs init ops) (hc : (fs f).coro = false)
    (i : Nat) (e : Event) (a : Answer) (h : (run fs init ops)[i]? = some e) (hop : e.op = .call w)
    (ha : e.answer = some a) :
    e.out = outIn (decidedBy (answersVia w ((run fs init ops).take i))) a ∧
    (e.out ≠ awaitIfNeeded a ↔
      (decidedBy (answersVia w ((run fs init ops).take i)) = .sync ∧ a.flavour = some true) ∨
      (decidedBy (answersVia w ((run fs init ops).take i)) = .async ∧ a.flavour = some false)) := by
  have := out_characterised fs ops f w hwrap hc i e a h hop ha
  exact ⟨this, by rw [this]; exact outIn_ne_spec_iff _ _⟩

section Examples

/-- function object 0: a forwarding `def` whose backend is swapped: its first call raises at call time,
    then two plain values, then (backend swapped) awaitables, one of them failing; function object 1:
    an `async def`; all others: plain `def`s -/
private def exFs : Nat → Func := fun f =>
  if f = 0 then ⟨false, fun n =>
    [.raisesSync 7, .plain 1, .plain 2, .awaitable 3, .awaitableRaising 8, .awaitable 4].getD n (.plain 0)⟩
  else if f = 1 then ⟨true, fun n => if n = 0 then .plain 5 else .raisesSync 6⟩
  else ⟨false, fun n => .plain n⟩

/-- three tool calls one after the other: function 0 (three calls), function 1 (two), function 0 again (three) -/
private def exTools : List ToolCall := [⟨0, 3⟩, ⟨1, 2⟩, ⟨0, 3⟩]

example : toolOps 0 exTools =
    [.wrap 0, .call 0, .call 0, .call 0, .wrap 1, .call 1, .call 1, .wrap 0, .call 2, .call 2, .call 2] := rfl
example : StableTools exFs (fun _ => 0) exTools := by
  refine ⟨?_, ?_, ?_, trivial⟩ <;> decide

/-- the raising first call does not poison the first wrapper; the second wrapper of function 0 decides
    afresh (async) although the first one had decided sync -/
example : (run exFs init (toolOps 0 exTools)).map (·.out) =
    [.wrapper 0, .raised 7, .ret 1, .ret 2, .wrapper 1, .ret 5, .raised 6, .wrapper 2, .ret 3, .raised 8, .ret 4] := rfl
example : (stateAfter exFs init (toolOps 0 exTools)).wrappers =
    [.awaitify 0 .sync, .function 1, .awaitify 0 .async] := rfl
example : run exFs init (toolOps 0 exTools) = specRun exFs specInit (toolOps 0 exTools) :=
  C03_awaitify_fresh_wrapper_per_tool_call exFs exTools (by refine ⟨?_, ?_, ?_, trivial⟩ <;> decide)

/-- ONE wrapper kept over the change of flavour (handle 0 gets all six answers), interleaved with a second
    wrapper of the same function object that is never called -/
private def exOps : List Op := [.wrap 0, .call 0, .wrap 0, .call 0, .call 0, .call 0, .call 0, .call 0]

/-- what the code does: decided sync by the plain `1`; the awaitables come back un-awaited and the
    exception `8` is never raised -/
example : (run exFs init exOps).map (·.out) =
    [.wrapper 0, .raised 7, .wrapper 1, .ret 1, .ret 2, .unawaited, .unawaited, .unawaited] := rfl
example : (specRun exFs specInit exOps).map (·.out) =
    [.wrapper 0, .raised 7, .wrapper 1, .ret 1, .ret 2, .ret 3, .raised 8, .ret 4] := rfl
/-- the second wrapper of the same function object is still undecided -/
example : (stateAfter exFs init exOps).wrappers = [.awaitify 0 .sync, .awaitify 0 .undecided] := rfl
example : answersVia 0 (run exFs init exOps) =
    [.raisesSync 7, .plain 1, .plain 2, .awaitable 3, .awaitableRaising 8, .awaitable 4] := rfl
example : ¬ Stable (answersVia 0 (specRun exFs specInit exOps)) := by decide

/-- hypotheses of the characterisation at position 5 (the first awaitable through the sync wrapper) -/
example : (⟨.wrap 0, none, .wrapper 0⟩ : Event) ∈ run exFs init exOps := by decide
example : (run exFs init exOps)[5]? = some ⟨.call 0, some (.awaitable 3), .unawaited⟩ := rfl
example : decidedBy (answersVia 0 ((run exFs init exOps).take 5)) = .sync := rfl
example : (Out.unawaited ≠ awaitIfNeeded (.awaitable 3)) :=
  ((C03_awaitify_flavour_change_within_wrapper exFs exOps 0 0 (by decide) rfl 5
    ⟨.call 0, some (.awaitable 3), .unawaited⟩ (.awaitable 3) (by decide) rfl rfl).2).mpr
    (Or.inl ⟨by decide, rfl⟩)

/-- the other direction: decided async, then a plain value: `TypeError` -/
private def exFs2 : Nat → Func := fun _ =>
  ⟨false, fun n => [.awaitableRaising 7, .awaitable 1, .plain 2, .raisesSync 5, .awaitable 3].getD n (.plain 0)⟩

example : (run exFs2 init [.wrap 0, .call 0, .call 0, .call 0, .call 0, .call 0]).map (·.out) =
    [.wrapper 0, .raised 7, .ret 1, .typeError, .raised 5, .ret 3] := rfl
/-- stable flavour with raising calls in between, through a wrapper next to an unstable one:
    handle 1 (function 2, all plain) matches the reference at each of its calls -/
private def exOps3 : List Op := [.wrap 0, .wrap 2, .call 0, .call 1, .call 0, .call 1, .call 0, .call 0, .call 1]

example : Stable (answersVia 1 (specRun exFs specInit exOps3)) := by decide
example : ¬ Stable (answersVia 0 (specRun exFs specInit exOps3)) := by decide
example : (run exFs init exOps3)[5]? = some ⟨.call 1, some (.plain 1), .ret 1⟩ := rfl
example : (specRun exFs specInit exOps3)[5]? = some ⟨.call 1, some (.plain 1), .ret 1⟩ :=
  C03_awaitify_matches_spec_when_flavour_is_stable exFs exOps3 1 (by decide) 5 _ (by decide) rfl

/-- two tool calls truly interleaved (say an outer and an inner `map` over the same forwarding function
    whose backend flips at every call): each wrapper sees one flavour only -/
private def exFs4 : Nat → Func := fun _ => ⟨false, fun n => if n % 2 = 0 then .plain n else .awaitable n⟩
private def exOps4 : List Op := [.wrap 0, .wrap 0, .call 0, .call 1, .call 0, .call 1]

example : ∀ w, Stable (answersVia w (specRun exFs4 specInit exOps4)) := by
  intro w
  match w with
  | 0 => decide
  | 1 => decide
  | w + 2 => exact Or.inl (fun a ha => by simp [answersVia, specRun, specStep, exOps4, specInit] at ha)

example : (run exFs4 init exOps4).map (·.out) = [.wrapper 0, .wrapper 1, .ret 0, .ret 1, .ret 2, .ret 3] := rfl
example : (stateAfter exFs4 init exOps4).wrappers[1]? = some (.awaitify 0 .async) := rfl
example : decidedBy (answersVia 1 (run exFs4 init exOps4)) = .async := rfl
/-- one step in a state with two wrappers of the same function object -/
example : (step exFs ⟨[.awaitify 0 .undecided, .awaitify 0 .undecided], fun _ => 1⟩ (.call 1)).1.wrappers =
    [.awaitify 0 .undecided, .awaitify 0 .sync] := rfl
end Examples

end AsyncVerif.AwaitifyReuse
