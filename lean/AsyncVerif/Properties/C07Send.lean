import AsyncVerif.Proofs.BorrowSend
/-!
# C07 (asend / athrow forwarding) — a borrowed iterator can never close its underlying iterator

Property theorems only.  Model: `Machines/BorrowSend.lean` (`pullU`/`sendU`/`throwU`/`closeU` = the
underlying iterator and the log of every call that reaches it; `Handle.send`/`Handle.throw` = where a
handle's `asend`/`athrow` slots point; `step` = one of `next h | asend h v | athrow h e | close h |
scopeExit h | borrow t | scope t`).  All theorems quantify over every state `s` — every underlying
iterator (async generator or class-based, every subset of asend/athrow/aclose, any items, any set of
exceptions it handles, any status), every handle table — and every finite operation sequence.
-/
namespace AsyncVerif.BorrowSend
open AsyncVerif.Borrow (Val ExcId Kind SendTgt)

/-- No operation on any handle — pulling, `asend` of any value, `athrow` of any exception, closing,
    re-borrowing, opening scopes, leaving inner scopes — ever makes an `aclose()` call reach the
    underlying iterator, except leaving a `scoped_iter` scope that was opened on the underlying
    iterator itself (the outermost scope, which owns it): the number of `closed` entries in the
    underlying iterator's log grows by exactly the number of such owner's scope exits in the run.
    In particular a run without any scope exit, and any single operation that is not an owner's
    scope exit, add none. -/
theorem C07_send_never_closes_underlying (s : State) (ops : List Op) :
    (exec s ops).u.log.count .closed = s.u.log.count .closed + ownerExits s ops
    ∧ ((∀ op ∈ ops, ∀ x, op ≠ .scopeExit x) →
        (exec s ops).u.log.count .closed = s.u.log.count .closed)
    ∧ (∀ op, ownerExit s op = false →
        (step s op).1.u.log.count .closed = s.u.log.count .closed) := by
  refine ⟨exec_closed ops s, ?_, ?_⟩
  · intro h
    rw [exec_closed, ownerExits_zero ops h s]; rfl
  · intro op h
    rw [(step_spec s op).closed, h]; rfl

/-- a handle whose `asend` / `athrow` slots do not point to the underlying iterator: once so, for
    ever so — whatever is done afterwards, `asend` / `athrow` on it change nothing at all (in
    particular log nothing on the underlying iterator) and answer as a closed wrapper generator
    does (StopAsyncIteration resp. `None`), or the method does not exist -/
theorem C07_dead_slot_stays_dead (s : State) (h : Nat) (hd : Handle) (hh : s.hs[h]? = some hd)
    (ops : List Op) :
    let s' := exec s ops
    (hd.send ≠ .direct → ∀ v,
        step s' (.asend h v) = (s', .res .stop) ∨ step s' (.asend h v) = (s', .noattr))
    ∧ (hd.throw ≠ .direct → ∀ e,
        step s' (.athrow h e) = (s', .res .nothing) ∨ step s' (.athrow h e) = (s', .noattr)) := by
  intro s'
  obtain ⟨hd', e', l⟩ := (exec_mono ops s).2 h hd hh
  constructor
  · intro hs v
    cases hs' : hd.send with
    | direct => exact absurd hs' hs
    | dead => left; simp [step, s', e', l.sendDead hs']
    | absent => right; simp [step, s', e', l.sendAbsent hs']
  · intro hs e
    cases hs' : hd.throw with
    | direct => exact absurd hs' hs
    | dead => left; simp [step, s', e', l.throwDead hs']
    | absent => right; simp [step, s', e', l.throwAbsent hs']

/-- A closed handle is inert for `asend` and `athrow`: after `_aclose_wrapper` reached handle `h`
    (by its own `aclose()`, by leaving its scope, or by leaving a scope opened on it) and after any
    further operations whatsoever, `h.asend(v)` and `h.athrow(e)` — any value, any exception —
    leave the whole state as it is, so nothing is logged on the underlying iterator and nothing is
    delivered, and they answer as the dead wrapper does: StopAsyncIteration resp. returning `None`
    (the exception is swallowed), or AttributeError if the handle never had the method.

    What "closed by an ancestor's closing" means for `asend`/`athrow`:
    `C07_closed_handle_send_inert_descendants_partial`. -/
theorem C07_closed_handle_send_inert (s : State) (h : Nat) (hd : Handle) (hh : s.hs[h]? = some hd)
    (cl : Op) (hc : ClosesHandle s h hd cl) (ops : List Op) :
    let s' := exec (step s cl).1 ops
    (∀ v, step s' (.asend h v) = (s', .res .stop) ∨ step s' (.asend h v) = (s', .noattr))
    ∧ (∀ e, step s' (.athrow h e) = (s', .res .nothing) ∨ step s' (.athrow h e) = (s', .noattr)) := by
  intro s'
  have h1 := closesHandle_closes s h hd hh cl hc
  have h2 := C07_dead_slot_stays_dead (step s cl).1 h (closeWrapper hd) h1 ops
  exact ⟨h2.1 (by simp only [closeWrapper, deaden]; cases hd.send <;> simp),
         h2.2 (by simp only [closeWrapper, deaden]; cases hd.throw <;> simp)⟩

/-- Descendants of a closed handle — the part that holds: every handle made from `h` (by `borrow`
    or `scoped_iter`, directly or through further handles made from those) AFTER `h`'s slots stopped
    pointing to the underlying iterator inherits slots that do not point there either, and is inert
    for `asend`/`athrow` for ever, like `h` itself.
    What is missing for the full claim "closed by an ancestor's closing": a descendant made BEFORE
    the ancestor was closed keeps its own `asend`/`athrow` bound to the underlying iterator — the
    real code never re-binds them — so it still reaches it; see `C07_send_outlives_ancestor_close`. -/
theorem C07_closed_handle_send_inert_descendants_partial (s : State) (h : Nat) (hd : Handle)
    (hh : s.hs[h]? = some hd) (ops : List Op) (k : Kind) :
    let s' := exec s ops
    (hd.send ≠ .direct → (newHandle s' (some h) k).send ≠ .direct)
    ∧ (hd.throw ≠ .direct → (newHandle s' (some h) k).throw ≠ .direct) := by
  intro s'
  obtain ⟨hd', e', l⟩ := (exec_mono ops s).2 h hd hh
  constructor
  · intro hs
    cases hs' : hd.send with
    | direct => exact absurd hs' hs
    | dead => simp [newHandle, sendOf, s', e', l.sendDead hs']
    | absent => simp [newHandle, sendOf, s', e', l.sendAbsent hs']
  · intro hs
    cases hs' : hd.throw with
    | direct => exact absurd hs' hs
    | dead => simp [newHandle, throwOf, s', e', l.throwDead hs']
    | absent => simp [newHandle, throwOf, s', e', l.throwAbsent hs']

/-- On a handle whose slot points to the underlying iterator (a live handle of an iterator that has
    the method), `h.asend(v)` / `h.athrow(e)` is exactly the underlying iterator's own
    `asend(v)` / `athrow(e)`: the call is logged there exactly once (the log grows by the single
    entry `sent v` resp. `thrown e`), the answer is the underlying iterator's answer, and nothing
    else changes (no wrapper generator is involved: the handle table stays as it is). -/
theorem C07_live_handle_send_reaches_underlying (s : State) (h : Nat) (hd : Handle)
    (hh : s.hs[h]? = some hd) :
    (hd.send = .direct → ∀ v,
        step s (.asend h v) = ({ s with u := (sendU v s.u).1 }, .res (sendU v s.u).2)
        ∧ (sendU v s.u).1.log = s.u.log ++ [.sent v])
    ∧ (hd.throw = .direct → ∀ e,
        step s (.athrow h e) = ({ s with u := (throwU e s.u).1 }, .res (throwU e s.u).2)
        ∧ (throwU e s.u).1.log = s.u.log ++ [.thrown e]) := by
  constructor
  · intro hs v
    exact ⟨by simp only [step, hh, hs], (sendU_reaches v s.u).log⟩
  · intro hs e
    exact ⟨by simp only [step, hh, hs], (throwU_reaches e s.u).log⟩

/-- A handle stays live for `asend`/`athrow` as long as nobody closes IT: over any run in which no
    `aclose()` is aimed at `h`, and no scope that `h` belongs to or that was opened on `h` is left
    (`untouched`) — whatever else happens, including closing its ancestors, exhausting its wrapper,
    throwing exceptions into the underlying iterator — its `asend`/`athrow` slots are what they
    were; so if they pointed to the underlying iterator they still do, and
    `C07_live_handle_send_reaches_underlying` applies after the run. -/
theorem C07_untouched_handle_stays_live (s : State) (h : Nat) (hd : Handle) (hh : s.hs[h]? = some hd)
    (ops : List Op) (hu : untouched h s ops = true) :
    ∃ hd', (exec s ops).hs[h]? = some hd' ∧ hd'.send = hd.send ∧ hd'.throw = hd.throw := by
  have h1 := exec_slots ops s h hd hh hu
  cases h2 : (exec s ops).hs[h]? with
  | none => rw [h2] at h1; cases h1
  | some hd' =>
    rw [h2] at h1
    have e : slots hd' = slots hd := by simpa using h1
    simp only [slots, Prod.mk.injEq] at e
    exact ⟨hd', rfl, e.1, e.2⟩

/-- A handle made directly from the underlying iterator (or from a handle whose slots point to
    it) is live in the sense of `C07_live_handle_send_reaches_underlying`: its slots point to the
    underlying iterator exactly when that has the method. -/
theorem C07_new_handle_slots (s : State) (k : Kind) :
    (newHandle s none k).send = (if s.u.hasSend then .direct else .absent)
    ∧ (newHandle s none k).throw = (if s.u.hasThrow then .direct else .absent)
    ∧ ∀ p pd, s.hs[p]? = some pd →
        (newHandle s (some p) k).send = pd.send ∧ (newHandle s (some p) k).throw = pd.throw := by
  refine ⟨rfl, rfl, ?_⟩
  intro p pd hp
  simp [newHandle, sendOf, throwOf, hp]

/-- Items leave the underlying iterator exactly once and in order, each as the answer of the very
    operation that made it yield — `next`, `asend` or a caught `athrow`, through whichever handle:
    the items not yet yielded before the run are the items delivered during the run followed by
    the items not yet yielded afterwards (so what is delivered is a prefix of the underlying
    sequence, nothing is lost, duplicated or reordered). -/
theorem C07_send_items_once_in_order (s : State) (ops : List Op) :
    s.u.rest = delivered (outs s ops) ++ (exec s ops).u.rest :=
  exec_items ops s

/-! ## Examples (non-vacuity) -/

/-- an async generator with six items that handles exception 7 -/
private def g0 : U :=
  { gen := true, hasSend := true, hasThrow := true, hasClose := true, catches := [7],
    rest := [1, 2, 3, 4, 5, 6], status := .fresh, log := [] }

/-- borrow, `asend(5)` to the unstarted generator (TypeError), pull, re-borrow, scope over the
    re-borrowed handle, `asend(10)` and a caught `athrow(7)` through the scoped handle, close handle 0,
    use it, use handle 1 (made before), borrow handle 0 again (made after), leave the scope -/
private def prog0 : List Op :=
  [.borrow none, .asend 0 (some 5), .next 0, .borrow (some 0), .scope (some 1), .asend 2 (some 10),
   .athrow 2 7, .close 0, .asend 0 (some 11), .athrow 0 8, .asend 1 (some 12), .next 1,
   .borrow (some 0), .asend 3 (some 13), .scopeExit 2, .asend 1 (some 15)]

example : outs (init g0) prog0
    = [.handle 0, .res .typeError, .res (.item 1), .handle 1, .handle 2, .res (.item 2), .res (.item 3),
       .ok, .res .stop, .res .nothing, .res (.item 4), .res .stop, .handle 3, .res .stop, .ok,
       .res .stop] := by decide
example : (exec (init g0) prog0).u.log
    = [.sent (some 5), .pull, .sent (some 10), .thrown 7, .sent (some 12)] := by decide
-- C07_send_never_closes_underlying: an inner scope exit is not an owner's exit
example : ownerExits (init g0) prog0 = 0 ∧ (exec (init g0) prog0).u.log.count .closed = 0 := by decide
-- ... and the outermost one is
example : ownerExits (init g0) [.scope none, .scope (some 0), .asend 1 none, .scopeExit 1, .scopeExit 0] = 1
    ∧ (exec (init g0) [.scope none, .scope (some 0), .asend 1 none, .scopeExit 1, .scopeExit 0]).u.log
        = [.sent none, .closed] := by decide
-- C07_closed_handle_send_inert: the three ways of closing
example : ClosesHandle (exec (init g0) [.borrow none]) 0
    { parent := none, kind := .borrowed, wopen := true, send := .direct, throw := .direct } (.close 0) :=
  Or.inl ⟨rfl, rfl⟩
example : (exec (init g0) [.borrow none]).hs[0]?
    = some { parent := none, kind := .borrowed, wopen := true, send := .direct, throw := .direct } := by decide
example : ClosesHandle (exec (init g0) [.borrow none, .scope (some 0)]) 0
    { parent := none, kind := .borrowed, wopen := true, send := .direct, throw := .direct } (.scopeExit 1) :=
  Or.inr (Or.inr ⟨1, { parent := some 0, kind := .scoped, wopen := true, send := .direct, throw := .direct },
    rfl, by decide, rfl, rfl, rfl⟩)
-- C07_live_handle_send_reaches_underlying: a thrown exception that is not handled ends the generator
-- (the owner's choice), and is logged once
example : outs (init g0) [.borrow none, .next 0, .athrow 0 3, .next 0, .athrow 0 3]
    = [.handle 0, .res (.item 1), .res (.raised 3), .res .stop, .res .nothing]
    ∧ (exec (init g0) [.borrow none, .next 0, .athrow 0 3, .next 0, .athrow 0 3]).u.log
      = [.pull, .thrown 3, .pull, .thrown 3] := by decide
-- C07_untouched_handle_stays_live: handle 1 is never aimed at, though its parent is closed
example : untouched 1 (exec (init g0) [.borrow none, .borrow (some 0)])
    [.next 1, .close 0, .next 1, .athrow 1 3, .scope (some 0), .scopeExit 2] = true
    ∧ (exec (init g0) [.borrow none, .borrow (some 0)]).hs[1]?
      = some { parent := some 0, kind := .borrowed, wopen := true, send := .direct, throw := .direct } := by
  decide
-- C07_send_items_once_in_order
example : delivered (outs (init g0) prog0) = [1, 2, 3, 4] ∧ (exec (init g0) prog0).u.rest = [5, 6] := by
  decide

/-- a class-based iterator with `athrow` and `aclose` but no `asend` -/
private def o0 : U :=
  { gen := false, hasSend := false, hasThrow := true, hasClose := true, catches := [],
    rest := [1, 2], status := .fresh, log := [] }

example : outs (init o0) [.borrow none, .asend 0 none, .athrow 0 4, .close 0, .athrow 0 4, .asend 0 none]
    = [.handle 0, .noattr, .res (.raised 4), .ok, .res .nothing, .noattr]
    ∧ (exec (init o0) [.borrow none, .asend 0 none, .athrow 0 4, .close 0, .athrow 0 4, .asend 0 none]).u.log
      = [.thrown 4] := by decide

/-- Not claimed, because the real code does not do it (confirmed on the real objects, see the
    correspondence script): closing a handle does not disable `asend`/`athrow` of handles that were
    borrowed from it BEFORE — handle 1 below still reaches the underlying iterator after handle 0,
    its parent, was closed (its `__anext__` does not: that goes through the parent's wrapper). -/
theorem C07_send_outlives_ancestor_close :
    outs (init g0) [.borrow none, .borrow (some 0), .next 1, .close 0, .next 1, .asend 1 (some 9), .athrow 1 7]
      = [.handle 0, .handle 1, .res (.item 1), .ok, .res .stop, .res (.item 2), .res (.item 3)]
    ∧ (exec (init g0) [.borrow none, .borrow (some 0), .next 1, .close 0, .next 1, .asend 1 (some 9),
        .athrow 1 7]).u.log = [.pull, .sent (some 9), .thrown 7] := by decide

end AsyncVerif.BorrowSend
