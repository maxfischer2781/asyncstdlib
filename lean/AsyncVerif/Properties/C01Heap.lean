import AsyncVerif.Proofs.Heap
import AsyncVerif.Proofs.HeapRefine
/-!
# C01 / C02 — the binary heap of `heapq` is inside the model

`heapq.merge` keeps its live inputs in a list managed by the standard library's `heapify` / `heapreplace` /
`heappop`; `nlargest` / `nsmallest` keep a bounded list managed by `heapify` / `heapreplace`.  The models
(`Std.mergeLoop` with `Std.popMin`; `Sel.selectV` with the ordered list of entries) abstract the heap.  Here the
algorithms of CPython's `Lib/heapq.py` are modelled as written (`Machines/Heap.lean`) and shown to

* establish / preserve the heap invariant and the multiset of entries, with `heap[0]` a minimum
  (`C01_heap_invariant`, `C01_heap_multiset`, `C01_heap_root_min`, `C01_heap_root_unique`), for every strict weak
  (resp. strict total) order, also when the order is well behaved only on the entries present;
* depend on the entries only through the comparisons (`C01_heap_layout_natural`), which is why the differential
  test of the array layout against the real `heapq` over integers is representative;
* refine the abstract heap of `merge` step by step and over any sequence of rounds
  (`C01_heap_heapify_min`, `C01_heap_pop_min`, `C01_heap_replace_min`, `C01_heap_merge_rounds`);
* refine the ordered-list heap of the bounded selection (`C02_heap_bounded_root`, `C02_heap_bounded_heapify`,
  `C02_heap_bounded_replace`, `C02_heap_bounded_select`).

So the abstraction "heap = minimum entry under the entry order" is a theorem about the modelled `heapq`, not an
assumption.
-/
namespace AsyncVerif

open AsyncVerif.Heap

/-- For a strict weak order `lt` (Python's `<` on the entries): `heapify` turns any array into a heap, and
    `heappush`, `heappop`, `heapreplace` turn a heap into a heap. -/
theorem C01_heap_invariant {α : Type} {lt : α → α → Bool} (ho : StrictWeak lt) (a : Array α) :
    IsHeap lt (heapify lt a) ∧
    (IsHeap lt a → ∀ x, IsHeap lt (heappush lt a x)) ∧
    (IsHeap lt a → ∀ x r, heappop lt a = some (x, r) → IsHeap lt r) ∧
    (IsHeap lt a → ∀ x y r, heapreplace lt a x = some (y, r) → IsHeap lt r) :=
  ⟨heapify_isHeap ho a, fun hh x => heappush_isHeap ho a x hh, fun hh x r h => heappop_isHeap ho a x r hh h,
   fun hh x y r h => heapreplace_isHeap ho a x y r hh h⟩

/-- The same when `lt` is a strict weak order only on the entries satisfying `S`, all entries present (and the new
    one) satisfy `S`. -/
theorem C01_heap_invariant_on {α : Type} {lt : α → α → Bool} {S : α → Prop} (ho : StrictWeakOn lt S) (a : Array α)
    (hS : ∀ x ∈ a.toList, S x) :
    IsHeap lt (heapify lt a) ∧
    (IsHeap lt a → ∀ x, S x → IsHeap lt (heappush lt a x)) ∧
    (IsHeap lt a → ∀ x r, heappop lt a = some (x, r) → IsHeap lt r) ∧
    (IsHeap lt a → ∀ x y r, S x → heapreplace lt a x = some (y, r) → IsHeap lt r) :=
  ⟨heapify_isHeap_on ho a hS, fun hh x hx => heappush_isHeap_on ho a x hS hx hh,
   fun hh x r h => heappop_isHeap_on ho a x r hS hh h,
   fun hh x y r hx h => heapreplace_isHeap_on ho a x y r hS hx hh h⟩

/-- Whatever the comparison does (no hypothesis on `lt`): `heapify` permutes the entries, `heappush` adds the item,
    `heappop` returns `heap[0]` and removes it (`none` — `IndexError` — exactly on the empty heap), `heapreplace`
    returns `heap[0]`, removes it, adds the item and keeps the size. -/
theorem C01_heap_multiset {α : Type} (lt : α → α → Bool) (a : Array α) :
    (heapify lt a).toList.Perm a.toList ∧
    (∀ x, (heappush lt a x).toList.Perm (x :: a.toList)) ∧
    (∀ x r, heappop lt a = some (x, r) → a[0]? = some x ∧ a.toList.Perm (x :: r.toList) ∧ r.size + 1 = a.size) ∧
    (heappop lt a = none ↔ a.size = 0) ∧
    (∀ x y r, heapreplace lt a x = some (y, r) →
      a[0]? = some y ∧ (y :: r.toList).Perm (x :: a.toList) ∧ r.size = a.size) ∧
    (∀ x, heapreplace lt a x = none ↔ a.size = 0) := by
  refine ⟨(heapify_perm lt a).toList, ?_, ?_, heappop_none lt a, ?_, heapreplace_none lt a⟩
  · intro x
    refine (heappush_perm lt a x).toList.trans ?_
    rw [Array.toList_push]; exact List.perm_append_singleton x a.toList
  · intro x r h
    obtain ⟨h0, hx, _⟩ := heappop_some h
    exact ⟨by rw [Array.getElem?_eq_getElem h0, hx], heappop_perm lt a x r h, heappop_size lt a x r h⟩
  · intro x y r h
    obtain ⟨h0, hy, _⟩ := heapreplace_some h
    exact ⟨by rw [Array.getElem?_eq_getElem h0, hy], heapreplace_perm lt a x y r h, heapreplace_size lt a x y r h⟩

/-- In a heap, `heap[0]` is a minimum: no entry is smaller (strict weak order; for ties `heap[0]` is *a* minimum). -/
theorem C01_heap_root_min {α : Type} {lt : α → α → Bool} (ho : StrictWeak lt) (a : Array α) (hh : IsHeap lt a)
    (h0 : 0 < a.size) : ∀ x ∈ a.toList, lt x a[0] = false :=
  hh.root_min_mem ho h0

/-- For a strict total order on the entries present, `heap[0]` is *the* minimum: the only entry that no entry is
    smaller than.  Hence `heappop` returns the minimum. -/
theorem C01_heap_root_unique {α : Type} {lt : α → α → Bool} {S : α → Prop} (ho : StrictTotalOn lt S) (a : Array α)
    (hS : ∀ x ∈ a.toList, S x) (hh : IsHeap lt a) (h0 : 0 < a.size) :
    (∀ x ∈ a.toList, lt x a[0] = false) ∧
    (∀ m ∈ a.toList, (∀ x ∈ a.toList, lt x m = false) → m = a[0]) ∧
    (∃ r, heappop lt a = some (a[0], r)) :=
  ⟨hh.root_min_on ho.toWeakOn hS h0, fun m hm hmin => hh.root_unique_on ho hS h0 m hm hmin,
   ⟨_, heappop_eq lt a h0⟩⟩

/-- The array layout depends on the entries only through the comparisons: mapping the entries by `f` (the
    originals being compared by `fun u v => lt (f u) (f v)`) commutes with every operation.  In particular a heap of entries ranked
    by integers is laid out exactly like the heap of the ranks. -/
theorem C01_heap_layout_natural {α β : Type} (lt : α → α → Bool) (f : β → α) (b : Array β) :
    heapify lt (b.map f) = (heapify (fun u v => lt (f u) (f v)) b).map f ∧
    (∀ x, heappush lt (b.map f) (f x) = (heappush (fun u v => lt (f u) (f v)) b x).map f) ∧
    heappop lt (b.map f) = (heappop (fun u v => lt (f u) (f v)) b).map (fun p => (f p.1, p.2.map f)) ∧
    (∀ x, heapreplace lt (b.map f) (f x)
      = (heapreplace (fun u v => lt (f u) (f v)) b x).map (fun p => (f p.1, p.2.map f))) :=
  ⟨heapify_map lt f b, heappush_map lt f b, heappop_map lt f b, heapreplace_map lt f b⟩

/-- After `heapify` of the collected entries (orderable keys, pairwise distinct positions) the array is a heap of
    the same entries and `heap[0]` is the entry the abstract model takes out first: the `Entry.before reverse`-minimum
    that `Std.popMin` returns. -/
theorem C01_heap_heapify_min (reverse : Bool) (hs : List Std.Entry) (ok : EntriesOK hs) :
    let a := heapify (Std.Entry.before reverse) hs.toArray
    IsHeap (Std.Entry.before reverse) a ∧ a.toList.Perm hs ∧
    (∀ m others, Std.popMin reverse hs = some (m, others) → a[0]? = some m ∧
      ∀ e ∈ hs, Std.Entry.before reverse e m = false) := by
  intro a
  have r := MergeRel.heapify reverse hs ok
  refine ⟨r.heap, r.perm, ?_⟩
  intro m others hp
  obtain ⟨h0, hm⟩ := r.root hp
  exact ⟨by rw [Array.getElem?_eq_getElem h0, hm],
    (popMin_spec_on reverse (before_weakOn reverse) hs ok.1 m others hp).2⟩

/-- Refinement of "take the minimum out": if the heap `a` holds the entries of the abstract list `l`
    (`MergeRel`: same multiset, heap invariant, orderable keys, distinct positions), then `heapPopMin` — `heap[0]` and
    the heap after `heappop` — returns the very entry `Std.popMin reverse l` returns and a heap holding the
    others; both are empty together. -/
theorem C01_heap_pop_min (reverse : Bool) (a : Array Std.Entry) (l : List Std.Entry) (r : MergeRel reverse a l) :
    (Std.popMin reverse l = none ↔ heapPopMin (Std.Entry.before reverse) a = none) ∧
    ∀ m others, Std.popMin reverse l = some (m, others) →
      ∃ rest, heapPopMin (Std.Entry.before reverse) a = some (m, rest) ∧ MergeRel reverse rest others := by
  constructor
  · rw [heapPopMin_eq, heappop_none, popMin_none]
    have := r.perm.length_eq
    constructor
    · intro h; rw [h] at this; simpa using this
    · intro h; rw [Array.length_toList, h] at this; exact List.eq_nil_of_length_eq_zero this.symm
  · intro m others hp
    rw [heapPopMin_eq]
    exact r.pop hp

/-- Refinement of a round in which the input delivers a next item: `heapreplace` with the same entry carrying the
    new head and (orderable) key returns the entry `Std.popMin` takes out, and leaves a heap holding the new entry
    and the others — "`popMin`, then insert", as `Std.mergeLoop` does. -/
theorem C01_heap_replace_min (reverse : Bool) (a : Array Std.Entry) (l : List Std.Entry) (r : MergeRel reverse a l)
    (m : Std.Entry) (others : List Std.Entry) (hp : Std.popMin reverse l = some (m, others))
    (head key : Val) (hkey : key.key?.isSome = true) :
    ∃ rest, heapreplace (Std.Entry.before reverse) a { m with head := head, key := key } = some (m, rest) ∧
      rest.size = a.size ∧ MergeRel reverse rest ({ m with head := head, key := key } :: others) := by
  obtain ⟨rest, h, r'⟩ := r.replace hp { m with head := head, key := key } rfl hkey
  exact ⟨rest, h, heapreplace_size _ _ _ _ _ h, r'⟩

/-- Whenever the binary heap holds the entries of the abstract list, `heap[0]` is the entry `Std.popMin` takes out,
    and no entry of the heap goes before it. -/
theorem C01_heap_root_is_popMin (reverse : Bool) (a : Array Std.Entry) (l : List Std.Entry) (r : MergeRel reverse a l)
    (m : Std.Entry) (others : List Std.Entry) (hp : Std.popMin reverse l = some (m, others)) :
    a[0]? = some m ∧ ∀ e ∈ a.toList, Std.Entry.before reverse e m = false := by
  obtain ⟨h0, hm⟩ := r.root hp
  refine ⟨by rw [Array.getElem?_eq_getElem h0, hm], fun e he => ?_⟩
  exact (popMin_spec_on reverse (before_weakOn reverse) l r.ok.1 m others hp).2 e (r.perm.mem_iff.mp he)

/-- `C01_heap_pop_min` / `C01_heap_replace_min` against the heap's own list of entries (`l = a.toList`): for a heap
    of entries with orderable keys and pairwise distinct positions, `heapPopMin` returns the same minimum entry as
    `Std.popMin reverse a.toList` and a heap holding a permutation of the same rest; `heapreplace` with the entry
    carrying a new head returns that minimum and a heap holding a permutation of "the new entry and the rest". -/
theorem C01_heap_pop_min_toList (reverse : Bool) (a : Array Std.Entry) (hh : IsHeap (Std.Entry.before reverse) a)
    (ok : EntriesOK a.toList) (m : Std.Entry) (others : List Std.Entry)
    (hp : Std.popMin reverse a.toList = some (m, others)) :
    (∃ rest, heapPopMin (Std.Entry.before reverse) a = some (m, rest) ∧ rest.toList.Perm others ∧
      IsHeap (Std.Entry.before reverse) rest) ∧
    (∀ head key, key.key?.isSome = true →
      ∃ rest, heapreplace (Std.Entry.before reverse) a { m with head := head, key := key } = some (m, rest) ∧
        rest.toList.Perm ({ m with head := head, key := key } :: others) ∧
        IsHeap (Std.Entry.before reverse) rest) := by
  have r : MergeRel reverse a a.toList := ⟨List.Perm.refl _, hh, ok⟩
  constructor
  · obtain ⟨rest, h, r'⟩ := (C01_heap_pop_min reverse a a.toList r).2 m others hp
    exact ⟨rest, h, r'.perm, r'.heap⟩
  · intro head key hkey
    obtain ⟨rest, h, _, r'⟩ := C01_heap_replace_min reverse a a.toList r m others hp head key hkey
    exact ⟨rest, h, r'.perm, r'.heap⟩

/-- Any sequence of rounds as `merge` performs them (`yield heap[0].head`, then `heapreplace` with the new head or
    `heappop`), started from `heapify`: the binary heap and the abstract heap of `Std.mergeLoop` yield the same
    entries in the same order, and stay related (same multiset, heap invariant) — after every prefix, since the
    statement holds for every `ops`. -/
theorem C01_heap_merge_rounds (reverse : Bool) (hs : List Std.Entry) (ok : EntriesOK hs) (ops : List MergeStep)
    (hops : ∀ op ∈ ops, op.ok) :
    (heapRun reverse (heapify (Std.Entry.before reverse) hs.toArray) ops).1 = (absRun reverse hs ops).1 ∧
    MergeRel reverse (heapRun reverse (heapify (Std.Entry.before reverse) hs.toArray) ops).2
      (absRun reverse hs ops).2 :=
  MergeRel.run ops _ hs (MergeRel.heapify reverse hs ok) hops

/-- The ordered-list presentation of `Std/Select.lean` is a valid view of the heap: if the binary heap `a` holds the
    entries of the ordered list `l` (`SelRel`), the last element of `l` — the worst entry — is `heap[0]`. -/
theorem C02_heap_bounded_root (c : Sel.Cfg) (a : Array Sel.VE) (l : List Sel.VE) (r : SelRel c a l) :
    l.getLast? = a[0]? ∧ a.size = l.length :=
  ⟨r.root, by simpa using r.perm.length_eq⟩

/-- `heapify` of the first entries (orderable keys; stamps `index * order_sign`) is a heap of exactly the entries of
    the ordered list that `Sel.heapifyV` ("insert one by one") builds, and `heapifyV` does not raise. -/
theorem C02_heap_bounded_heapify (c : Sel.Cfg) (first : List (Val × Val)) (hk : ∀ p ∈ first, p.1.orderable = true) :
    ∃ l, Sel.heapifyV c first = .ok l ∧ SelRel c (heapify (worseB c) (firstEntries c first).toArray) l ∧
      l.length = first.length := by
  obtain ⟨l, hl, r⟩ := SelRel.heapify c first hk
  refine ⟨l, hl, r, ?_⟩
  have := r.perm.length_eq
  simpa [firstEntries] using this.symm

/-- `heapreplace` on a heap of size `n` keeps size `n`, returns (removes) the worst entry — the last of the ordered
    list — and adds the new entry: it is "drop the last, insert in order" (`Sel.insV` on `dropLast`, which does not
    raise) on the ordered list. -/
theorem C02_heap_bounded_replace (c : Sel.Cfg) (a : Array Sel.VE) (l : List Sel.VE) (r : SelRel c a l) (w : Sel.VE)
    (hw : l.getLast? = some w) (e : Sel.VE) (he : e.key.orderable = true) (hfresh : ∀ x ∈ l.dropLast, x.idx ≠ e.idx) :
    ∃ l' a', Sel.insV c e l.dropLast = .ok l' ∧ heapreplace (worseB c) a e = some (w, a') ∧ a'.size = a.size ∧
      SelRel c a' l' :=
  r.replace hw e he hfresh

/-- The whole bounded selection on orderable keys: run with the binary heap (`heapSelect`: `heapify`, then
    `if worst_key < item_key: heapreplace(...)` per item), the heap ends holding exactly the entries of the ordered
    list of `Sel.selectV`, whose items — best first, i.e. the heap sorted — are the result; the heap never holds more
    than `n` entries. -/
theorem C02_heap_bounded_select (c : Sel.Cfg) (n : Nat) (keyed : List (Val × Val))
    (hk : ∀ p ∈ keyed, p.1.orderable = true) :
    ∃ a l, heapSelect c n keyed = .ok a ∧ SelRel c a l ∧ Sel.selectV c n keyed = .ok (l.map (·.item)) ∧
      a.size = min n keyed.length :=
  heapSelect_refines c n keyed hk

section Examples

/-- Python's `<` on integers -/
private def ilt (a b : Int) : Bool := decide (a < b)
/-- pairs compared by their first component only: distinct entries tie -/
private def plt (a b : Int × Nat) : Bool := decide (a.1 < b.1)

private theorem ilt_total : StrictTotal ilt :=
  ⟨fun a => by simp [ilt], fun a b c => by simp only [ilt, decide_eq_true_eq]; omega,
   fun a b h => by simp only [ilt, decide_eq_true_eq]; omega⟩
private theorem plt_weak : StrictWeak plt :=
  ⟨fun a => by simp [plt], fun a b c => by simp only [plt, decide_eq_true_eq]; omega,
   fun a b c => by simp only [plt, decide_eq_false_iff_not]; omega⟩

/-- the array layout is the one of CPython (`heapq.heapify([5, 3, 5, 1, 4])` gives `[1, 3, 5, 5, 4]`, … ) -/
example : heapify ilt #[5, 3, 5, 1, 4] = #[1, 3, 5, 5, 4] := by
  simp [heapify, heapifyLoop, siftup, siftupLoop, siftdown, siftdownLoop, ilt]
example : heappush ilt #[1, 3, 5, 5, 4] 0 = #[0, 3, 1, 5, 4, 5] := by
  simp [heappush, siftdown, siftdownLoop, ilt]
example : heappop ilt #[1, 3, 5, 5, 4] = some (1, #[3, 4, 5, 5]) := by
  simp [heappop, siftup, siftupLoop, siftdown, siftdownLoop, ilt]
example : heapreplace ilt #[1, 3, 5, 5, 4] 6 = some (1, #[3, 4, 5, 5, 6]) := by
  simp [heapreplace, siftup, siftupLoop, siftdown, siftdownLoop, ilt]
example : heappop ilt #[] = none := rfl

example : IsHeap ilt (heapify ilt #[5, 3, 5, 1, 4]) := (C01_heap_invariant ilt_total.toWeak _).1
example : IsHeap ilt #[1, 3, 5, 5, 4] := by
  intro i hi h0
  have : i = 1 ∨ i = 2 ∨ i = 3 ∨ i = 4 := by simp at hi; omega
  rcases this with rfl | rfl | rfl | rfl <;> rfl
/-- ties: a strict weak order that is not total; `heap[0]` is *a* minimum -/
example : IsHeap plt (heapify plt #[(2, 0), (1, 1), (1, 2)]) := (C01_heap_invariant plt_weak _).1
example : ∀ x ∈ (heapify plt #[(2, 0), (1, 1), (1, 2)]).toList,
    plt x ((heapify plt #[(2, 0), (1, 1), (1, 2)])[0]'(by simp)) = false :=
  C01_heap_root_min plt_weak _ (C01_heap_invariant plt_weak _).1 (by simp)
example : ¬ StrictTotal plt := fun h => by
  have := h.total (1, 1) (1, 2) (by decide); simp [plt] at this
/-- an order that is well behaved only on the entries present: `<` on the non-negative integers read as naturals -/
example : StrictWeakOn (fun a b : Int => decide (a.toNat < b.toNat)) (fun a => 0 ≤ a) :=
  ⟨fun a _ => by simp, fun a b c _ _ _ => by simp only [decide_eq_true_eq]; omega,
   fun a b c _ _ _ => by simp only [decide_eq_false_iff_not]; omega⟩
example : (heappush ilt #[1, 3, 5] 0).toList.Perm [0, 1, 3, 5] := (C01_heap_multiset ilt #[1, 3, 5]).2.1 0
example : ∃ r, heappop ilt (heapify ilt #[5, 3, 5, 1, 4]) = some ((heapify ilt #[5, 3, 5, 1, 4])[0]'(by simp), r) :=
  (C01_heap_root_unique ilt_total.on _ (fun _ _ => trivial) (C01_heap_invariant ilt_total.toWeak _).1 (by simp)).2.2
/-- entries ranked by an integer are laid out like their ranks -/
example : heapify ilt (#["ccc", "a", "bb"].map (fun s : String => (s.length : Int)))
    = (heapify (fun u v : String => ilt u.length v.length) #["ccc", "a", "bb"]).map (fun s => (s.length : Int)) :=
  (C01_heap_layout_natural ilt (fun s : String => (s.length : Int)) #["ccc", "a", "bb"]).1

private def e0 : Std.Entry := ⟨.obj 1 5, .int 5, 0, 0⟩
private def e1 : Std.Entry := ⟨.obj 2 3, .int 3, 1, 1⟩
private def e2 : Std.Entry := ⟨.obj 3 5, .int 5, 2, 2⟩
private def e3 : Std.Entry := ⟨.obj 4 3, .int 3, 3, 3⟩

private theorem exOK : EntriesOK [e0, e1, e2, e3] :=
  ⟨fun e he => by
    simp only [List.mem_cons, List.not_mem_nil, or_false] at he
    rcases he with rfl | rfl | rfl | rfl <;> rfl, by decide⟩

/-- four inputs with heads 5, 3, 5, 3: the heap's root is input 1 (key 3, the lower position among the ties) -/
example : (heapify (Std.Entry.before false) #[e0, e1, e2, e3]).map (·.idx) = #[1, 3, 2, 0] := by
  simp [heapify, heapifyLoop, siftup, siftupLoop, siftdown, siftdownLoop, Std.Entry.before, e0, e1, e2, e3, Val.key?]
example : (Std.popMin false [e0, e1, e2, e3]).map (fun p => (p.1.idx, p.2.map (·.idx))) = some (1, [0, 3, 2]) := by
  decide
example : IsHeap (Std.Entry.before false) (heapify (Std.Entry.before false) #[e0, e1, e2, e3]) :=
  (C01_heap_heapify_min false [e0, e1, e2, e3] exOK).1
example : MergeRel true (heapify (Std.Entry.before true) #[e0, e1, e2, e3]) [e0, e1, e2, e3] :=
  MergeRel.heapify true _ exOK
/-- the refinement on this heap: pop, and replace with a new head of key 4 -/
example : ∀ m others, Std.popMin false [e0, e1, e2, e3] = some (m, others) →
    ∃ rest, heapPopMin (Std.Entry.before false) (heapify (Std.Entry.before false) #[e0, e1, e2, e3]) = some (m, rest) ∧
      MergeRel false rest others :=
  (C01_heap_pop_min false _ _ (MergeRel.heapify false _ exOK)).2
example : ∀ m others, Std.popMin false [e0, e1, e2, e3] = some (m, others) →
    ∃ rest, heapreplace (Std.Entry.before false) (heapify (Std.Entry.before false) #[e0, e1, e2, e3])
        { m with head := .obj 9 4, key := .int 4 } = some (m, rest) ∧ rest.size = 4 ∧
      MergeRel false rest ({ m with head := .obj 9 4, key := .int 4 } :: others) := fun m others hp => by
  have := C01_heap_replace_min false _ _ (MergeRel.heapify false _ exOK) m others hp (.obj 9 4) (.int 4) rfl
  simpa using this
/-- a sequence of rounds: input 1 delivers 4, input 3 is exhausted, input 1 is exhausted, input 0 delivers 7 -/
private def exOps : List MergeStep := [.pulled (.obj 9 4) (.int 4), .exhausted, .exhausted, .pulled (.obj 8 7) (.int 7)]
private theorem exOpsOK : ∀ op ∈ exOps, op.ok := by
  intro op hop
  simp only [exOps, List.mem_cons, List.not_mem_nil, or_false] at hop
  rcases hop with rfl | rfl | rfl | rfl <;> simp [MergeStep.ok, Val.key?]
example : (heapRun false (heapify (Std.Entry.before false) #[e0, e1, e2, e3]) exOps).1
    = (absRun false [e0, e1, e2, e3] exOps).1 :=
  (C01_heap_merge_rounds false _ exOK exOps exOpsOK).1
example : (absRun false [e0, e1, e2, e3] exOps).1.map (fun e => (e.idx, e.key.key?)) =
    [(1, some 3), (3, some 3), (1, some 4), (0, some 5)] := by decide

private def v0 : Sel.VE := ⟨.int 5, 0, .obj 1 5⟩
private def v1 : Sel.VE := ⟨.int 3, -1, .obj 2 3⟩
private def v2 : Sel.VE := ⟨.int 5, -2, .obj 3 5⟩
private def exKeyed : List (Val × Val) := [(.int 5, .obj 1 5), (.int 3, .obj 2 3), (.int 5, .obj 3 5), (.int 4, .obj 4 4)]

/-- asyncstdlib's `nlargest(…, 3)` on keys 5, 3, 5, 4: the heap of the first three has the entry of key 3 at the root -/
example : firstEntries ⟨true, false⟩ (exKeyed.take 3) = [v0, v1, v2] := by rfl
example : ((heapify (worseB ⟨true, false⟩) #[v0, v1, v2]).map (·.idx)) = #[-1, 0, -2] := by
  simp [heapify, heapifyLoop, siftup, siftupLoop, siftdown, siftdownLoop, worseB, Sel.worseV, Sel.kbV,
    Val.pyEq, Val.lt, Val.key?, v0, v1, v2]
example : Sel.heapifyV ⟨true, false⟩ (exKeyed.take 3) = .ok [v0, v2, v1] := by rfl
example : ∀ p ∈ exKeyed, p.1.orderable = true := by decide
example : ∃ l, Sel.heapifyV ⟨true, false⟩ (exKeyed.take 3) = .ok l ∧
    SelRel ⟨true, false⟩ (heapify (worseB ⟨true, false⟩) (firstEntries ⟨true, false⟩ (exKeyed.take 3)).toArray) l ∧
    l.length = 3 :=
  C02_heap_bounded_heapify ⟨true, false⟩ (exKeyed.take 3) (by decide)
/-- on that heap: the last of the ordered list is `heap[0]`; replacing it by the entry of key 4 (stamp -3) -/
example : ∃ l, Sel.heapifyV ⟨true, false⟩ (exKeyed.take 3) = .ok l ∧
    l.getLast? = (heapify (worseB ⟨true, false⟩) (firstEntries ⟨true, false⟩ (exKeyed.take 3)).toArray)[0]? := by
  obtain ⟨l, hl, r, _⟩ := C02_heap_bounded_heapify ⟨true, false⟩ (exKeyed.take 3) (by decide)
  exact ⟨l, hl, (C02_heap_bounded_root _ _ _ r).1⟩
example : ∃ l' a', Sel.insV ⟨true, false⟩ ⟨.int 4, -3, .obj 4 4⟩ [v0, v2] = .ok l' ∧
    heapreplace (worseB ⟨true, false⟩) (heapify (worseB ⟨true, false⟩) #[v0, v1, v2]) ⟨.int 4, -3, .obj 4 4⟩
      = some (v1, a') ∧ a'.size = 3 ∧ SelRel ⟨true, false⟩ a' l' := by
  obtain ⟨l, hl, r, _⟩ := C02_heap_bounded_heapify ⟨true, false⟩ (exKeyed.take 3) (by decide)
  have hl' : l = [v0, v2, v1] := by
    have : Sel.heapifyV ⟨true, false⟩ (exKeyed.take 3) = .ok [v0, v2, v1] := rfl
    rw [this] at hl; exact (Except.ok.inj hl).symm
  subst hl'
  obtain ⟨l', a', h1, h2, h3, h4⟩ := C02_heap_bounded_replace _ _ _ r v1 rfl ⟨.int 4, -3, .obj 4 4⟩ rfl (by decide)
  exact ⟨l', a', h1, h2, by rw [h3, heapify_size]; rfl, h4⟩
example : Sel.selectV ⟨true, false⟩ 3 exKeyed = .ok [.obj 1 5, .obj 3 5, .obj 4 4] := by rfl
example : ∃ a l, heapSelect ⟨true, false⟩ 3 exKeyed = .ok a ∧ SelRel ⟨true, false⟩ a l ∧
    Sel.selectV ⟨true, false⟩ 3 exKeyed = .ok (l.map (·.item)) ∧ a.size = 3 :=
  C02_heap_bounded_select ⟨true, false⟩ 3 exKeyed (by decide)

end Examples

end AsyncVerif
