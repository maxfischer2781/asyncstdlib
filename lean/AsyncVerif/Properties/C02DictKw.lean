import AsyncVerif.Proofs.DictKw
import AsyncVerif.Properties.C02
import AsyncVerif.Properties.C04
import AsyncVerif.Properties.C18
/-!
# C02 — `dict(iterable=(), /, **kwargs)`: the keywords are merged into the pairs' dictionary

`asyncstdlib.builtins.dict` builds `base_dict = {key: value async for key, value in item_iter}` inside
`ScopedIter`, leaves the scope, and then `if kwargs: base_dict.update(kwargs)`.  The model is
`Impl.dictKw kw s fuel` (`kw` = the keywords in call order, keys and values in the value domain), its CPython
twin `Std.dictKw` (`dict_update_common`: the pairs first, then the keywords).

The list-level meaning is `ListSpec.dictUpdate` (`d[k] = v` on an insertion-ordered association list: an existing
key keeps its position and its key object and takes the new value, a new key is appended), folded over the
keywords by `ListSpec.dictUpdateAll`; `ListSpec.dictLookup` is `d.get(k)`.  Key equality is `Std.hashEq` (same hash
and `==`), which `Proofs/DictKw.lean` shows to be symmetric, transitive and reflexive on the hashable values.

The value is given twice: in a fault-free world outright (`C02_dict_kwargs_value`: order of the keys and values),
and in every world relative to `dict(iterable)` (`C02_dict_kwargs_over_dict`).  Because `Impl.dictKw` is a model of
its own, the twin, fuel adequacy, release and the C03 / C06 / C18 instances are restated for it here.

Python keywords are `str` objects; the value domain has no strings, a keyword is any hashable value (the driver
takes them in the S1 value encoding).  What matters to `dict` — which keys are equal, in which order they come —
is carried by `Std.hashEq` and the order of the list.
-/
namespace AsyncVerif

open ListSpec

/-- assigning the same value to the same (hashable) key twice is the same as assigning it once -/
theorem C02_dictUpdate_idempotent (d : List (Val × Val)) (k v : Val) (hk : Std.hashable k = true) :
    dictUpdate (dictUpdate d k v) k v = dictUpdate d k v :=
  dictUpdate_dictUpdate d k v k v (hashEq_refl hk)

example : dictUpdate (dictUpdate [(.int 1, .int 10), (.int 2, .int 20)] (.int 1) (.int 7)) (.int 1) (.int 7)
    = [(.int 1, .int 7), (.int 2, .int 20)] := by rfl

/-- the later of two assignments to equal keys wins: the entry takes the later value; it keeps the position and the
    key object it got from the first assignment (or had before) -/
theorem C02_dictUpdate_later_wins (d : List (Val × Val)) (k v k' v' : Val) (h : Std.hashEq k k' = true) :
    dictUpdate (dictUpdate d k v) k' v' = dictUpdate d k v' :=
  dictUpdate_dictUpdate d k v k' v' h

/-- `True == 1`: the second assignment replaces the value of the first, the key object stays `1` -/
example : Std.hashEq (.int 1) (.bool true) = true := by rfl
example : dictUpdate (dictUpdate [(.int 2, .int 20)] (.int 1) (.int 7)) (.bool true) (.int 8)
    = [(.int 2, .int 20), (.int 1, .int 8)] := by rfl

/-- lookup after an assignment: every key equal to the assigned one finds the new value, every other key finds what
    it found before -/
theorem C02_dictUpdate_lookup (d : List (Val × Val)) (k v k' : Val) :
    dictLookup (dictUpdate d k v) k' = if Std.hashEq k k' then some v else dictLookup d k' :=
  dictLookup_dictUpdate d k v k'

/-- `lookup k (update d k v) = some v` (for a key that can be a key at all) -/
theorem C02_dictUpdate_lookup_same (d : List (Val × Val)) (k v : Val) (hk : Std.hashable k = true) :
    dictLookup (dictUpdate d k v) k = some v := by
  rw [dictLookup_dictUpdate, hashEq_refl hk]; rfl

/-- an assignment leaves every other key as it was -/
theorem C02_dictUpdate_lookup_other (d : List (Val × Val)) (k v k' : Val) (h : Std.hashEq k k' = false) :
    dictLookup (dictUpdate d k v) k' = dictLookup d k' := by
  rw [dictLookup_dictUpdate, h]; rfl

example : Std.hashable (.tup [.int 1, .obj 5 2]) = true := by rfl
example : dictLookup (dictUpdate [(.int 1, .int 10), (.int 2, .int 20)] (.int 2) (.int 7)) (.int 2) = some (.int 7) := by rfl
example : Std.hashEq (.int 2) (.int 1) = false := by rfl
example : dictLookup (dictUpdate [(.int 1, .int 10), (.int 2, .int 20)] (.int 2) (.int 7)) (.int 1) = some (.int 10) := by rfl

/-- the keys after an assignment: unchanged (same order, same key objects) if an equal key is present, else the new
    key is appended — `set.add` on the list of keys -/
theorem C02_dictUpdate_keys (d : List (Val × Val)) (k v : Val) :
    (dictUpdate d k v).map Prod.fst = Std.setInsert (d.map Prod.fst) k :=
  dictUpdate_keys d k v

example : (dictUpdate [(.int 1, .int 10), (.int 2, .int 20)] (.bool true) (.int 7)).map Prod.fst = [.int 1, .int 2] := by rfl
example : (dictUpdate [(.int 1, .int 10), (.int 2, .int 20)] (.int 3) (.int 7)).map Prod.fst = [.int 1, .int 2, .int 3] := by rfl

/-- on a dictionary (pairwise different keys) the model's `d[k] = v` (`Std.dictInsert`, used by the comprehension
    and by `update`) is `dictUpdate`; and the result is a dictionary again -/
theorem C02_dictUpdate_is_dictInsert (d : List (Val × Val)) (k v : Val) (hd : DictKeysDistinct d) :
    Std.dictInsert d k v = dictUpdate d k v ∧ DictKeysDistinct (dictUpdate d k v) :=
  ⟨dictInsert_eq_dictUpdate d k v hd, dictUpdate_distinct d k v hd⟩

example : DictKeysDistinct [(.int 1, .int 10), (.obj 4 1, .int 20)] :=
  List.Pairwise.cons (by intro a ha; simp only [List.mem_singleton] at ha; subst ha; rfl)
    (List.Pairwise.cons (by simp) List.Pairwise.nil)

/-- the dictionary of a list of pairs (`dictOf`, the value of `dict(pairs)` by `C02_dict_value`) is `dictUpdate` folded
    over the pairs from the empty dictionary -/
theorem C02_dict_pairs_dictionary (pairs : List (Val × Val)) : dictOf [] pairs = dictUpdateAll [] pairs :=
  dictOf_eq_dictUpdateAll pairs [] distinct_nil

/-- the keys of the dictionary of a list of pairs, and of that dictionary updated with keywords, are pairwise different -/
theorem C02_dict_keys_distinct (pairs kw : List (Val × Val)) :
    DictKeysDistinct (dictOf [] pairs) ∧ DictKeysDistinct (dictUpdateAll (dictOf [] pairs) kw) :=
  ⟨dictOf_distinct pairs [] distinct_nil, dictUpdateAll_distinct kw _ (dictOf_distinct pairs [] distinct_nil)⟩

example : dictOf [] [(.obj 1 0, .int 10), (.obj 2 1, .int 11), (.obj 3 0, .int 12)]
    = dictUpdateAll [] [(.obj 1 0, .int 10), (.obj 2 1, .int 11), (.obj 3 0, .int 12)] := by rfl

/-- the keys of `d.update(kw)`: first the keys of `d`, in their order and with their key objects; then the keywords
    that are not keys of `d`, each once, in the order of their first occurrence -/
theorem C02_dict_kwargs_keys (d kw : List (Val × Val)) :
    (dictUpdateAll d kw).map Prod.fst = distinct (d.map Prod.fst) (kw.map Prod.fst) :=
  dictUpdateAll_keys kw d

/-- keywords override pairs but every pair keeps its position (and key object): the keys of the pairs' dictionary are
    a prefix of the keys of the result -/
theorem C02_dict_kwargs_positions_kept (d kw : List (Val × Val)) :
    d.map Prod.fst <+: (dictUpdateAll d kw).map Prod.fst := by
  rw [dictUpdateAll_keys]; exact distinct_prefix _ _

/-- the values of `d.update(kw)`: under every key, the value of the *last* keyword equal to it, or else what `d` had -/
theorem C02_dict_kwargs_lookup (d kw : List (Val × Val)) (k : Val) :
    dictLookup (dictUpdateAll d kw) k = (dictLookup kw.reverse k).orElse (fun _ => dictLookup d k) :=
  dictLookup_dictUpdateAll kw d k

/-- `{1: 10, 2: 20}.update(k2=7, k3=8, k2=9)` (written with ints for the keywords) -/
example : dictUpdateAll [(.int 1, .int 10), (.int 2, .int 20)] [(.int 2, .int 7), (.int 3, .int 8), (.int 2, .int 9)]
    = [(.int 1, .int 10), (.int 2, .int 9), (.int 3, .int 8)] := by rfl
example : dictLookup [(.int 2, .int 9), (.int 3, .int 8), (.int 2, .int 7)] (.int 2) = some (.int 9) := by rfl

/-- asyncstdlib `dict(pairs, **kw)` in a fault-free world (source `s` delivers the `(key, value)` tuples `pairs`, keys
    hashable; the keywords `kw`, in call order, hashable): the result is the pairs' dictionary `dictOf [] pairs`
    (first key object and position, last value: `C02_dict_value`) updated with every keyword in order by
    `dictUpdate` — so both the order of the keys and the values are determined: a keyword equal to a key of the pairs
    replaces the value and keeps the pair's position and key object, a new keyword is appended, a repeated keyword
    counts with its last value.  The whole source is consumed, nothing else is visible. -/
theorem C02_dict_kwargs_value (kw : List (Val × Val)) (s fuel : Nat) (pairs : List (Val × Val)) (w : World)
    (hf : Feeds w s (pairs.map fun p => Val.tup [p.1, p.2])) (hh : ∀ p ∈ pairs, Std.hashable p.1 = true)
    (hk : ∀ p ∈ kw, Std.hashable p.1 = true) (hlt : pairs.length < fuel) :
    (Impl.dictKw kw s fuel w).1 = .ok (Std.dictVal (dictUpdateAll (dictOf [] pairs) kw)) ∧
    ((Impl.dictKw kw s fuel w).2.srcs s).script = [] ∧
    (Impl.dictKw kw s fuel w).2.vis = w.vis ++ pullLog s (pairs.map fun p => Val.tup [p.1, p.2]) ++ endLog s := by
  obtain ⟨-, h2, h3⟩ := C02_dict_value s fuel pairs w hf hh hlt
  rw [dictKw_world]
  refine ⟨?_, h2, h3⟩
  have hl := (scopedIter_lift s (Std.dictLoop s [] fuel) w).1
  rw [(dictLoop_value s pairs [] fuel w hf hh hlt).1] at hl
  rw [dictKw_run]
  generalize scopedIter s (Std.dictLoop s [] fuel) w = x at hl ⊢
  rcases x with ⟨r, w1⟩
  simp only at hl
  subst hl
  simp only [dictUpdateKwR_value kw _ hk (dictOf_distinct pairs [] distinct_nil)]
  rfl

/-- `dict([(o1₀, 10), (o2₁, 11), (o3₀, 12)], **{o4₁: 7, 5: 8, o4₁: 9})` with objects `oN` of key `ₖ`: the hypotheses
    of `C02_dict_kwargs_value`, and the result — `o1` keeps the first position with the last pair value 12, `o2`
    (equal to the keyword `o4`) keeps position and key object and gets the last keyword value 9, `5` is appended -/
example : Feeds (exampleWorld [.tup [.obj 1 0, .int 10], .tup [.obj 2 1, .int 11], .tup [.obj 3 0, .int 12]]) 0
    ([(Val.obj 1 0, Val.int 10), (.obj 2 1, .int 11), (.obj 3 0, .int 12)].map fun p => Val.tup [p.1, p.2]) := ⟨rfl, rfl⟩
example : ∀ p ∈ [(Val.obj 4 1, Val.int 7), (.int 5, .int 8), (.obj 4 1, .int 9)], Std.hashable p.1 = true := by
  simp [Std.hashable]
example : (Impl.dictKw [(.obj 4 1, .int 7), (.int 5, .int 8), (.obj 4 1, .int 9)] 0 9
      (exampleWorld [.tup [.obj 1 0, .int 10], .tup [.obj 2 1, .int 11], .tup [.obj 3 0, .int 12]])).1
    = .ok (.lst [.tup [.obj 1 0, .int 12], .tup [.obj 2 1, .int 9], .tup [.int 5, .int 8]]) := by rfl
example : Std.dictVal (dictUpdateAll (dictOf [] [(.obj 1 0, .int 10), (.obj 2 1, .int 11), (.obj 3 0, .int 12)])
      [(.obj 4 1, .int 7), (.int 5, .int 8), (.obj 4 1, .int 9)])
    = .lst [.tup [.obj 1 0, .int 12], .tup [.obj 2 1, .int 9], .tup [.int 5, .int 8]] := by rfl

/-- `dict(pairs, **kw)` is `dict` of the pairs followed by the keywords as further pairs -/
theorem C02_dict_kwargs_as_pairs (pairs kw : List (Val × Val)) :
    dictUpdateAll (dictOf [] pairs) kw = dictOf [] (pairs ++ kw) := by
  rw [C02_dict_pairs_dictionary, C02_dict_pairs_dictionary, dictUpdateAll_append]

example : dictUpdateAll (dictOf [] [(.int 1, .int 10), (.int 2, .int 20)]) [(.int 1, .int 7)]
    = dictOf [] [(.int 1, .int 10), (.int 2, .int 20), (.int 1, .int 7)] := by rfl

/-- `dict(iterable, **kw)` in **every** world (faulty sources, malformed items, unhashable keys of the pairs, any
    fuel), for hashable keywords: it ends in exactly the world `dict(iterable)` ends in, and either both raise
    the same exception, or `dict(iterable)` returns a dictionary `d` (pairwise different keys) and
    `dict(iterable, **kw)` returns `d` updated with the keywords in order -/
theorem C02_dict_kwargs_over_dict (kw : List (Val × Val)) (s fuel : Nat) (w : World)
    (hk : ∀ p ∈ kw, Std.hashable p.1 = true) :
    (Impl.dictKw kw s fuel w).2 = (Impl.dict s fuel w).2 ∧
    ((∃ e, (Impl.dict s fuel w).1 = .error e ∧ (Impl.dictKw kw s fuel w).1 = .error e) ∨
     (∃ d, DictKeysDistinct d ∧ (Impl.dict s fuel w).1 = .ok (Std.dictVal d) ∧
        (Impl.dictKw kw s fuel w).1 = .ok (Std.dictVal (dictUpdateAll d kw)))) :=
  ⟨dictKw_world kw s fuel w, dictKw_over_dict kw s fuel w hk⟩

/-- a source that fails after its first pair: both raise the injected fault `3` -/
example : (Impl.dictKw [(.int 5, .int 8)] 0 9
    { exampleWorld [] with srcs := fun _ => { kind := .aobj, script := [.item (.tup [.int 1, .int 2]), .err 3] } }).1
    = .error (.user 3) := by rfl

/-- asyncstdlib `dict(iterable, **kw)` and CPython `dict(iterable, **kw)` are twins in every world: same result or
    same exception, same visible events (faults, malformed items, unhashable keys included) -/
theorem C02_dict_kwargs_twin (kw : List (Val × Val)) (s fuel : Nat) :
    Twin (Impl.dictKw kw s fuel) (Std.dictKw kw s fuel) := dictKw_twin kw s fuel

example : (Std.dictKw [(.int 5, .int 8)] 0 9 (exampleWorld [.tup [.int 1, .int 2], .int 3])).1 = .error .typeError := by rfl
example : (Impl.dictKw [(.int 5, .int 8)] 0 9 (exampleWorld [.tup [.int 1, .int 2], .int 3])).1 = .error .typeError := by rfl

/-- without keywords `dict(iterable, **{})` is the model of `dict(iterable)` — the same program, for
    asyncstdlib and for the CPython twin -/
theorem C02_dict_kwargs_empty (s fuel : Nat) :
    Impl.dictKw [] s fuel = Impl.dict s fuel ∧ Std.dictKw [] s fuel = Std.dict s fuel :=
  ⟨dictKw_nil s fuel, std_dictKw_nil s fuel⟩

/-- (C04 flavour) whenever the run is not cut short by the model's fuel, the source of `dict(iterable, **kw)` is
    released when the call ends — with a value or any exception — and it is released exactly as by `dict(iterable)`:
    the final worlds (every source's status and close count, the log of resource events, the visible log) are equal -/
theorem C02_dict_kwargs_source_released (kw : List (Val × Val)) (s fuel : Nat) (w : World)
    (h : (Impl.dictKw kw s fuel w).1 ≠ .error .outOfFuel) :
    Released ((Impl.dictKw kw s fuel w).2.srcs s) ∧ (Impl.dictKw kw s fuel w).2 = (Impl.dict s fuel w).2 := by
  refine ⟨?_, dictKw_world kw s fuel w⟩
  rw [dictKw_world]
  exact C04_dict s fuel w (dict_ne_oof_of_dictKw kw s fuel w h)

/-- with a keyword present: a generator that failed midway is finished by its own failure (no `aclose()` reaches
    it); one that delivered a malformed item is closed exactly once -/
example : ((Impl.dictKw [(.int 5, .int 8)] 0 9
    { exampleWorld [] with srcs := fun _ => { kind := .agen, script := [.item (.tup [.int 1, .int 2]), .err 3] } }).2.srcs 0).status
    = .failed := by rfl
example : ((Impl.dictKw [(.int 5, .int 8)] 0 9 (exampleWorld [.tup [.int 1, .int 2], .int 3])).2.srcs 0).closes = 1 := by rfl

theorem C02_dict_kwargs_fuel_adequate (kw : List (Val × Val)) (s : Nat) (w : World) :
    ∀ fuel, fuel ≥ fuelBound1 s w → (Impl.dictKw kw s fuel w).1 ≠ .error .outOfFuel :=
  dictKw_fuel_adequate kw s w

theorem C02_dict_kwargs_source_released_total (kw : List (Val × Val)) (s : Nat) (w : World) :
    ∀ fuel, fuel ≥ fuelBound1 s w → Released ((Impl.dictKw kw s fuel w).2.srcs s) :=
  fun fuel h => (C02_dict_kwargs_source_released kw s fuel w (dictKw_fuel_adequate kw s w fuel h)).1

example : fuelBound1 0 (exampleWorld [.tup [.int 1, .int 2], .int 3]) = 3 := by rfl

/-- (C03 flavour) the flavour of the source (list / iterator / async generator / class-based with `aclose`) does
    not change the result of `dict(iterable, **kw)` -/
theorem C02_dict_kwargs_kind_free (kw : List (Val × Val)) (s fuel : Nat) : KindFree (Impl.dictKw kw s fuel) :=
  kf_compositional.dictKw kw s fuel

/-- (C06 flavour) an injected fault surfaces from `dict(iterable, **kw)` unchanged and at once -/
theorem C02_dict_kwargs_faithful (kw : List (Val × Val)) (s fuel : Nat) : Faithful (Impl.dictKw kw s fuel) :=
  faithful_compositional.dictKw kw s fuel

/-- (C18 flavour) a fault or cancellation injected into `dict(iterable, **kw)` propagates as itself, raised by the last
    visible event, and the source is released -/
theorem C02_dict_kwargs_cancel_safe (kw : List (Val × Val)) (s fuel : Nat) : CancelSafe (Impl.dictKw kw s fuel) s :=
  cancelSafe_of (faithful_compositional.dictKw kw s fuel) (fun w h => (C02_dict_kwargs_source_released kw s fuel w h).1)

end AsyncVerif
