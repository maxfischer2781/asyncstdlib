import AsyncVerif.Proofs.Tee
/-!
# C09 — tee children all see the full source sequence under every interleaving

Property theorems only.  Model: `Machines/Tee.lean` (`tee_peer`, `Tee`, `NoLock` of
asyncstdlib/itertools.py as a schedule-driven machine).  Every theorem below is about

    reach items n susp lock closeable dies ops        (= `runOps (init …) ops`, Machines/Tee.lean)

the state after an ARBITRARY operation sequence `ops` over {one `send` on consumer `i`, `aclose()`
of child `i`, cancellation of consumer `i` at its current suspension point, `Tee.aclose()`}, started
from a fresh tee with `n` children over a source producing `items`, whose k-th pull suspends
`susp[k]` times, with or without a lock, for a source that can or cannot be closed and that
does or does not die when a pending pull is cancelled.  All are proved by induction over `ops`
(invariant `Inv` of `Proofs/Tee.lean`).  `Pre lock susp` (Proofs/Tee.lean) is the property's precondition:
`lock = true ∨ ∀ k ∈ susp, k = 0` — a lock is supplied, or the source never suspends.

`Tee.aclose()` (`Op.closeAll`, `closeAll` of the machine) closes the children in order and — unless a
busy child aborts it — then unregisters every buffer that is still registered (children closed before
their first step never ran their `finally`) and closes the source on their behalf
(`C09_tee_aclose_unregisters_all`).  A child closed INDIVIDUALLY before its first step still keeps its
buffer registered (`C09_closed_before_first_step_counterexample`); this is why the two `_partial`
theorems keep the hypothesis `NoEarlyClose`.
-/
namespace AsyncVerif.Tee

/-- **Key invariant, every schedule.** For every child whose buffer is registered, what it has
    yielded followed by what its buffer holds is exactly what has been fetched from the source. -/
theorem C09_yielded_plus_buffer (items n susp lock closeable dies ops) (j : Nat) (hj : j < n)
    (b : List Val) (hb : ((reach items n susp lock closeable dies ops).kid j).buf = some b) :
    ((reach items n susp lock closeable dies ops).kid j).out ++ b
      = (reach items n susp lock closeable dies ops).fetched :=
  (reach_inv items n susp lock closeable dies ops).d.reg j
    (by rw [reach_len]; exact hj) b hb

/-- **Each source item is fetched once, in order.** What has been fetched followed by what the
    source still holds is the source sequence: no item is requested twice, skipped or reordered,
    whatever the schedule, with or without a lock. -/
theorem C09_fetched_once (items n susp lock closeable dies ops) :
    (reach items n susp lock closeable dies ops).fetched
      ++ (reach items n susp lock closeable dies ops).src = items := by
  exact (total_runOps (init items n susp lock closeable dies) ops).trans (by simp [St.total, init])

/-- **No child ever sees anything but the source's items in source order**: what a child has
    yielded is a prefix of the source sequence — under every interleaving, with every pattern of
    closing and cancelling, even without a lock. -/
theorem C09_child_prefix (items n susp lock closeable dies ops) (j : Nat) (hj : j < n) :
    ((reach items n susp lock closeable dies ops).kid j).out <+: items := by
  have hi := reach_inv items n susp lock closeable dies ops
  have hj' : j < (reach items n susp lock closeable dies ops).kids.length := by
    rw [reach_len]; exact hj
  have ht := C09_fetched_once items n susp lock closeable dies ops
  obtain ⟨t, ht'⟩ := (hi.d.kid hj').prefix
  exact ⟨t ++ (reach items n susp lock closeable dies ops).src, by
    rw [← List.append_assoc, ht', ht]⟩

/-- **Completeness.** With a lock, or with a source that never suspends: a child whose consumer
    ran it to exhaustion (`Task.ended`: the child itself reported the end) has yielded everything
    that was ever fetched from the source, and — unless a cancelled consumer's exception finished
    the source — that is the whole source sequence. -/
theorem C09_exhausted_child_complete (items n susp lock closeable dies ops) (hpre : Pre lock susp)
    (j : Nat) (hj : j < n)
    (he : ((reach items n susp lock closeable dies ops).kid j).task = .ended) :
    ((reach items n susp lock closeable dies ops).kid j).out
        = (reach items n susp lock closeable dies ops).fetched ∧
    ((reach items n susp lock closeable dies ops).srcKilled = false →
      ((reach items n susp lock closeable dies ops).kid j).out = items) := by
  have hi := reach_inv items n susp lock closeable dies ops
  have hs := reach_safe items n susp lock closeable dies ops hpre
  have := hi.d.taskEnded hs j (by rw [reach_len]; exact hj) he
  refine ⟨this.1, fun hk => ?_⟩
  have ht := C09_fetched_once items n susp lock closeable dies ops
  rw [this.2.2 hk, List.append_nil] at ht
  rw [this.1, ht]

/-- **Same deliveries as `itertools.tee`.** In every reachable state, if a `send` on consumer `i`
    delivers an item, it is the source item at the position of the number of items child `i` had
    yielded before: the k-th item handed to a child is the k-th item of the source. -/
theorem C09_delivery (items n susp lock closeable dies ops) (i : Nat) (v : Val)
    (hv : (step (reach items n susp lock closeable dies ops) (.sched i)).2 = .item v) :
    items[((reach items n susp lock closeable dies ops).kid i).out.length]? = some v := by
  have hlen := reach_len items n susp lock closeable dies ops
  have hi : i < (reach items n susp lock closeable dies ops).kids.length := by
    cases Nat.lt_or_ge i (reach items n susp lock closeable dies ops).kids.length with
    | inl h => exact h
    | inr h => simp [step, Nat.not_lt.2 h] at hv
  have hv' : (sched (reach items n susp lock closeable dies ops) i).2 = .item v := by
    simpa [step, hi] using hv
  have he := (sched_eff _ i hi).item v hv'
  have hp := C09_child_prefix items n susp lock closeable dies (ops ++ [.sched i]) i (by rw [← hlen]; exact hi)
  have hr : reach items n susp lock closeable dies (ops ++ [.sched i])
      = (step (reach items n susp lock closeable dies ops) (.sched i)).1 := by
    simp only [reach, runOps_append]; rfl
  rw [hr] at hp
  have hs : (step (reach items n susp lock closeable dies ops) (.sched i)).1
      = (sched (reach items n susp lock closeable dies ops) i).1 := by simp [step, hi]
  rw [hs, he] at hp
  obtain ⟨t, ht⟩ := hp
  have := getElem?_append_mid ((reach items n susp lock closeable dies ops).kid i).out v t
  rw [ht] at this
  exact this

/-- **Retention.** A registered buffer holds exactly the fetched items its child has not yielded
    yet; hence once every registered child has yielded the first `k` fetched items, none of
    those `k` items is held in any buffer any more. -/
theorem C09_retention (items n susp lock closeable dies ops) (j : Nat) (hj : j < n) (b : List Val)
    (hb : ((reach items n susp lock closeable dies ops).kid j).buf = some b) :
    b = (reach items n susp lock closeable dies ops).fetched.drop
          ((reach items n susp lock closeable dies ops).kid j).out.length ∧
    ∀ k, (∀ j', j' < n → ((reach items n susp lock closeable dies ops).kid j').buf ≠ none →
            k ≤ ((reach items n susp lock closeable dies ops).kid j').out.length) →
      b <:+ (reach items n susp lock closeable dies ops).fetched.drop k := by
  have h := C09_yielded_plus_buffer items n susp lock closeable dies ops j hj b hb
  have hd : b = (reach items n susp lock closeable dies ops).fetched.drop
      ((reach items n susp lock closeable dies ops).kid j).out.length := by
    rw [← h]; simp
  refine ⟨hd, fun k hk => ?_⟩
  have hkj := hk j hj (by rw [hb]; simp)
  rw [hd]
  have : (reach items n susp lock closeable dies ops).fetched.drop
        ((reach items n susp lock closeable dies ops).kid j).out.length
      = ((reach items n susp lock closeable dies ops).fetched.drop k).drop
        (((reach items n susp lock closeable dies ops).kid j).out.length - k) := by
    rw [List.drop_drop]; congr 1; omega
  rw [this]
  exact List.drop_suffix _ _

/-- **Children closed early stop buffering — partial.** Provided no child is closed before its
    first step and left registered (`NoEarlyClose`: no `child.aclose()` of a child that was never
    advanced, and no `Tee.aclose()` that is aborted by a busy child while some child was never
    advanced — a `Tee.aclose()` that goes over all children is allowed, it unregisters everything
    itself), every child that has finished, been closed or whose consumer was cancelled inside it
    has had its buffer removed: the registered buffers are exactly those of the live children, so
    `C09_retention` speaks about the slowest *live* child.
    (False without the hypothesis: `C09_closed_before_first_step_counterexample`.) -/
theorem C09_closed_stop_buffering_partial (items n susp lock closeable dies ops)
    (hne : NoEarlyClose (init items n susp lock closeable dies) ops) (j : Nat) (hj : j < n) :
    (((reach items n susp lock closeable dies ops).kid j).pc = .done →
      ((reach items n susp lock closeable dies ops).kid j).buf = none) ∧
    (((reach items n susp lock closeable dies ops).kid j).pc ≠ .done →
      ((reach items n susp lock closeable dies ops).kid j).buf ≠ none) := by
  have hj' : j < (reach items n susp lock closeable dies ops).kids.length := by
    rw [reach_len]; exact hj
  exact ⟨(init_tidy items n susp lock closeable dies).runOps_tidy ops hne j hj',
    (reach_inv items n susp lock closeable dies ops).buf_ne_none j hj'⟩

/-- **Retention w.r.t. the slowest live child — partial.** Provided no child is closed before its
    first step and left registered (`NoEarlyClose`, see `C09_closed_stop_buffering_partial`): once
    every live child (not finished, not closed, its consumer not cancelled inside
    it) has yielded the first `k` fetched items, none of those `k` items is held in any buffer.
    (False without the hypothesis: `C09_closed_before_first_step_counterexample`.) -/
theorem C09_retention_live_partial (items n susp lock closeable dies ops)
    (hne : NoEarlyClose (init items n susp lock closeable dies) ops) (k : Nat)
    (hk : ∀ j, j < n → ((reach items n susp lock closeable dies ops).kid j).pc ≠ .done →
      k ≤ ((reach items n susp lock closeable dies ops).kid j).out.length)
    (j : Nat) (hj : j < n) (b : List Val)
    (hb : ((reach items n susp lock closeable dies ops).kid j).buf = some b) :
    b <:+ (reach items n susp lock closeable dies ops).fetched.drop k := by
  refine (C09_retention items n susp lock closeable dies ops j hj b hb).2 k ?_
  intro j' hj' hreg
  refine hk j' hj' ?_
  intro hd
  exact hreg ((C09_closed_stop_buffering_partial items n susp lock closeable dies ops hne j' hj').1 hd)

/-- The code as it is: a child closed individually (`child.aclose()`) before its first step never
    runs its `finally` block, so its buffer stays registered and is fed for ever — after the other
    child has consumed the whole source, the closed child's buffer still holds all three items and
    the source has not been closed.  (Only a later `Tee.aclose()` cleans this up:
    `C09_tee_aclose_unregisters_all`.) -/
theorem C09_closed_before_first_step_counterexample :
    let s := reach [1, 2, 3] 2 [] true true true
      [.close 0, .sched 1, .sched 1, .sched 1, .sched 1, .sched 0]
    (s.kid 0).pc = .done ∧ (s.kid 0).buf = some [1, 2, 3] ∧ (s.kid 1).task = .ended ∧
      (s.kid 1).out = [1, 2, 3] ∧ s.srcCloses = 0 := by
  decide

/-- **`Tee.aclose()` unregisters everything.** In every reachable state, a `Tee.aclose()` that is
    not aborted by a busy child (a child whose `__anext__` is pending makes `child.aclose()` raise
    RuntimeError) leaves every child closed and no buffer registered — also the buffers of children
    that were closed, by it or earlier, before their first step — and, if the source can be closed
    and the tee has at least one child, the source has been closed.  (With `n = 0` there is no
    buffer and nothing closes the source: `if self._buffers:` is false.) -/
theorem C09_tee_aclose_unregisters_all (items n susp lock closeable dies ops)
    (hb : (step (reach items n susp lock closeable dies ops) .closeAll).2 ≠ .busy) :
    (∀ j, j < n →
      ((step (reach items n susp lock closeable dies ops) .closeAll).1.kid j).buf = none ∧
      ((step (reach items n susp lock closeable dies ops) .closeAll).1.kid j).pc = .done) ∧
    (closeable = true → 0 < n →
      0 < (step (reach items n susp lock closeable dies ops) .closeAll).1.srcCloses) := by
  have hlen := reach_len items n susp lock closeable dies ops
  have hcl := (reach_closedLast items n susp lock closeable dies ops).step_ok .closeAll
  have hc := reach_closeable items n susp lock closeable dies ops
  simp only [step] at hb hcl ⊢
  have hnb : (closeFrom (reach items n susp lock closeable dies ops)
      (List.range (reach items n susp lock closeable dies ops).kids.length)).2 ≠ .busy :=
    fun e => hb ((closeAll_out_busy _).2 e)
  have hdone := closeFrom_pc_done _ _ (range_lt (reach items n susp lock closeable dies ops)) hnb
  have hall : ∀ j, j < n →
      ((closeAll (reach items n susp lock closeable dies ops)).1.kid j).buf = none ∧
      ((closeAll (reach items n susp lock closeable dies ops)).1.kid j).pc = .done := by
    intro j hj
    rw [closeAll_not_busy _ hnb]
    have hj' : j < (closeFrom (reach items n susp lock closeable dies ops)
        (List.range (reach items n susp lock closeable dies ops).kids.length)).1.kids.length := by
      rw [closeFrom_length, hlen]; exact hj
    rw [clearBuffers_kid _ j hj']
    exact ⟨rfl, hdone j (by simpa [hlen] using hj)⟩
  refine ⟨hall, fun hcl' hn => ?_⟩
  refine hcl ?_ (by rw [closeAll_length, hlen]; exact hn) ?_
  · have := cfg_closeAll (reach items n susp lock closeable dies ops)
    simp only [St.cfg, Prod.mk.injEq] at this
    rw [this.2.2, hc]; exact hcl'
  · intro j hj
    rw [closeAll_length, hlen] at hj
    exact (hall j hj).1

/-- **Mutual exclusion.** With a lock, at most one child is inside `iterator.__anext__()` at any
    time, and it is the lock holder; under the precondition no pull of the source was ever started
    while another was pending. -/
theorem C09_mutex (items n susp lock closeable dies ops) :
    (lock = true → ∀ j1 j2, j1 < n → j2 < n →
      isFetching ((reach items n susp lock closeable dies ops).kid j1).pc = true →
      isFetching ((reach items n susp lock closeable dies ops).kid j2).pc = true → j1 = j2) ∧
    (Pre lock susp → (reach items n susp lock closeable dies ops).overlap = false) := by
  have hi := reach_inv items n susp lock closeable dies ops
  have hlen := reach_len items n susp lock closeable dies ops
  have hw : (reach items n susp lock closeable dies ops).withLock = lock := by
    have := cfg_runOps (init items n susp lock closeable dies) ops
    simp only [St.cfg, Prod.mk.injEq] at this
    exact this.1
  constructor
  · intro hl j1 j2 h1 h2 f1 f2
    have a := hi.lockFetch (by rw [hw]; exact hl) j1 (by rw [hlen]; exact h1) f1
    have b := hi.lockFetch (by rw [hw]; exact hl) j2 (by rw [hlen]; exact h2) f2
    rw [a] at b; cases b; rfl
  · intro hpre
    exact hi.d.noOverlap (reach_safe items n susp lock closeable dies ops hpre)

/-- **The lock is never leaked.** Whoever holds the lock is a child that is inside the source and
    whose consumer is still running: a closed child, a cancelled consumer or a finished child
    never holds it, so the remaining children are never blocked by them. -/
theorem C09_lock_not_leaked (items n susp lock closeable dies ops) (h : Nat)
    (hh : (reach items n susp lock closeable dies ops).holder = some h) :
    h < n ∧ isFetching ((reach items n susp lock closeable dies ops).kid h).pc = true ∧
      ((reach items n susp lock closeable dies ops).kid h).task = .active := by
  have hi := reach_inv items n susp lock closeable dies ops
  have := hi.holder_lt h hh
  exact ⟨by rw [← reach_len items n susp lock closeable dies ops]; exact this.1, this.2.2,
    hi.inside h this.1 (Or.inl this.2.2)⟩

/-- **Closing or cancelling a child does not disturb the others** (any state, reachable or not):
    every other child keeps its position, its buffer, everything it has yielded and its consumer's
    state; nothing is fetched and nothing is taken from the source. -/
theorem C09_close_cancel_frame (s : St) (i j : Nat) (hi : i < s.kids.length) (hne : j ≠ i) :
    ((step s (.close i)).1.kid j = s.kid j ∧ (step s (.close i)).1.fetched = s.fetched ∧
      (step s (.close i)).1.src = s.src) ∧
    ((step s (.cancel i)).1.kid j = s.kid j ∧ (step s (.cancel i)).1.fetched = s.fetched ∧
      (step s (.cancel i)).1.src = s.src) := by
  simp only [step, hi, if_true]
  exact ⟨closeKid_frame s i j hi hne, cancel_frame s i j hi hne⟩

/-- **A consumer only moves its own child** (any state): a `send` on consumer `i` leaves the
    position, the consumer state and the yielded items of every other child unchanged, and every
    other child stays registered iff it was (it can only get items appended to its buffer). -/
theorem C09_sched_frame (s : St) (i j : Nat) (hj : j < s.kids.length) (hne : j ≠ i) :
    ((step s (.sched i)).1.kid j).pc = (s.kid j).pc ∧
    ((step s (.sched i)).1.kid j).task = (s.kid j).task ∧
    ((step s (.sched i)).1.kid j).out = (s.kid j).out ∧
    (((step s (.sched i)).1.kid j).buf = none ↔ (s.kid j).buf = none) := by
  simp only [step]
  split
  · rename_i hi; exact (sched_eff s i hi).others j hj hne
  · exact ⟨rfl, rfl, rfl, Iff.rfl⟩

/-- **`buffer.popleft()` never fails**: no operation in any reachable state makes a child raise
    IndexError — a running child's buffer is always registered when an item is appended. -/
theorem C09_no_index_error (items n susp lock closeable dies ops) (op : Op) :
    (step (reach items n susp lock closeable dies ops) op).2 ≠ .error :=
  (reach_inv items n susp lock closeable dies ops).step_noerr op

/-- **The source is closed only by the last child** (or by `Tee.aclose()` after it has closed
    every child): once the tee has called `iterator.aclose()`, no buffer is registered any more, so
    no remaining child can be cut off by it. -/
theorem C09_source_closed_last (items n susp lock closeable dies ops)
    (hc : 0 < (reach items n susp lock closeable dies ops).srcCloses) (j : Nat) (hj : j < n) :
    ((reach items n susp lock closeable dies ops).kid j).buf = none :=
  (reach_inv items n susp lock closeable dies ops).d.closedAll hc j (by rw [reach_len]; exact hj)

/-- The precondition is needed: without a lock and with a suspending source, two consumers are
    inside the source at once and the child that is told "end" first finishes although an item is
    still in its buffer. -/
theorem C09_precondition_is_needed :
    let s := reach [1] 2 [1, 1, 1] false true false [.sched 0, .sched 1, .sched 0, .sched 1]
    s.overlap = true ∧ (s.kid 1).task = .ended ∧ (s.kid 1).out = [] ∧ s.fetched = [1] := by
  decide

/-! Non-vacuity: concrete runs that satisfy the hypotheses of the theorems above. -/

/-- lock, suspending source, adversarial interleaving: both children run to exhaustion -/
private def opsA : List Op :=
  [.sched 0, .sched 1, .sched 1, .sched 0, .sched 1, .sched 0, .sched 0, .sched 1, .sched 1,
   .sched 1, .sched 0, .sched 0, .sched 1, .sched 1, .sched 0, .sched 0, .sched 1, .sched 1,
   .sched 0, .sched 1, .sched 0, .sched 1]

example : Pre true [1, 0, 2, 1, 1] := Or.inl rfl
example : Pre false [0, 0] := Or.inr (by decide)
example : ((reach [1, 2, 3] 2 [1, 0, 2, 1, 1] true true true opsA).kid 0).task = .ended ∧
    ((reach [1, 2, 3] 2 [1, 0, 2, 1, 1] true true true opsA).kid 1).task = .ended ∧
    ((reach [1, 2, 3] 2 [1, 0, 2, 1, 1] true true true opsA).kid 1).out = [1, 2, 3] ∧
    (reach [1, 2, 3] 2 [1, 0, 2, 1, 1] true true true opsA).srcCloses = 1 := by decide
/-- a registered, non-empty buffer (hypothesis of `C09_yielded_plus_buffer` / `C09_retention`) -/
example : ((reach [1, 2, 3] 3 [] false true true [.sched 0, .sched 0, .sched 1]).kid 2).buf = some [1, 2] := by
  decide
/-- a delivery (hypothesis of `C09_delivery`) -/
example : (step (reach [1, 2, 3] 3 [] false true true [.sched 0, .sched 0, .sched 1]) (.sched 1)).2 = .item 2 := by
  decide
/-- a child closed after two items and a consumer cancelled inside the source, no early close:
    the third child still gets everything (hypotheses of `C09_closed_stop_buffering_partial`,
    `C09_exhausted_child_complete`, `C09_lock_not_leaked`) -/
private def opsB : List Op :=
  [.sched 0, .sched 0, .sched 1, .sched 2, .sched 0, .sched 0, .close 0, .sched 1, .sched 1,
   .cancel 1, .sched 2, .sched 2, .sched 2, .sched 2, .sched 0]
example : NoEarlyClose (init [1, 2, 3] 3 [1, 1, 1, 1] true true false) opsB := by decide
example : ((reach [1, 2, 3] 3 [1, 1, 1, 1] true true false opsB).kid 2).task = .ended ∧
    ((reach [1, 2, 3] 3 [1, 1, 1, 1] true true false opsB).kid 2).out = [1, 2, 3] ∧
    ((reach [1, 2, 3] 3 [1, 1, 1, 1] true true false opsB).kid 0).task = .stopped ∧
    ((reach [1, 2, 3] 3 [1, 1, 1, 1] true true false opsB).kid 1).task = .cancelled ∧
    (reach [1, 2, 3] 3 [1, 1, 1, 1] true true false opsB).srcKilled = false := by decide
/-- the lock is held at some point (hypothesis of `C09_lock_not_leaked`, `C09_mutex`) -/
example : (reach [1, 2, 3] 2 [1] true true true [.sched 0, .sched 1]).holder = some 0 := by decide
/-- the source gets closed (hypothesis of `C09_source_closed_last`) -/
example : 0 < (reach [1] 2 [] false true true [.sched 0, .sched 1, .sched 0, .sched 1]).srcCloses := by
  decide
/-- `Tee.aclose()` after a child was closed before its first step (and with another child that was
    never advanced): not busy, so the hypothesis of `C09_tee_aclose_unregisters_all` holds; the buffer
    that `child.aclose()` left registered is gone and the source is closed.  Such a `Tee.aclose()` is
    no "early close" (`NoEarlyClose` holds for a sequence that contains it) -/
example :
    let s := reach [1, 2, 3] 3 [] true true true [.close 0, .sched 1, .sched 1]
    (s.kid 0).buf = some [1, 2] ∧ s.srcCloses = 0 ∧ (step s .closeAll).2 = .closed ∧
      ((step s .closeAll).1.kid 0).buf = none ∧ ((step s .closeAll).1.kid 2).buf = none ∧
      (step s .closeAll).1.srcCloses = 1 := by
  decide
example : NoEarlyClose (init [1, 2, 3] 3 [] true true true) [.sched 1, .sched 1, .closeAll, .sched 0] := by
  decide
/-- a `Tee.aclose()` that is aborted by a busy child leaves the buffer of the never-started child it
    closed before registered (the excluded case of `NoEarlyClose`) -/
example :
    let s := reach [1, 2, 3] 2 [1] true true true [.sched 1]
    (step s .closeAll).2 = .busy ∧ ((step s .closeAll).1.kid 0).pc = .done ∧
      ((step s .closeAll).1.kid 0).buf = some [] ∧
      ¬ NoEarlyClose (init [1, 2, 3] 2 [1] true true true) [.sched 1, .closeAll] := by
  decide

end AsyncVerif.Tee
