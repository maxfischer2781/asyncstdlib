import AsyncVerif.Proofs.TeeLive
import AsyncVerif.Properties.C09
/-!
# C09 — liveness of `tee` under fair schedules

`Properties/C09.lean` holds the SAFETY theorems of the `tee` machine (`Machines/Tee.lean`).  This
file adds PROGRESS: whatever has happened before (any sequence `ops` of `send`s, `aclose()`s,
cancellations and `Tee.aclose()`s in any interleaving), a fair scheduler — one that keeps giving
every consumer a turn, `roundRobin n k` = `k` rounds `[sched 0, …, sched (n-1)]`, the "drain" of
the harness — runs every child to its end in a bounded number of rounds.

The argument is a natural-number measure `St.measure` (`Proofs/TeeLive.lean`):

    (suspensions of the pulls the source's script has not started yet)
      + Σ over the children whose consumer is still running of
          2 · (items in its buffer + items the source still holds) + rank of its program counter

with rank 2 before the first step and at the `yield`, 1 while waiting for the lock, `k+1` inside a
pull of the source with `k` further suspensions to come, 1 for a child that was closed under a
running consumer.  No operation makes it larger (`C09_work_never_grows`); a `send` on a running
consumer makes it strictly smaller unless the child waits for a lock that is held — and a held lock
has a holder that is inside the source with a running consumer (`C09_lock_not_leaked`), whose `send`
makes it strictly smaller.  Hence one round makes it strictly smaller while anybody is running
(`C09_round_makes_progress`), and as many rounds as the measure says finish everybody
(`C09_fair_drain_finishes`).

None of the progress theorems needs the property's precondition `Pre lock susp` (without a lock
nobody ever waits); it is needed only where they are combined with the safety theorems
(`C09_drained_children_saw_everything`).
-/
namespace AsyncVerif.Tee

theorem reach_append (items n susp lock closeable dies) (ops l : List Op) :
    reach items n susp lock closeable dies (ops ++ l)
      = runOps (reach items n susp lock closeable dies ops) l := by
  simp only [reach, runOps_append]

/-- **No operation adds work.** A `send`, an `aclose()` of a child, a cancellation and a
    `Tee.aclose()` all leave the measure unchanged or make it smaller — in every state, reachable or
    not.  Hence in every reachable state it is at most the measure of the fresh tee,
    `drainBound items n susp = susp.sum + n * (2 * items.length + 2)`: every suspension of the
    source's script, and for each child two `send`s per item plus two. -/
theorem C09_work_never_grows (items n susp lock closeable dies ops) :
    (∀ (s : St) (op : Op), (step s op).1.measure ≤ s.measure) ∧
    (reach items n susp lock closeable dies ops).measure ≤ drainBound items n susp :=
  ⟨step_measure_le, reach_measure_le items n susp lock closeable dies ops⟩

/-- **A `send` makes progress unless the consumer is finished or waits for a held lock** (any
    state): a `send` on consumer `i` that is still running and whose child is not suspended in
    `lock.__aenter__` with the lock held makes the measure strictly smaller; every other `send` —
    the consumer has ended, was stopped, cancelled, or waits for the lock — changes nothing at all. -/
theorem C09_send_makes_progress (s : St) (i : Nat) (hi : i < s.kids.length) :
    ((s.kid i).task = .active → ¬ ((s.kid i).pc = .acquiring ∧ s.holder.isSome = true) →
      (step s (.sched i)).1.measure < s.measure) ∧
    (((s.kid i).task ≠ .active ∨ ((s.kid i).pc = .acquiring ∧ s.holder.isSome = true)) →
      (step s (.sched i)).1 = s) := by
  simp only [step, hi, if_true]
  refine ⟨fun ha hb => sched_measure_lt s i hi ?_, fun h => sched_blocked s i h⟩
  rintro (h | h)
  · exact h ha
  · exact hb h

/-- **One fair round makes progress.** In every reachable state — after any operations, with or
    without a lock, whatever the source's suspension script — in which the consumer of some child
    is still running (`Task.active`: it has not seen the end of its `async for`, has not been
    cancelled), one round of `send`s over all `n` consumers makes the measure strictly smaller. -/
theorem C09_round_makes_progress (items n susp lock closeable dies ops) (j : Nat) (hj : j < n)
    (ha : ((reach items n susp lock closeable dies ops).kid j).task = .active) :
    (reach items n susp lock closeable dies (ops ++ round n)).measure
      < (reach items n susp lock closeable dies ops).measure := by
  have hlen := reach_len items n susp lock closeable dies ops
  have := (reach_inv items n susp lock closeable dies ops).round_lt j (by rw [hlen]; exact hj) ha
  rw [hlen] at this
  rw [reach_append]
  exact this

/-- **A fair drain finishes every child — bound from the state reached.** After any operation
    prefix `ops`, `B` round-robin rounds with `B` at least the measure of the state reached leave no
    consumer running: every child has been run to its end (`ended`), its consumer has seen the end
    after the child was closed (`stopped`), or the consumer had been cancelled. -/
theorem C09_fair_drain_finishes_from_state (items n susp lock closeable dies ops) (B : Nat)
    (hB : (reach items n susp lock closeable dies ops).measure ≤ B) (j : Nat) (hj : j < n) :
    ((reach items n susp lock closeable dies (ops ++ roundRobin n B)).kid j).task ≠ .active := by
  rw [reach_append]
  exact (reach_inv items n susp lock closeable dies ops).drain n
    (reach_len items n susp lock closeable dies ops) B hB j hj

/-- **A fair drain finishes every child — bound from the configuration.** For every configuration
    (items, number of children, suspension script, lock or not, closeable or not, source dying on a
    cancellation or not — no precondition) and every operation prefix `ops` (`send`s, `aclose()`s,
    cancellations, `Tee.aclose()`s in any interleaving), after
    `drainBound items n susp = susp.sum + n * (2 * items.length + 2)` round-robin rounds (or any
    larger number) no consumer is left running. -/
theorem C09_fair_drain_finishes (items n susp lock closeable dies ops) (B : Nat)
    (hB : drainBound items n susp ≤ B) (j : Nat) (hj : j < n) :
    ((reach items n susp lock closeable dies (ops ++ roundRobin n B)).kid j).task ≠ .active :=
  C09_fair_drain_finishes_from_state items n susp lock closeable dies ops B
    (Nat.le_trans (reach_measure_le items n susp lock closeable dies ops) hB) j hj

/-- **After the drain the lock is free**: no consumer is running, and only a child with a running
    consumer can hold the lock (`C09_lock_not_leaked`). -/
theorem C09_drained_lock_free (items n susp lock closeable dies ops) (B : Nat)
    (hB : (reach items n susp lock closeable dies ops).measure ≤ B) :
    (reach items n susp lock closeable dies (ops ++ roundRobin n B)).holder = none := by
  cases hh : (reach items n susp lock closeable dies (ops ++ roundRobin n B)).holder with
  | none => rfl
  | some h =>
    have hl := C09_lock_not_leaked items n susp lock closeable dies (ops ++ roundRobin n B) h hh
    exact absurd hl.2.2
      (C09_fair_drain_finishes_from_state items n susp lock closeable dies ops B hB h hl.1)

/-- **Drained children saw everything.** Under the precondition (a lock, or a source that never
    suspends): let `ops` be any operation prefix that neither closes child `j` (`aclose()` of it or
    `Tee.aclose()`) nor cancels its consumer — the other children may be closed and cancelled at
    will.  When the fair drain ends (`B` at least the measure of the state reached, e.g.
    `drainBound items n susp`), child `j` has reported the end of the source by itself, it has
    yielded exactly what was ever fetched from the source, the source is exhausted or closed
    (`srcDead`), and — unless a cancellation thrown into another consumer's pending pull finished
    the source (`srcKilled`), which cannot happen if `ops` contains no cancellation at all — that is
    the whole source sequence, in order, and the source holds nothing more. -/
theorem C09_drained_children_saw_everything (items n susp lock closeable dies ops)
    (hpre : Pre lock susp) (B : Nat)
    (hB : (reach items n susp lock closeable dies ops).measure ≤ B) (j : Nat) (hj : j < n)
    (hcl : Op.close j ∉ ops) (hca : Op.cancel j ∉ ops) (hall : Op.closeAll ∉ ops) :
    ((reach items n susp lock closeable dies (ops ++ roundRobin n B)).kid j).task = .ended ∧
    ((reach items n susp lock closeable dies (ops ++ roundRobin n B)).kid j).out
      = (reach items n susp lock closeable dies (ops ++ roundRobin n B)).fetched ∧
    (reach items n susp lock closeable dies (ops ++ roundRobin n B)).srcDead = true ∧
    ((reach items n susp lock closeable dies (ops ++ roundRobin n B)).srcKilled = false →
      ((reach items n susp lock closeable dies (ops ++ roundRobin n B)).kid j).out = items ∧
      (reach items n susp lock closeable dies (ops ++ roundRobin n B)).src = []) ∧
    ((∀ i, Op.cancel i ∉ ops) →
      ((reach items n susp lock closeable dies (ops ++ roundRobin n B)).kid j).out = items) := by
  have hdr := roundRobin_sched n B
  have hnot : ∀ op, (∀ i, op ≠ .sched i) → op ∉ ops → op ∉ ops ++ roundRobin n B := by
    intro op hne h hm
    rcases List.mem_append.1 hm with e | e
    · exact h e
    · obtain ⟨i, rfl⟩ := hdr op e; exact hne i rfl
  have hj0 : j < (init items n susp lock closeable dies).kids.length := by simp [init, hj]
  have hrun : Running (reach items n susp lock closeable dies (ops ++ roundRobin n B)) j :=
    (init_running items n susp lock closeable dies j).runOps_ok
      (init_inv items n susp lock closeable dies) hj0 _
      (hnot _ (by simp) hcl) (hnot _ (by simp) hca) (hnot _ (by simp) hall)
  have hfin := C09_fair_drain_finishes_from_state items n susp lock closeable dies ops B hB j hj
  have he : ((reach items n susp lock closeable dies (ops ++ roundRobin n B)).kid j).task = .ended := by
    rcases hrun with ⟨ha, _⟩ | he
    · exact absurd ha hfin
    · exact he
  have hi := reach_inv items n susp lock closeable dies (ops ++ roundRobin n B)
  have hs := reach_safe items n susp lock closeable dies (ops ++ roundRobin n B) hpre
  have ht := hi.d.taskEnded hs j (by rw [reach_len]; exact hj) he
  have hall' := C09_exhausted_child_complete items n susp lock closeable dies (ops ++ roundRobin n B)
    hpre j hj he
  refine ⟨he, ht.1, ht.2.1, fun hk => ⟨hall'.2 hk, ht.2.2 hk⟩, fun hnc => hall'.2 ?_⟩
  exact killed_runOps (init items n susp lock closeable dies) (ops ++ roundRobin n B)
    (.inr fun i => hnot _ (by simp) (hnc i))

/-- Fairness is needed: a scheduler that keeps resuming only the consumer that waits for the lock
    never gets anywhere — the state does not change — although the lock holder could move. -/
theorem C09_unfair_schedule_starves :
    let s := reach [1, 2] 2 [1] true true true [.sched 0, .sched 1]
    s.holder = some 0 ∧ (s.kid 1).pc = .acquiring ∧
      runOps s [.sched 1, .sched 1, .sched 1, .sched 1, .sched 1] = s ∧
      (step s (.sched 0)).1.measure < s.measure := by
  decide

/-! Non-vacuity: a concrete configuration — 3 children, 2 items, a lock, a source whose first pull
    suspends once — and a prefix after which child 0 holds the lock inside the source, child 1 waits
    for the lock and child 2 has not been started. -/

private def opsL : List Op := [.sched 0, .sched 1]

/-- the configuration bound: 1 suspension + 3 children · (2·2 + 2) -/
example : drainBound [1, 2] 3 [1] = 19 := by decide
/-- the measure of the fresh tee is the configuration bound; after the prefix it is smaller -/
example : (reach [1, 2] 3 [1] true true true []).measure = 19 ∧
    (reach [1, 2] 3 [1] true true true opsL).measure = 16 := by decide
/-- hypotheses of `C09_round_makes_progress`: consumer 1 is running (it waits for the lock that
    child 0 holds inside the source); the round makes the measure smaller -/
example : ((reach [1, 2] 3 [1] true true true opsL).kid 1).task = .active ∧
    ((reach [1, 2] 3 [1] true true true opsL).kid 1).pc = .acquiring ∧
    (reach [1, 2] 3 [1] true true true opsL).holder = some 0 ∧
    (reach [1, 2] 3 [1] true true true (opsL ++ round 3)).measure = 12 := by decide
/-- hypotheses of `C09_drained_children_saw_everything` for every child: the precondition holds and
    the prefix closes and cancels nobody -/
example : Pre true [1] := Or.inl rfl
example : Op.close 2 ∉ opsL ∧ Op.cancel 2 ∉ opsL ∧ Op.closeAll ∉ opsL ∧
    (∀ i, Op.cancel i ∉ opsL) := by simp [opsL]
/-- two rounds are not enough, three are (the measure after 0, 1, 2, 3 rounds: 16, 12, 6, 0) -/
example :
    let s := reach [1, 2] 3 [1] true true true (opsL ++ roundRobin 3 2)
    let s' := reach [1, 2] 3 [1] true true true (opsL ++ roundRobin 3 3)
    (s.kid 2).task = .active ∧ s.measure = 6 ∧
      (s'.kid 0).task = .ended ∧ (s'.kid 1).task = .ended ∧ (s'.kid 2).task = .ended ∧
      s'.measure = 0 := by
  decide
set_option maxRecDepth 4096 in
/-- the drain bound is met: after the prefix and 16 rounds (the measure of the state reached) every
    child has ended by itself, has yielded the whole source, and the source has been closed -/
example :
    let s := reach [1, 2] 3 [1] true true true (opsL ++ roundRobin 3 16)
    (s.kid 0).task = .ended ∧ (s.kid 1).task = .ended ∧ (s.kid 2).task = .ended ∧
      (s.kid 0).out = [1, 2] ∧ (s.kid 1).out = [1, 2] ∧ (s.kid 2).out = [1, 2] ∧
      s.srcDead = true ∧ s.srcCloses = 1 ∧ s.measure = 0 := by
  decide +kernel
/-- a child closed under its running consumer, a consumer cancelled while it waits for the lock and
    a consumer cancelled inside the source (which does not die): the drain still finishes everybody,
    and the untouched child 3 gets everything -/
private def opsM : List Op :=
  [.sched 0, .sched 1, .sched 2, .cancel 1, .cancel 0, .sched 2, .sched 2, .close 2, .sched 3]
example : (reach [1, 2] 4 [1, 1] true true false opsM).measure = 7 := by decide
example : Op.close 3 ∉ opsM ∧ Op.cancel 3 ∉ opsM ∧ Op.closeAll ∉ opsM := by simp [opsM]
set_option maxRecDepth 4096 in
example :
    let s := reach [1, 2] 4 [1, 1] true true false (opsM ++ roundRobin 4 7)
    (s.kid 0).task = .cancelled ∧ (s.kid 1).task = .cancelled ∧ (s.kid 2).task = .stopped ∧
      (s.kid 3).task = .ended ∧ (s.kid 3).out = [1, 2] ∧ s.srcKilled = false ∧ s.src = [] := by
  decide +kernel

end AsyncVerif.Tee
