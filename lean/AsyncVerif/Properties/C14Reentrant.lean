import AsyncVerif.Proofs.ExitStackReentrant
import AsyncVerif.Properties.C14
/-!
# C14, continued — exits that touch their own stack while it unwinds

Property theorems only.  Model: `Machines/ExitStackReentrant.lean` (`Impl.unwind` = the loop of
asyncstdlib's `ExitStack.__aexit__`, `Spec.unwind` = the loop of CPython's
`AsyncExitStack.__aexit__`; several stacks; an exit may `pop_all` / `push` / `callback` on the stack
being unwound before it answers).  Deques are written right end first (`St.stacks`), `St.deque` is
the registration order.
-/
namespace AsyncVerif.ExitStackRe
open AsyncVerif.ExitStack

/-! Fixtures for the non-vacuity examples: the harness family with three pushed exits `0,1,2`
    (2 at the right end of the deque); exit 1 resp. 2 acts. -/
private def st3 : St := St.init (familyItems 3) 4
private def scPop : Script := familyScript 1 .popAll (.raise 401)
private def scPopTop : Script := familyScript 2 .popAll .falsy
private def scPush : Script := familyScript 2 (.push 102) .truthy
private def scCb : Script := familyScript 2 (.callback 202) (.raise 402)
private def scNone : Script := familyScript 7 .popAll .truthy

/-- asyncstdlib's `ExitStack` and CPython's `AsyncExitStack` cannot be told apart by exits that
    touch the stack being unwound: for every script of entries and stack actions, every state of
    the stacks and every block outcome, one `__aexit__`/`aclose`, every history of operations and
    the harness history (block, close the moved stacks, `aclose` again) end in the same state —
    same exit log (which entry ran, during the unwind of which stack, handed which in-flight
    exception), same propagated outcomes, same final stacks, same registrations. -/
theorem C14_reentrant_refines_contextlib (sc : Script) (st : St) :
    (∀ sid body, Impl.unwind sc st sid body = Spec.unwind sc st sid body) ∧
    (∀ ops, Impl.run sc ops st = Spec.run sc ops st) ∧
    (∀ body, Impl.history sc st body = Spec.history sc st body) := by
  refine ⟨fun sid body => unwind_eq sc st sid body, fun ops => ?_, fun body => ?_⟩
  · simp only [Impl.run, Spec.run, unwind_fun_eq]
  · simp only [Impl.history, Spec.history, unwind_fun_eq]

/-! Example: exit 1 of 3 calls `pop_all` and raises 401 while 5 is in flight: 2 and 1 run on stack 0
    with 5, the block raises 401, exit 0 runs with nothing in flight when the moved stack 1 is closed,
    `aclose()` again runs nothing.  Both machines. -/
example : (Impl.history scPop st3 (.raises 5)).log =
    [⟨2, 0, false, some 5⟩, ⟨1, 0, false, some 5⟩, ⟨0, 1, false, none⟩] := by decide
example : (Impl.history scPop st3 (.raises 5)).outs =
    [⟨0, .raises 401, 2⟩, ⟨1, .normal, 3⟩, ⟨0, .normal, 3⟩] := by decide
example : (Spec.history scPop st3 (.raises 5)).log = (Impl.history scPop st3 (.raises 5)).log ∧
    (Spec.history scPop st3 (.raises 5)).outs = (Impl.history scPop st3 (.raises 5)).outs ∧
    (Spec.history scPop st3 (.raises 5)).allDeques = [[], []] := by decide

/-- Every registered exit — registered before the block or by a running exit during an unwind —
    runs at most once over the whole history (any mix of leaving blocks, `aclose`, `pop_all`,
    registering, unwinding again, with exits that `pop_all`/`push`/`callback` while they run),
    provided registrations are distinct objects (distinct ids).  Only registered exits run; an exit
    that ran is on no stack any more; and an exit that is on no stack at the end ran exactly once. -/
theorem C14_reentrant_once (sc : Script) (ops : List Op) (items : List Item) (budget : Nat)
    (hreg : (Impl.run sc ops (St.init items budget)).regs.Nodup) :
    let fin := Impl.run sc ops (St.init items budget)
    fin.logIds.Nodup ∧
    (∀ x, x ∈ fin.logIds → x ∈ fin.regs ∧ ∀ sid, x ∉ itemIds (fin.stacks sid)) ∧
    (∀ x, x ∈ fin.regs → (∀ sid, x ∉ itemIds (fin.stacks sid)) → fin.logIds.count x = 1) := by
  intro fin
  have hi : HInv fin := (Inv.run sc ops (Inv.init items budget)).2 hreg
  refine ⟨hi.logNodup, fun x hx => ⟨hi.known x (Or.inl hx), fun sid hm => hi.logStack sid x hm hx⟩, ?_⟩
  intro x hx hno
  rw [hi.logNodup.count]
  rcases hi.complete x hx with h | ⟨sid, h⟩
  · simp [h]
  · exact absurd h (hno sid)

/-! Example: the hypothesis holds for a history in which exit 2 pushes exit 102 during the unwind, the
    stack is popped from outside and both stacks are closed: 4 registrations, all distinct, all ran. -/
example : (Impl.run scPush [.leave 0 (.raises 5), .register 0 ⟨9, true⟩, .popAll 0, .aclose 1, .aclose 0]
    st3).regs = [0, 1, 2, 102, 9] := by decide
example : (Impl.run scPush [.leave 0 (.raises 5), .register 0 ⟨9, true⟩, .popAll 0, .aclose 1, .aclose 0]
    st3).logIds = [2, 102, 1, 0, 9] := by decide
example : (Impl.run scPush [.leave 0 (.raises 5), .register 0 ⟨9, true⟩, .popAll 0, .aclose 1, .aclose 0]
    st3).regs.Nodup := by decide

/-- Closing a stack (leaving its block or `aclose`) empties it, whatever its exits do to it
    meanwhile: every exit that was on it, or was pushed onto it during the unwind and not moved
    away by `pop_all`, has run when `__aexit__` returns.  (With `C14_reentrant_once`: it ran exactly once.) -/
theorem C14_reentrant_closed_is_empty (sc : Script) (st : St) (sid : Nat) (body : Outcome) :
    (Impl.unwind sc st sid body).stacks sid = [] := by
  unfold Impl.unwind
  exact loop_done sc sid _ st _ (Nat.le_refl _)

example : (Impl.unwind scPush st3 0 (.raises 5)).stacks 0 = [] ∧
    (Impl.unwind scPush st3 0 (.raises 5)).logIds = [2, 102, 1, 0] := by decide

/-- `C14_reentrant_once` for the harness history: block on stack 0, closing every stack that
    `pop_all` produced during the block, `aclose()` of stack 0 again. -/
theorem C14_reentrant_once_history (sc : Script) (items : List Item) (budget : Nat) (body : Outcome)
    (hreg : (Impl.history sc (St.init items budget) body).regs.Nodup) :
    let fin := Impl.history sc (St.init items budget) body
    fin.logIds.Nodup ∧
    (∀ x, x ∈ fin.logIds → x ∈ fin.regs ∧ ∀ sid, x ∉ itemIds (fin.stacks sid)) ∧
    (∀ x, x ∈ fin.regs → (∀ sid, x ∉ itemIds (fin.stacks sid)) → fin.logIds.count x = 1) ∧
    fin.stacks 0 = [] := by
  have e : Impl.history sc (St.init items budget) body =
      Impl.run sc (harnessOps body (Impl.unwind sc (St.init items budget) 0 body).nstacks)
        (St.init items budget) := history_eq_run _ _ _
  intro fin
  have h := C14_reentrant_once sc _ items budget (e ▸ hreg)
  rw [← e] at h
  exact ⟨h.1, h.2.1, h.2.2, C14_reentrant_closed_is_empty sc _ 0 .normal⟩

example : (Impl.history scPush st3 (.raises 5)).regs = [0, 1, 2, 102] ∧
    (Impl.history scPush st3 (.raises 5)).logIds = [2, 102, 1, 0] ∧
    (Impl.history scPush st3 (.raises 5)).regs.Nodup := by decide

/-- `pop_all` from inside an exit.  Exit `it` is popped from stack `sid` (deque then `rest`) and,
    before anything else, calls `stack.pop_all()`.  Then, at whatever point of whatever unwind this
    happens and however the loop goes on: the new stack (id `st.nstacks`) holds exactly `rest` when
    the loop ends — nothing of it ran, nothing was added; every exit that the loop runs on stack
    `sid` after `it` was registered after the `pop_all` (`new`); so, registrations being distinct,
    none of the moved entries runs on the original stack. -/
theorem C14_reentrant_popall_moves (sc : Script) (sid fuel : Nat) (st : St) (ls : Impl.Loop)
    (it : Item) (rest : List Item) (post : List Act)
    (hs : sid < st.nstacks) (heq : st.stacks sid = it :: rest)
    (hacts : (sc.beh it.id (it.handed ls.exc)).1 = .popAll :: post) :
    let fin := (Impl.loop sc sid (fuel + 1) st ls).1
    fin.stacks st.nstacks = rest ∧
    ∃ tail new, fin.log = st.log ++ ⟨it.id, sid, it.cb, it.handed ls.exc⟩ :: tail ∧
      fin.regs = st.regs ++ new ∧
      (∀ r, r ∈ tail → r.sid = sid ∧ r.id ∈ new) ∧
      (fin.regs.Nodup → (∀ x, x ∈ itemIds rest → x ∈ st.regs) → ∀ r, r ∈ tail → r.id ∉ itemIds rest) := by
  intro fin
  obtain ⟨hmoved, tail, new, hl, hregs, hmem⟩ := loop_popAll sc sid fuel st ls it rest post hs heq hacts
  refine ⟨hmoved, tail, new, hl, hregs, hmem, fun hnd hknown r hr hin => ?_⟩
  rw [hregs] at hnd
  exact (List.nodup_append.mp hnd).2.2 _ (hknown _ hin) _ (hmem r hr).2 rfl

/-! Example: exit 2 (top of stack 0 of `st3`) calls `pop_all` first thing: the hypotheses hold, with
    `rest` = exits 1, 0; they end up on stack 1 and nothing else runs on stack 0. -/
example : (0 < st3.nstacks) ∧ st3.stacks 0 = ⟨2, false⟩ :: [⟨1, false⟩, ⟨0, false⟩] ∧
    (scPopTop.beh 2 ((⟨2, false⟩ : Item).handed (some 5))).1 = .popAll :: [] := by decide
example : (Impl.loop scPopTop 0 7 st3 ⟨some 5, false, false⟩).1.stacks 1 = [⟨1, false⟩, ⟨0, false⟩] ∧
    (Impl.loop scPopTop 0 7 st3 ⟨some 5, false, false⟩).1.log = [⟨2, 0, false, some 5⟩] := by decide

/-- ... and the moved entries run when the moved stack `m` is closed.  If they do not touch their
    stack themselves, `aclose()` of the moved stack is `implExit` of `Machines/ExitStack.lean` (hence, by
    `C14_nested`, literally nested `async with`) over exactly these entries with nothing in
    flight: they run in reverse registration order (`moved` is written right end first), each
    exactly once, during the unwind of `m`; each is handed what `nested` says — the exception a
    sibling on the moved stack raised, if any — and if none of them raises, each is handed `none`
    and `aclose()` returns normally.  The original stack is not involved. -/
theorem C14_reentrant_popall_moved_run_at_close (sc : Script) (st : St) (m : Nat) (moved : List Item)
    (hm : st.stacks m = moved) (hq : ∀ it, it ∈ moved → ∀ h, (sc.beh it.id h).1 = []) :
    let entries := moved.reverse.map (entryOf sc)
    ∃ recs, Impl.unwind sc st m .normal =
        { st.setStack m [] with
          log := st.log ++ recs
          outs := st.outs ++ [⟨m, (nested entries .normal).1, (st.log ++ recs).length⟩] } ∧
      recs.map (·.id) = itemIds moved ∧ (∀ r, r ∈ recs → r.sid = m) ∧
      recs.map Rec.pair = (nested entries .normal).2 ∧
      ((∀ it, it ∈ moved → ∀ e, it.resp (sc.beh it.id none).2 ≠ .raise e) →
        recs = moved.map (fun it => ⟨it.id, m, it.cb, none⟩) ∧ (nested entries .normal).1 = .normal) := by
  intro entries
  subst hm
  have hx : nested entries .normal = (_, _) :=
    implExit_nested entries .normal ▸ implExit_quiet sc m (st.stacks m) .normal
  refine ⟨quietRecs sc m (st.stacks m) ⟨Outcome.normal.exc, false, false⟩, ?_,
    quietRecs_ids sc m (st.stacks m) _, quietRecs_sid sc m (st.stacks m) _, by rw [hx], fun hnr => ?_⟩
  · rw [unwind_quiet sc st m .normal hq, hx]
  · rw [hx]; exact quiet_none sc m (st.stacks m) hnr _ rfl rfl

/-! Example: the moved stack 1 of the previous example holds exits 1, 0, which do not act and do not
    raise: closing it runs 1 then 0, each handed `none`. -/
example : ∀ it, it ∈ [(⟨1, false⟩ : Item), ⟨0, false⟩] → ∀ h, (scPopTop.beh it.id h).1 = [] := by
  intro it hit h
  simp only [List.mem_cons, List.not_mem_nil, or_false] at hit
  rcases hit with rfl | rfl <;> rfl
example : (Impl.unwind scPopTop (Impl.unwind scPopTop st3 0 (.raises 5)) 1 .normal).log =
    [⟨2, 0, false, some 5⟩, ⟨1, 1, false, none⟩, ⟨0, 1, false, none⟩] := by decide

/-- An exit pushed during the unwind is the next one to run on that stack and receives the
    exception then in flight.  Exit `it` is popped from stack `sid` while `ls.exc` is in flight and
    its last stack action is `stack.push(new)` (the budget of late registrations not being
    exhausted).  Then the very next exit invocation of the loop is `new`, during the unwind of the
    same stack, and it is handed the exception in flight after `it` answered: what `it` raised,
    nothing if `it` suppressed, otherwise what `it` was handed. -/
theorem C14_reentrant_pushed_runs_next (sc : Script) (sid fuel : Nat) (st : St) (ls : Impl.Loop)
    (it : Item) (rest : List Item) (heq : st.stacks sid = it :: rest)
    (pre : List Act) (new : Nat)
    (hacts : (sc.beh it.id (it.handed ls.exc)).1 = pre ++ [.push new]) (hbud : pre.length < st.budget) :
    ∃ tail, (Impl.loop sc sid (fuel + 2) st ls).1.log =
      st.log ++ [⟨it.id, sid, it.cb, it.handed ls.exc⟩,
                 ⟨new, sid, false, (Impl.react ls (it.resp (sc.beh it.id (it.handed ls.exc)).2)).exc⟩]
        ++ tail :=
  loop_runs_registered_next sc sid fuel st ls it rest heq pre (.push new) ⟨new, false⟩ rfl hacts hbud

/-! Example: exit 2 pushes exit 102 and suppresses 5: 102 runs next, on stack 0, handed `none`. -/
example : st3.stacks 0 = ⟨2, false⟩ :: [⟨1, false⟩, ⟨0, false⟩] ∧
    (scPush.beh 2 ((⟨2, false⟩ : Item).handed (some 5))).1 = [] ++ [.push 102] ∧
    ([] : List Act).length < st3.budget := by decide
example : (Impl.loop scPush 0 2 st3 ⟨some 5, false, false⟩).1.log =
    [⟨2, 0, false, some 5⟩, ⟨102, 0, false, none⟩] := by decide

/-- The same for `stack.callback(fn, ...)` from inside an exit: the late callback is the next one
    to run on that stack (and, being a callback, is handed nothing). -/
theorem C14_reentrant_callback_runs_next (sc : Script) (sid fuel : Nat) (st : St) (ls : Impl.Loop)
    (it : Item) (rest : List Item) (heq : st.stacks sid = it :: rest)
    (pre : List Act) (new : Nat)
    (hacts : (sc.beh it.id (it.handed ls.exc)).1 = pre ++ [.callback new]) (hbud : pre.length < st.budget) :
    ∃ tail, (Impl.loop sc sid (fuel + 2) st ls).1.log =
      st.log ++ [⟨it.id, sid, it.cb, it.handed ls.exc⟩, ⟨new, sid, true, none⟩] ++ tail :=
  loop_runs_registered_next sc sid fuel st ls it rest heq pre (.callback new) ⟨new, true⟩ rfl hacts hbud

/-! Example: exit 2 registers callback 202 and raises 402: the callback runs next, exit 1 then gets 402. -/
example : (scCb.beh 2 ((⟨2, false⟩ : Item).handed none)).1 = [] ++ [.callback 202] := by decide
example : (Impl.loop scCb 0 3 st3 ⟨none, false, false⟩).1.log =
    [⟨2, 0, false, none⟩, ⟨202, 0, true, none⟩, ⟨1, 0, false, some 402⟩] := by decide

/-- On exits without stack actions this machine is that of `Machines/ExitStack.lean`: unwinding a stack whose
    entries only answer is `implExit` (= `nested`, by `C14_nested`) of `Machines/ExitStack.lean` on
    the corresponding entries in registration order — same outcome, same (entry, handed) log —
    and touches nothing but that stack, which it empties.  So `C14_nested`, `C14_order`, … carry
    over to the re-entrant machine. -/
theorem C14_reentrant_conservative (sc : Script) (st : St) (sid : Nat) (body : Outcome)
    (hq : ∀ it, it ∈ st.stacks sid → ∀ h, (sc.beh it.id h).1 = []) :
    let entries := (st.deque sid).map (entryOf sc)
    ∃ recs, Impl.unwind sc st sid body =
        { st.setStack sid [] with
          log := st.log ++ recs
          outs := st.outs ++ [⟨sid, (implExit entries body).1, (st.log ++ recs).length⟩] } ∧
      recs.map Rec.pair = (implExit entries body).2 ∧ (∀ r, r ∈ recs → r.sid = sid) ∧
      implExit entries body = nested entries body := by
  intro entries
  have hx : implExit entries body = (_, _) := implExit_quiet sc sid (st.stacks sid) body
  refine ⟨quietRecs sc sid (st.stacks sid) ⟨body.exc, false, false⟩, ?_, ?_,
    quietRecs_sid sc sid (st.stacks sid) _, C14_nested ..⟩
  · rw [unwind_quiet sc st sid body hq, hx]
  · rw [hx]

/-! Example: in `scNone` only exit 7 would act; the stack of `st3` does not hold it. -/
example : ∀ it, it ∈ st3.stacks 0 → ∀ h, (scNone.beh it.id h).1 = [] := by
  intro it hit h
  have : it ∈ [(⟨2, false⟩ : Item), ⟨1, false⟩, ⟨0, false⟩] := hit
  simp only [List.mem_cons, List.not_mem_nil, or_false] at this
  rcases this with rfl | rfl | rfl <;> rfl
example : (Impl.unwind scNone st3 0 (.raises 5)).log =
    [⟨2, 0, false, some 5⟩, ⟨1, 0, false, some 5⟩, ⟨0, 0, false, some 5⟩] ∧
    (implExit ((st3.deque 0).map (entryOf scNone)) (.raises 5)).2 = [(2, some 5), (1, some 5), (0, some 5)] := by
  decide

/-- A script none of whose exits ever acts on a stack: `C14_reentrant_conservative` applies to every
    stack in every state. -/
theorem C14_reentrant_conservative_script (sc : Script) (hsc : ∀ id h, (sc.beh id h).1 = [])
    (st : St) (sid : Nat) (body : Outcome) :
    (Impl.unwind sc st sid body).outs =
      st.outs ++ [⟨sid, (nested ((st.deque sid).map (entryOf sc)) body).1,
                   (Impl.unwind sc st sid body).log.length⟩] ∧
    (Impl.unwind sc st sid body).log.map Rec.pair =
      st.log.map Rec.pair ++ (nested ((st.deque sid).map (entryOf sc)) body).2 := by
  obtain ⟨recs, h1, h2, _, h4⟩ := C14_reentrant_conservative sc st sid body (fun it _ h => hsc it.id h)
  rw [h1, ← h4]
  exact ⟨rfl, by simp [h2]⟩

/-! Example: a script in which no exit ever acts. -/
example : ∀ id h, ((⟨fun _ _ => ([], .truthy)⟩ : Script).beh id h).1 = [] := fun _ _ => rfl

end AsyncVerif.ExitStackRe
