import AsyncVerif.Proofs.Cleanup
/-!
# C04 / C18 — the clean-up helper `_core.close_all` closes every iterator, whatever the others do

Property theorems only.  Model: `Machines/Cleanup.lean` (`closeAllRobust` = `_core.close_all` as
written, `closeAllFlat` = the old plain loop of `zip`/`zip_longest`/`merge`/`chain.aclose`,
`closeNested`/`scopes` = literally nested `async with ScopedIter(..)`, `finallyCloseAll` =
`try: .. finally: await close_all(..)`).  These theorems lift hypothesis H-close (a user `aclose()`
neither raises nor suspends) of the S1 tool models for the clean-up step itself: every behaviour
list is allowed — missing `aclose`, success, a raising `aclose`, a cancellation thrown into a
suspended `aclose`.

Vocabulary (`Proofs/Cleanup.lean`): `closeableIdx behs` = the positions of the iterators that have
an `aclose`, increasing; `lastFailure behs` = `(behs.filterMap CloseBeh.exc).getLast?` = the
exception of the last raising `aclose` in list order.
-/
namespace AsyncVerif.Cleanup

/-- C04 for the clean-up step, no hypothesis on failures: after `close_all`, for every list of
    behaviours, (1) the invocation log is exactly the positions of the iterators that have an
    `aclose`, (2) it is strictly increasing — list order, nothing twice —, (3) every iterator that
    has an `aclose` had it invoked exactly once and the others never, whatever the other
    iterators' `aclose` did (raise, be cancelled), and (4) the per-iterator counters of the
    machine say the same. -/
theorem C04_cleanup_every_iterator_closed (behs : List CloseBeh) :
    (closeAllRobust behs).1 = closeableIdx behs
    ∧ (closeAllRobust behs).1.Pairwise (· < ·)
    ∧ (∀ i (h : i < behs.length),
        (closeAllRobust behs).1.count i = if behs[i] = .noAclose then 0 else 1)
    ∧ (∀ i, behs.length ≤ i → (closeAllRobust behs).1.count i = 0)
    ∧ (runRobust behs).closes = behs.map (fun b => if b = .noAclose then 0 else 1) := by
  have hlog : (closeAllRobust behs).1 = closeableIdx behs := by rw [closeAllRobust_closed]
  refine ⟨hlog, ?_, ?_, ?_, ?_⟩
  · rw [hlog]; exact closeableIds_zipIdx_pairwise behs 0
  · intro i h; rw [hlog]; exact count_closeableIdx behs i h
  · intro i h; rw [hlog]; exact count_closeableIdx_oob behs i h
  · rw [runRobust_closes]
    have : (runRobust behs).log = closeableIdx behs := hlog
    rw [this, countsOf_closeableIdx]

/-- Consequence for the iterators themselves: an iterator whose `aclose` completes its own closing
    once invoked (`ok`, or `raises e` = closes but raises) IS closed after `close_all`, whatever
    the others did; only a missing `aclose` or an `aclose` that was itself interrupted can leave
    an iterator open. -/
theorem C04_cleanup_closedAfter (behs : List CloseBeh) :
    closedAfter behs (closeAllRobust behs).1 = behs.map CloseBeh.completes := by
  rw [closeAllRobust_closed]
  apply List.ext_getElem
  · simp [closedAfter]
  · intro i h1 h2
    have hi : i < behs.length := by simpa using h2
    have hm := mem_closeableIdx behs i
    rw [List.getElem?_eq_getElem hi] at hm
    simp only [closedAfter, List.getElem_map, List.getElem_zipIdx, Nat.zero_add]
    cases hb : behs[i] <;> rw [hb] at hm
    · rfl
    · exact List.contains_iff_mem.2 (hm.2 ⟨_, rfl, rfl⟩)
    · exact List.contains_iff_mem.2 (hm.2 ⟨_, rfl, rfl⟩)
    · rfl

/-- `close_all(it0, .., itn)` refines leaving the nested scopes
    `async with ScopedIter(itn), .., ScopedIter(it1), ScopedIter(it0): pass`
    (scopes entered in reverse list order, so that it0 — the innermost — is exited first):
    the same `aclose` invocations in the same order and the same propagated exception, for every
    list of behaviours. -/
theorem C04_cleanup_refines_nested (behs : List CloseBeh) :
    closeAllRobust behs = closeNested behs := by
  rw [closeAllRobust_closed, closeNested, closeNested_closed, replaceBy_none_right]

/-- Which exception leaves `close_all`: (1) none iff no `aclose` raises; (2) it is the exception of
    the LAST raising iterator in list order — stated as `getLast?` of the raised exceptions and
    (3) explicitly: if `b` raises `e` and nothing after `b` raises, `e` propagates whatever the
    iterators before `b` raised. -/
theorem C18_cleanup_last_failure_propagates (behs : List CloseBeh) :
    ((closeAllRobust behs).2 = none ↔ ∀ b ∈ behs, b.exc = none)
    ∧ (closeAllRobust behs).2 = (behs.filterMap CloseBeh.exc).getLast?
    ∧ (∀ pre b post e, behs = pre ++ b :: post → b.exc = some e → (∀ p ∈ post, p.exc = none) →
        (closeAllRobust behs).2 = some e) := by
  have hexc : (closeAllRobust behs).2 = (behs.filterMap CloseBeh.exc).getLast? := by
    rw [closeAllRobust_closed]; rfl
  refine ⟨?_, hexc, ?_⟩
  · rw [hexc, List.getLast?_eq_none_iff, List.filterMap_eq_nil_iff]
  · intro pre b post e hd hb hpost
    have hp : post.filterMap CloseBeh.exc = [] := List.filterMap_eq_nil_iff.mpr hpost
    rw [hexc, hd, List.filterMap_append, List.filterMap_cons, hb, hp]
    simp

/-- Exactly one `aclose` fails or is cancelled (`b`, raising `e`), all others succeed or are
    missing: that very exception propagates out of `close_all` — and (by
    `C04_cleanup_every_iterator_closed`, restated here) every other closeable iterator, before
    and after `b`, was still closed. -/
theorem C18_cleanup_single_cancellation (pre post : List CloseBeh) (b : CloseBeh) (e : ExcId)
    (hb : b.exc = some e) (hpost : ∀ p ∈ post, p.exc = none) :
    (closeAllRobust (pre ++ b :: post)).2 = some e
    ∧ (closeAllRobust (pre ++ b :: post)).1 = closeableIdx (pre ++ b :: post) := by
  exact ⟨(C18_cleanup_last_failure_propagates _).2.2 pre b post e rfl hb hpost,
    (C04_cleanup_every_iterator_closed _).1⟩

/-- The old plain loop on a concrete list: the `aclose` of iterator 1 raises 7, so iterator 3 is
    never closed; `close_all` closes it and propagates the same exception. -/
theorem C04_cleanup_flat_loop_counterexample :
    closeAllFlat [.ok, .raises 7, .noAclose, .ok] = ([0, 1], some 7)
    ∧ closeAllRobust [.ok, .raises 7, .noAclose, .ok] = ([0, 1, 3], some 7)
    ∧ (runFlat [.ok, .raises 7, .noAclose, .ok]).closes = [1, 1, 0, 0]
    ∧ (runRobust [.ok, .raises 7, .noAclose, .ok]).closes = [1, 1, 0, 1] := by
  decide

/-- General characterisation of the OLD loop: (1) if no `aclose` raises it behaves like
    `close_all`; (2) otherwise, with `b` the FIRST raising iterator, it invokes exactly the
    closeable iterators up to and including `b`, nothing after it, and propagates `b`'s exception
    (not the last one); (3) uniformly: it is `close_all` run on the prefix that ends with the first
    raising iterator; (4) so it closed every closeable iterator iff no iterator after a raising
    one has an `aclose` — i.e. iff no `aclose` before the last closeable iterator raises. -/
theorem C04_cleanup_flat_skips_after_first_failure (behs : List CloseBeh) :
    ((∀ b ∈ behs, b.exc = none) → closeAllFlat behs = closeAllRobust behs)
    ∧ (∀ pre b post e, behs = pre ++ b :: post → (∀ p ∈ pre, p.exc = none) → b.exc = some e →
        closeAllFlat behs = (closeableIdx pre ++ [pre.length], some e)
        ∧ (closeAllRobust behs).1
            = closeableIdx pre ++ [pre.length] ++ closeableIds (post.zipIdx (pre.length + 1)))
    ∧ closeAllFlat behs
        = closeAllRobust (behs.take (behs.findIdx (fun b => b.exc.isSome) + 1))
    ∧ ((closeAllFlat behs).1 = (closeAllRobust behs).1 ↔
        ∀ pre b post, behs = pre ++ b :: post → b.exc ≠ none → ∀ p ∈ post, p = .noAclose) := by
  refine ⟨closeAllFlat_noexc behs, ?_, closeAllFlat_take behs, ?_⟩
  · intro pre b post e hd hpre hb
    subst hd
    refine ⟨closeAllFlat_first_failure pre post b e hpre hb, ?_⟩
    rw [closeAllRobust_closed]
    exact closeableIdx_append_cons pre post b (by intro h; subst h; simp [CloseBeh.exc] at hb)
  · exact flat_log_iff behs 0 (State.init behs.length)

/-- Every behaviour list either never raises or splits at its first raising iterator, so cases
    (1) and (2) of `C04_cleanup_flat_skips_after_first_failure` are exhaustive. -/
theorem C04_cleanup_flat_cases (behs : List CloseBeh) :
    (∀ b ∈ behs, b.exc = none) ∨
    ∃ pre b post e, behs = pre ++ b :: post ∧ (∀ p ∈ pre, p.exc = none) ∧ b.exc = some e :=
  exists_first_failure behs

/-- `try: <body> finally: await close_all(its)` (the position of `close_all` in `zip`,
    `zip_longest`, `merge`): whatever the body did (`inflight` = the exception it raised, if any),
    (1) every closeable iterator is closed exactly as without an exception in flight; (2) the
    exception leaving the statement is the last close failure if there is one, else the in-flight
    one (in particular `none` iff nothing was in flight and nothing failed); (3) this is what the
    nested scopes around the same body do. -/
theorem C04_cleanup_finally (inflight : Option ExcId) (behs : List CloseBeh) :
    (finallyCloseAll inflight behs).1 = closeableIdx behs
    ∧ (finallyCloseAll inflight behs).2
        = (match (behs.filterMap CloseBeh.exc).getLast? with
           | some e => some e
           | none => inflight)
    ∧ finallyCloseAll inflight behs = finallyNested inflight behs := by
  refine ⟨?_, ?_, ?_⟩
  · simp only [finallyCloseAll, closeAllRobust_closed]
  · simp only [finallyCloseAll, closeAllRobust_closed]; rfl
  · simp only [finallyCloseAll, finallyNested, closeAllRobust_closed, closeNested_closed]

/-- `chain.aclose` is `try: await close_all(owned) finally: await self._iterator.aclose()`: one
    more `finally` level around `close_all`.  It behaves like `close_all(owned ++ [iterator])`:
    the inner iterator is closed whatever closing the owned ones did, and the most recent failure
    propagates. -/
theorem C04_cleanup_chain_aclose (owned : List CloseBeh) (b : CloseBeh) :
    (finallyCloseAll (closeAllRobust owned).2 [b]).2 = (closeAllRobust (owned ++ [b])).2
    ∧ (closeAllRobust (owned ++ [b])).1
        = (closeAllRobust owned).1 ++ (if b = .noAclose then [] else [owned.length]) := by
  simp only [finallyCloseAll, closeAllRobust_closed]
  constructor
  · rw [lastFailure_append]
  · unfold closeableIdx
    rw [List.zipIdx_append, closeableIds_append, Nat.zero_add]
    cases b <;> rfl

/-- a non-trivial list: two different failures, a missing `aclose`, an interrupted one -/
def exBehs : List CloseBeh := [.ok, .raises 7, .noAclose, .ok, .interrupted 9, .ok]

example : (closeAllRobust exBehs).1 = [0, 1, 3, 4, 5]
    ∧ (runRobust exBehs).closes = [1, 1, 0, 1, 1, 1] := by
  have h := C04_cleanup_every_iterator_closed exBehs
  refine ⟨h.1.trans (by decide), h.2.2.2.2.trans (by decide)⟩

example : (closeAllRobust exBehs).1.count 3 = 1 :=
  (C04_cleanup_every_iterator_closed exBehs).2.2.1 3 (by decide)

example : closedAfter exBehs (closeAllRobust exBehs).1 = [true, true, false, true, false, true] :=
  (C04_cleanup_closedAfter exBehs).trans (by decide)

example : closeAllRobust exBehs = closeNested exBehs ∧ closeNested exBehs = ([0, 1, 3, 4, 5], some 9) :=
  ⟨C04_cleanup_refines_nested exBehs, by decide⟩

example : (closeAllRobust exBehs).2 = some 9 :=
  (C18_cleanup_last_failure_propagates exBehs).2.2 [.ok, .raises 7, .noAclose, .ok] (.interrupted 9)
    [.ok] 9 rfl rfl (by decide)

example : (closeAllRobust [.ok, .noAclose, .ok]).2 = none :=
  (C18_cleanup_last_failure_propagates [.ok, .noAclose, .ok]).1.mpr (by decide)

/-- a single cancellation in the middle: it propagates, and iterators 0, 2, 3 are all closed -/
example : (closeAllRobust ([.ok] ++ .interrupted 5 :: [.ok, .ok])).2 = some 5
    ∧ (closeAllRobust ([.ok] ++ .interrupted 5 :: [.ok, .ok])).1 = [0, 1, 2, 3] := by
  have h := C18_cleanup_single_cancellation [.ok] [.ok, .ok] (.interrupted 5) 5 rfl (by decide)
  exact ⟨h.1, h.2.trans (by decide)⟩

/-- the old loop on `exBehs`: stops after iterator 1, propagates 7 (not 9), leaves 3, 4, 5 open -/
example : closeAllFlat exBehs = ([0, 1], some 7) :=
  ((C04_cleanup_flat_skips_after_first_failure exBehs).2.1 [.ok] (.raises 7)
    [.noAclose, .ok, .interrupted 9, .ok] 7 rfl (by decide) rfl).1

example : (closeAllFlat exBehs).1 ≠ (closeAllRobust exBehs).1 := by
  intro h
  have := (C04_cleanup_flat_skips_after_first_failure exBehs).2.2.2.mp h [.ok] (.raises 7)
    [.noAclose, .ok, .interrupted 9, .ok] rfl (by decide) .ok (by decide)
  exact absurd this (by decide)

/-- the old loop was complete when only the last closeable iterator raises -/
example : (closeAllFlat [.ok, .ok, .raises 3, .noAclose]).1
    = (closeAllRobust [.ok, .ok, .raises 3, .noAclose]).1 := by
  decide

/-- in flight 5, closing fails with 7 then 9: 9 leaves; nothing fails: 5 continues -/
example : finallyCloseAll (some 5) exBehs = ([0, 1, 3, 4, 5], some 9)
    ∧ finallyCloseAll (some 5) [.ok, .noAclose, .ok] = ([0, 2], some 5) := by
  have h1 := C04_cleanup_finally (some 5) exBehs
  have h2 := C04_cleanup_finally (some 5) [.ok, .noAclose, .ok]
  exact ⟨Prod.ext (h1.1.trans (by decide)) (h1.2.1.trans (by decide)),
    Prod.ext (h2.1.trans (by decide)) (h2.2.1.trans (by decide))⟩

/-- chain.aclose: an owned iterator fails with 7, closing the inner iterator is cancelled with 4 -/
example : (finallyCloseAll (closeAllRobust [.ok, .raises 7]).2 [.interrupted 4]).2 = some 4
    ∧ (closeAllRobust ([.ok, .raises 7] ++ [.interrupted 4])).1 = [0, 1, 2] := by
  have h := C04_cleanup_chain_aclose [.ok, .raises 7] (.interrupted 4)
  exact ⟨h.1.trans (by decide), h.2.trans (by decide)⟩

end AsyncVerif.Cleanup
