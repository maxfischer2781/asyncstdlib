import AsyncVerif.Proofs.Adapters
/-!
# C19 — asynctools adapters normalise every async shape to the same plain result

Property theorems only.  Model: `Machines/Adapters.lean` (`anyStep` = `any_iter`, `eachStep` =
`await_each`, `apply`, `sync`/`asyncWrapped`/`callSynced`); the specifications are the plain list
functions `specOps`/`specOuts`, `eachSeg`/`tailSteps` and `native` of the same file.
-/
namespace AsyncVerif.Adapters

/-- For every argument shape — plain or behind an awaitable (any tokens, possibly failing), a list,
    an iterator or an async iterator (any tokens per pull), every item plain or awaitable (any
    tokens, possibly failing) — and every sequence of consumer operations (requests and closes in
    any order), the consumer sees the plain results of the items in order, one per request; the
    first failure surfaces once, as that exception; afterwards, and after a close, the generator
    is finished. -/
theorem C19_any_iter_ops (o : Option Outer) (src : Src) (ops : List Op) :
    outs (run anyStep (.fresh o src) ops) = specOps (anyResults o src) ops :=
  any_outs (.fresh o src) ops

/-- Shape independence, fault-free reading: if the items stand for the plain values `vals`
    (each either is `vals[i]` or is an awaitable producing `vals[i]`), then for each of the
    2 × 3 × 2^n shapes and all tokens, `k` requests give the first `k` of
    `vals` followed by `StopAsyncIteration`s. -/
theorem C19_any_iter_shape (o : Option Outer) (src : Src) (vals : List Val) (k : Nat)
    (ho : o.bind (·.fail) = none) (hv : src.items.map (fun p => p.2.res) = vals.map Res.ok) :
    outs (run anyStep (.fresh o src) (List.replicate k .next))
      = (vals.map Out.item ++ List.replicate k Out.stop).take k := by
  rw [any_outs, specOps_replicate, anyRes, anyResults, ho]
  simp only [hv]
  exact specOuts_ok vals k k (Nat.le_refl k)

/-- Two arguments of whatever shapes whose items stand for the same results are
    indistinguishable to every consumer. -/
theorem C19_any_iter_same (o₁ o₂ : Option Outer) (s₁ s₂ : Src) (ops : List Op)
    (h : anyResults o₁ s₁ = anyResults o₂ s₂) :
    outs (run anyStep (.fresh o₁ s₁) ops) = outs (run anyStep (.fresh o₂ s₂) ops) := by
  rw [any_outs, any_outs]; exact congrArg (specOps · ops) h

/-- Closing `any_iter` in any state awaits nothing and pulls nothing, and nothing happens on any
    later operation. -/
theorem C19_any_iter_after_close (s : AnySt) (ops : List Op) :
    run anyStep s (.close :: ops) = ([], .closed) :: ops.map deadStep := by
  exact congrArg (([], .closed) :: ·) (any_done ops)

/-- `await_each` over a list or iterator, under every sequence of consumer operations: each
    request gives the result of the next awaitable, in order; the first failure (or a
    non-awaitable element: `TypeError`) surfaces once and ends the generator. -/
theorem C19_await_each_ops (src : Src) (hk : src.kind ≠ .aiter) (ops : List Op) :
    outs (run eachStep (.live src) ops) = specOps (eachResults src) ops := by
  rw [each_outs, eachRes, if_neg hk]

/-- Laziness, request by request: for awaitables that do not fail, the `i`-th request of the
    consumer consists of exactly: one more element taken from the source, the `i`-th awaitable
    run from its start through all its suspensions to its completion, its value handed out —
    nothing of any other awaitable.  Requests beyond the end find the source exhausted once and
    then do nothing. -/
theorem C19_await_each_lazy (kind : Kind) (hk : kind ≠ .aiter) (aws : List Aw)
    (hok : ∀ a ∈ aws, ∃ v, a.res = .ok v) (k : Nat) :
    run eachStep (.live (awSrc kind aws)) (List.replicate k .next)
      = (aws.map (eachSeg kind)).take k ++ tailSteps kind (k - aws.length) :=
  each_steps kind hk aws hok k

/-- Only when asked: under every sequence of consumer operations (requests and closes, failing
    awaitables included), an awaitable that is preceded in the source by at least as many
    elements as the consumer made requests, and is a different object from those, is never
    started. -/
theorem C19_await_each_only_when_asked (kind : Kind) (pre post : List Aw) (a : Aw) (ops : List Op)
    (hn : nexts ops ≤ pre.length) (hd : a.id ∉ pre.map (·.id)) :
    Ev.start a.id ∉ trace (run eachStep (.live (awSrc kind (pre ++ a :: post))) ops) := by
  intro h
  have h2 := each_started _ _ _ h
  simp only [awSrc, List.map_append, List.map_cons] at h2
  rw [List.take_append_of_le_length (by simpa using hn), ← List.map_take, awIds_awSrc] at h2
  obtain ⟨b, hb, hid⟩ := List.mem_map.mp h2
  exact hd (List.mem_map.mpr ⟨b, List.mem_of_mem_take hb, hid⟩)

/-- Closing `await_each` awaits nothing, and nothing happens on any later operation. -/
theorem C19_await_each_after_close (s : EachSt) (ops : List Op) :
    run eachStep s (.close :: ops) = ([], .closed) :: ops.map deadStep := by
  exact congrArg (([], .closed) :: ·) (each_done ops)

/-- If every positional and keyword argument is an awaitable that succeeds, `apply` awaits the
    positional ones in order, then the keyword ones in order, each completely before the next,
    then calls the function once with the awaited values (keywords under their names), and its
    result — value or exception — is the function's. -/
theorem C19_apply_value (f : Fn) (args : List Item) (kwargs : List (Nat × Item))
    (vs kvs : List Val)
    (ha : args.map (fun it => (awaitItem it).2) = vs.map Res.ok)
    (hk : kwargs.map (fun p => (awaitItem p.2).2) = kvs.map Res.ok) :
    apply f args kwargs =
      ((args.map fun it => (awaitItem it).1).flatten ++ (kwargs.map fun p => (awaitItem p.2).1).flatten
          ++ [Ev.call f.id vs ((kwargs.map Prod.fst).zip kvs)],
        f.beh vs ((kwargs.map Prod.fst).zip kvs)) := by
  simp only [apply, awaitAll_ok args vs ha, awaitKw_eq, awaitAll_ok _ kvs (by rwa [List.map_map]),
    List.map_map, Except.map]
  rfl

/-- If a positional argument fails, that exception is the result; the function is not called and
    no later argument is awaited. -/
theorem C19_apply_arg_fails (f : Fn) (pre : List Item) (vs : List Val) (bad : Item)
    (post : List Item) (kwargs : List (Nat × Item)) (e : Exc)
    (h : pre.map (fun it => (awaitItem it).2) = vs.map Res.ok) (hb : (awaitItem bad).2 = .err e) :
    apply f (pre ++ bad :: post) kwargs
      = ((pre.map fun it => (awaitItem it).1).flatten ++ (awaitItem bad).1, .err e) := by
  simp only [apply, awaitAll_fail pre vs bad post e h hb]

/-- If a keyword argument fails (all positional ones having succeeded), that exception is the
    result; the function is not called and no later argument is awaited. -/
theorem C19_apply_kw_fails (f : Fn) (args : List Item) (vs : List Val)
    (pre : List (Nat × Item)) (kvs : List Val) (bad : Nat × Item) (post : List (Nat × Item)) (e : Exc)
    (ha : args.map (fun it => (awaitItem it).2) = vs.map Res.ok)
    (h : pre.map (fun p => (awaitItem p.2).2) = kvs.map Res.ok) (hb : (awaitItem bad.2).2 = .err e) :
    apply f args (pre ++ bad :: post)
      = ((args.map fun it => (awaitItem it).1).flatten
          ++ ((pre.map fun p => (awaitItem p.2).1).flatten ++ (awaitItem bad.2).1), .err e) := by
  simp only [apply, awaitAll_ok args vs ha, awaitKw_eq, List.map_append, List.map_cons,
    awaitAll_fail _ kvs bad.2 _ e (by rwa [List.map_map]) hb, List.map_map, Except.map]
  rfl

/-- Awaiting `sync(f)(*args, **kwargs)` is, for every callable flavour (plain function, function
    returning an awaitable, object with `async def __call__`, `async def`, `partial` of an
    `async def`), exactly what the callable gives natively: it runs once with the same
    arguments, its awaitable (if any) suspends with the same tokens, and the same value or the
    same exception comes out. -/
theorem C19_sync_same (f : UFn) (hc : f.flavour.callable = true) (args : List Val)
    (kw : List (Nat × Val)) : callSynced f args kw = native f args kw := by
  obtain ⟨fl, id, toks, res⟩ := f
  cases fl with
  | notCallable => cases hc
  | syncPlain =>
    -- wrapped; the plain result (or the exception of the call) is handed on
    simp only [callSynced, sync, asyncWrapped, callRaw, native, Flavour.callable, Flavour.isCoroFn,
      Flavour.returnsAw, Bool.not_true, Bool.false_eq_true, if_false]
    cases res args kw <;> rfl
  | syncAw => rfl
  | objAsync => rfl
  | asyncDef => rfl
  | partialAsync => rfl

/-- `sync` returns its argument unchanged exactly for coroutine functions, wraps every other
    callable, and raises `TypeError` exactly for non-callables. -/
theorem C19_sync_unchanged (f : UFn) :
    (sync f = .same ↔ f.flavour.isCoroFn = true) ∧
    (sync f = .typeError ↔ f.flavour.callable = false) ∧
    (sync f = .wrapped ↔ (f.flavour.callable = true ∧ f.flavour.isCoroFn = false)) := by
  obtain ⟨fl, id, toks, res⟩ := f
  cases fl <;> simp [sync, Flavour.callable, Flavour.isCoroFn]

private def a0 : Aw := ⟨0, [10, 11], .ok 100⟩
private def a1 : Aw := ⟨1, [], .ok 101⟩
private def a2 : Aw := ⟨2, [12], .ok 102⟩
private def aBad : Aw := ⟨3, [13], .err (.user 7)⟩

/-- an awaitable async iterator of mixed items and a plain list of plain items give the same -/
example : outs (run anyStep (.fresh (some ⟨9, [90], none⟩)
      ⟨.aiter, [([50], .aw a0), ([], .plain 101), ([51, 52], .aw a2)], [53]⟩) (List.replicate 5 .next))
    = outs (run anyStep (.fresh none ⟨.list, [([], .plain 100), ([], .plain 101), ([], .plain 102)], []⟩)
      (List.replicate 5 .next)) := rfl
example : outs (run anyStep (.fresh (some ⟨9, [90], none⟩)
      ⟨.aiter, [([50], .aw a0), ([], .plain 101), ([51, 52], .aw a2)], [53]⟩) (List.replicate 5 .next))
    = [.item 100, .item 101, .item 102, .stop, .stop] := rfl
/-- the hypotheses of `C19_any_iter_shape` are satisfiable -/
example : (some (⟨9, [90], none⟩ : Outer)).bind (·.fail) = none ∧
    ([([50], Item.aw a0), (([] : List Tok), Item.plain 101)].map fun p => p.2.res)
      = [100, 101].map Res.ok := by decide
/-- a failing item surfaces once -/
example : outs (run anyStep (.fresh none ⟨.iter, [([], .aw a0), ([], .aw aBad), ([], .aw a2)], []⟩)
      (List.replicate 4 .next)) = [.item 100, .raised (.user 7), .stop, .stop] := rfl
/-- laziness: two requests on three awaitables -/
example : run eachStep (.live (awSrc .iter [a0, a1, a2])) [.next, .next]
    = [([.pull, .start 0, .susp 10, .susp 11, .fin 0], .item 100), ([.pull, .start 1, .fin 1], .item 101)] := rfl
example : Ev.start 2 ∉ trace (run eachStep (.live (awSrc .iter [a0, a1, a2])) [.next, .close, .next]) := by
  decide
example : ∀ a ∈ [a0, a1, a2], ∃ v, a.res = .ok v := by
  intro a ha; simp [a0, a1, a2] at ha; rcases ha with h | h | h <;> subst h <;> exact ⟨_, rfl⟩
/-- apply: two positionals, one keyword -/
example : (apply ⟨5, fun vs kvs => .ok (vs.length + kvs.length)⟩ [.aw a0, .aw a1] [(7, .aw a2)])
    = ([.start 0, .susp 10, .susp 11, .fin 0, .start 1, .fin 1, .start 2, .susp 12, .fin 2,
        .call 5 [100, 101] [(7, 102)]], .ok 3) := rfl
example : (apply ⟨5, fun _ _ => .ok 1⟩ [.aw a0, .aw aBad, .aw a1] [(7, .aw a2)])
    = ([.start 0, .susp 10, .susp 11, .fin 0, .start 3, .susp 13, .fin 3], .err (.user 7)) := rfl
/-- sync: an object with `async def __call__` is wrapped and awaited; an `async def` is unchanged -/
example : sync ⟨.objAsync, 1, fun _ _ => [4], fun _ _ => .ok 9⟩ = .wrapped ∧
    callSynced ⟨.objAsync, 1, fun _ _ => [4], fun _ _ => .ok 9⟩ [2] [(3, 4)]
      = ([.call 1 [2] [(3, 4)], .susp 4], .ok 9) := by decide
example : sync ⟨.asyncDef, 1, fun _ _ => [4], fun _ _ => .err (.user 3)⟩ = .same := rfl
end AsyncVerif.Adapters
