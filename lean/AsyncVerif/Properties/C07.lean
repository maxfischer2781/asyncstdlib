import AsyncVerif.Proofs.Borrow
/-!
# C07 — a borrowed iterator can never close its underlying iterator

Property theorems only.  Model: `Machines/Borrow.lean` (`pullU`/`cancelU`/`closeU` = the underlying
iterator, `pullH` = `_BorrowedAsyncIterator.__anext__` through the wrapper generators, `step` = one
operation on the underlying iterator or on a handle, `TOp.tool` = a library tool handed a handle).
All theorems but `C07_fuel_adequate` quantify over every state `s` (every underlying iterator: async
generator or class-based, with or without aclose/asend, any script with faults, any handle table)
and every finite operation sequence; `C07_fuel_adequate` needs the states reachable from an empty
handle table, where parents are older handles (`WFh`).
-/
namespace AsyncVerif.Borrow

/-- Whatever is done through handles — pulling, pulling with a cancellation thrown in, `asend`,
    closing a handle directly or via `aiter(handle)`, re-borrowing, opening scopes — no `aclose()`
    call ever reaches the underlying iterator, it never becomes "closed", and its log gets no
    `close` event.  (`handleOnly` excludes exactly: the owner's own `U.aclose()` and leaving a
    scope, which is C08's subject.) -/
theorem C07_underlying_never_closed (s : State) (ops : List Op)
    (h : ∀ op ∈ ops, op.handleOnly = true) :
    (exec s ops).u.closeReqs = s.u.closeReqs
    ∧ ((exec s ops).u.status = .closed → s.u.status = .closed)
    ∧ (exec s ops).u.log.count .close = s.u.log.count .close := by
  have h0 := closeOps_handleOnly ops s h
  have hk := exec_keep ops s h0
  exact ⟨by rw [exec_closeReqs, h0]; rfl, hk.notClosed, hk.closeLog⟩

/-- a top-level operation of someone who holds only handles -/
def TOp.handleOnly : TOp → Bool
  | .prim op => op.handleOnly
  | .tool t _ _ _ => t.isSome

/-- The same for library tools: handing handles to any tools — each being any number of pulls,
    possibly a cancelled pull, possibly closing the handle — never closes the underlying iterator. -/
theorem C07_tools_never_close (s : State) (tops : List TOp)
    (h : ∀ top ∈ tops, top.handleOnly = true) :
    (execT s tops).u.closeReqs = s.u.closeReqs
    ∧ ((execT s tops).u.status = .closed → s.u.status = .closed)
    ∧ (execT s tops).u.log.count .close = s.u.log.count .close := by
  apply C07_underlying_never_closed
  intro op hop
  simp only [flatten, List.mem_flatMap] at hop
  obtain ⟨top, htop, hmem⟩ := hop
  have ht := h top htop
  cases top with
  | prim o =>
    simp only [TOp.expand, List.mem_singleton] at hmem
    subst hmem; exact ht
  | tool t k c cl =>
    cases t with
    | none => simp [TOp.handleOnly] at ht
    | some x =>
      simp only [TOp.expand, List.mem_append, List.mem_replicate] at hmem
      rcases hmem with (⟨_, e⟩ | hm) | hm
      · subst e; rfl
      · cases c <;> simp at hm; subst hm; rfl
      · cases cl <;> simp at hm; subst hm; rfl

/-- Items leave the underlying iterator exactly once and in script order, each as the outcome of
    the very operation that pulled it (through whichever handle, by `__anext__` or `asend`, or
    directly by the owner): the items still in the script before the run are the items delivered
    during the run followed by the items still in the script afterwards. -/
theorem C07_items_exactly_once_in_order (s : State) (ops : List Op) :
    itemsOf s.u.rest = delivered (outs s ops) ++ itemsOf (exec s ops).u.rest := by
  induction ops generalizing s with
  | nil => rfl
  | cons op r ih =>
    rw [exec_cons, outs, delivered_cons, List.append_assoc, ← ih, ← (step_spec s op).und.items]

/-- Closing a borrowed handle — directly or through `aiter(handle)` — makes it inert for ever:
    after any further operations whatsoever, pulling it (also with a cancellation, also through
    `asend`) yields nothing and changes nothing: the underlying iterator is not advanced. -/
theorem C07_closed_handle_inert (s : State) (h : Nat) (hd : Handle) (hh : s.hs[h]? = some hd)
    (hb : hd.kind = .borrowed) (viaIter : Bool) (ops : List Op) :
    let s' := exec (step s (if viaIter then .closeIter h else .close (some h))).1 ops
    step s' (.next (some h)) = (s', .res .stop)
    ∧ step s' (.nextCancel (some h)) = (s', .res .stop)
    ∧ (step s' (.send h) = (s', .res .stop) ∨ step s' (.send h) = (s', .noattr)) := by
  have hv : validT s (some h) = true := by simp [validT, lt_of_getElem? hh]
  have e : (step s (if viaIter then .closeIter h else .close (some h))).1
      = { s with hs := s.hs.modify h closeWrapper } := by
    cases viaIter <;> simp [step, hv, closeT_borrowed s h hd hh hb]
  intro s'
  have h1 : ({ s with hs := s.hs.modify h closeWrapper } : State).hs[h]? = some (closeWrapper hd) :=
    getElem?_modify_self s.hs h hd closeWrapper hh
  rw [← e] at h1
  obtain ⟨hd', e', hi, _⟩ := inert_exec ops _ h _ h1 (closeWrapper_inert hd)
  exact inert_pulls s' h hd' e' hi

/-- The underlying iterator keeps yielding its remaining items to its owner in order: after any
    operations through handles (no cancellation thrown into it), on a script without faults, the
    owner's direct pulls deliver exactly the remaining items, then StopAsyncIteration; and together
    with what was delivered before, that is the whole script. -/
theorem C07_owner_gets_rest (s : State) (ops : List Op)
    (h : ∀ op ∈ ops, op.handleOnly = true ∧ op.noCancel = true) (hu : Usable s.u) :
    outs (exec s ops) (drain ((exec s ops).u.rest.length + 1))
        = (itemsOf (exec s ops).u.rest).map (fun v => Out.res (.item v)) ++ [.res .stop]
    ∧ itemsOf s.u.rest = delivered (outs s ops) ++ itemsOf (exec s ops).u.rest :=
  ⟨drain_usable _ _ rfl (exec_usable ops s h hu), C07_items_exactly_once_in_order s ops⟩

/-- The recursion budget of the model is adequate: starting from any underlying iterator with no
    handles yet (`init u`), no operation ever ends with the budget exhausted (`stuck`), so `pullH`
    really follows the whole chain of wrappers down to the underlying iterator. -/
theorem C07_fuel_adequate (u : U) (ops : List Op) :
    ∀ o ∈ outs (init u) ops, o ≠ .res .stuck := by
  have key : ∀ (ops : List Op) (s : State), WFh s.hs → ∀ o ∈ outs s ops, o ≠ .res .stuck := by
    intro ops
    induction ops with
    | nil => intro s _ o ho; cases ho
    | cons op r ih =>
      intro s hw o ho
      rw [outs] at ho
      rcases List.mem_cons.1 ho with rfl | ho
      · exact (step_spec s op).notStuck hw
      · exact ih _ ((step_spec s op).grows.wf hw) o ho
  exact key ops (init u) (by intro h hd hh; cases hh)

/-! Non-vacuity: an async generator with five items; borrow, pull, re-borrow, hand the re-borrowed
    handle to a tool (one pull, then close), use the dead handle, `asend` through the first one,
    close it via `aiter`, pull directly. -/
private def u0 : U :=
  { gen := true, hasClose := true, hasSend := true,
    rest := [.item 1, .item 2, .item 3, .item 4, .item 5], status := .fresh, log := [], closeReqs := 0 }

private def prog : List TOp :=
  [.prim (.borrow none), .prim (.next (some 0)), .prim (.borrow (some 0)), .tool (some 1) 1 false true,
   .prim (.next (some 1)), .prim (.send 0), .prim (.closeIter 0), .prim (.next (some 0)),
   .prim (.send 0), .prim (.next none)]

example : ∀ top ∈ prog, top.handleOnly = true := by decide
example : ∀ op ∈ flatten prog, op.handleOnly = true ∧ op.noCancel = true := by decide
example : Usable (init u0).u := ⟨Or.inl (by decide), by decide⟩
example : outs (init u0) (flatten prog)
    = [.handle 0, .res (.item 1), .handle 1, .res (.item 2), .ok, .res .stop, .res (.item 3), .ok,
       .res .stop, .res .stop, .res (.item 4)] := by decide
example : (execT (init u0) prog).u.status = .live ∧ (execT (init u0) prog).u.closeReqs = 0
    ∧ itemsOf (execT (init u0) prog).u.rest = [5] := by decide
example : (init u0).hs[0]? = none ∧ (exec (init u0) [.borrow none]).hs[0]?
    = some { parent := none, kind := .borrowed, wopen := true, send := .direct } := by decide

/-- Not claimed, and shown here on purpose: a handle re-borrowed while its parent was open keeps
    `asend` bound to the underlying iterator — after the parent is closed its `__anext__` yields
    nothing, but its `asend` still advances the underlying iterator (the real code does the same). -/
example : outs (init u0) [.borrow none, .borrow (some 0), .close (some 0), .next (some 1), .send 1, .send 0]
    = [.handle 0, .handle 1, .ok, .res .stop, .res (.item 1), .res .stop] := by decide

end AsyncVerif.Borrow
