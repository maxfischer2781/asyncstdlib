import AsyncVerif.Proofs.CachedPropertySeq
/-!
# C12 — cached_property computes once, serves one value to all, recomputes after del

Property theorems only.  Model: `Machines/CachedProperty.lean` (`step` = one operation of a history
or schedule: attribute access, one `send` on a task, a cancellation, `del`; `micro` follows
`_FutureCachedPropertyValue._await_impl` / `_get_attribute` / `CachedProperty.__get__`).
`reach cfg ops` is the state after ANY operation sequence — every history and every interleaving —
for ANY environment `cfg` (lock type supplied or not, every getter run suspending any number of
times and returning or raising).  Theorems taking an arbitrary `s : State` hold in every state,
reachable or not.
-/
namespace AsyncVerif.CachedProperty

/-- Model adequacy.  From every reachable state every operation ends at a real suspension point or at
    the end of the task: the micro-step budget of `sched` is never exhausted, and between operations
    no task sits at one of the transient program counters (`entered`, `holding`). -/
theorem C12_never_stuck (cfg : Cfg) (ops : List Op) (op : Op) :
    (step cfg (reach cfg ops) op).2 ≠ .stuck ∧ ∀ t, ((reach cfg ops).pc t).transient = false :=
  ⟨step_not_stuck cfg _ op (reach_inv cfg ops), (reach_inv' cfg ops).settled⟩

/-- The getter runs only when no value is cached.  In EVERY state, whatever the operation (a task
    step under any interleaving, an access, a cancellation, a `del`): each getter run started by the
    operation is on an instance whose slot held no value before the operation. -/
theorem C12_getter_runs_only_when_uncached (cfg : Cfg) (s : State) (op : Op) (r : Nat)
    (h1 : s.nRuns ≤ r) (h2 : r < (step cfg s op).1.nRuns) (v : Nat) :
    s.slot ((step cfg s op).1.run r).inst ≠ some (.val v) := by
  cases op with
  | del i =>
    exfalso
    simp only [step] at h2
    split at h2 <;> simp [delSlot] at h2 <;> omega
  | _ => exact (step_mono cfg s _ (by intro k; simp)).new_run_uncached r h1 h2 v

/-- Every await returns the cached value (1).  In every state in which instance i holds the value v,
    `await instance_i.<name>` (access, then the first step of the await) returns v at once, starts no
    getter run and leaves every slot as it was. -/
theorem C12_cached_value_served_fresh (cfg : Cfg) (s : State) (i v : Nat) (h : s.slot i = some (.val v)) :
    (step cfg s (.spawn i)).2 = .handle (.val v) ∧
    (step cfg (step cfg s (.spawn i)).1 (.sched s.nTasks)).2 = .ret v ∧
    (step cfg (step cfg s (.spawn i)).1 (.sched s.nTasks)).1.nRuns = s.nRuns ∧
    (step cfg (step cfg s (.spawn i)).1 (.sched s.nTasks)).1.slot = s.slot := by
  simp [step, access, h, addTask, sched, schedFuel, schedN, micro, setPc]

/-- Every await returns the cached value (2): "take the placeholder, await it later".  A task that
    obtained placeholder p earlier and starts awaiting it when p's instance holds the value v
    returns v at once, starts no getter run, changes no slot — whichever placeholder or getter run
    produced v. -/
theorem C12_cached_value_served_waiter (cfg : Cfg) (s : State) (t p v : Nat)
    (hpc : s.pc t = .start (.ph p)) (h : s.slot (s.phInst p) = some (.val v)) :
    (step cfg s (.sched t)).2 = .ret v ∧ (step cfg s (.sched t)).1.nRuns = s.nRuns ∧
    (step cfg s (.sched t)).1.slot = s.slot := by
  simp [step, sched, schedFuel, schedN, micro, hpc, setPc, instanceValue, access, h, awaitStored]

/-- All awaiters receive the one value, including those that arrived during the computation: a task
    that was blocked on placeholder p's lock and is resumed when the lock is free and the instance
    holds v returns v without running the getter, and leaves the lock free for the next waiter. -/
theorem C12_cached_value_served_after_lock (cfg : Cfg) (s : State) (t p v : Nat) (hl : cfg.lock = true)
    (hpc : s.pc t = .lockwait p) (hfree : s.lock p = none) (h : s.slot (s.phInst p) = some (.val v)) :
    (step cfg s (.sched t)).2 = .ret v ∧ (step cfg s (.sched t)).1.nRuns = s.nRuns ∧
    (step cfg s (.sched t)).1.slot = s.slot ∧ (step cfg s (.sched t)).1.lock p = none := by
  simp [step, sched, schedFuel, schedN, micro, hpc, hfree, setPc, setLock, instanceValue, access, h, awaitStored,
    release, hl]

/-- A failed or cancelled computation caches nothing, and values are per instance.  In every reachable
    state (any history, any interleaving, lock or not): whatever value instance i holds is the value
    of a getter run that was called with instance i and RETURNED (it neither raised nor was it
    cancelled, nor is it still running). -/
theorem C12_cached_value_is_returned_run (cfg : Cfg) (ops : List Op) (i v : Nat)
    (h : (reach cfg ops).slot i = some (.val v)) :
    v < (reach cfg ops).nRuns ∧ ((reach cfg ops).run v).st = .returned ∧ ((reach cfg ops).run v).inst = i ∧
    cfg.ok v = true :=
  (reach_inv cfg ops).slot_val i v h

/-- Throwing a cancellation into any task, at any suspension point, changes no slot of any instance. -/
theorem C12_cancel_caches_nothing (cfg : Cfg) (s : State) (t : Nat) :
    (step cfg s (.cancel t)).1.slot = s.slot :=
  cancel_slot cfg s t

/-- A getter run that raises propagates its exception to the awaiter and changes no slot. -/
theorem C12_failure_caches_nothing (cfg : Cfg) (s : State) (t p r : Nat) (hpc : s.pc t = .getter p r 0)
    (hok : cfg.ok r = false) :
    (step cfg s (.sched t)).2 = .raised r ∧ (step cfg s (.sched t)).1.slot = s.slot ∧
    (step cfg s (.sched t)).1.pc t = .done (.failed r) := by
  cases hl : cfg.lock <;>
    simp [step, sched, schedFuel, schedN, micro, hpc, complete, hok, setPc, setRunSt, release, hl, setLock]

/-- `del` of a present entry (value or placeholder) empties the slot. -/
theorem C12_del_clears (cfg : Cfg) (s : State) (i : Nat) (h : s.slot i ≠ none) :
    (step cfg s (.del i)).2 = .deleted ∧ (step cfg s (.del i)).1.slot i = none := by
  simp only [step]
  split
  · contradiction
  · simp [delSlot]

/-- Deletion makes the next access recompute: in every state in which instance i's slot is empty
    (which is what `del` leaves), `await instance_i.<name>` starts a brand-new getter run on instance
    i — it is not served from anywhere else, and a fresh placeholder's lock is free. -/
theorem C12_uncached_access_recomputes (cfg : Cfg) (s : State) (i : Nat) (h : s.slot i = none) :
    (step cfg (step cfg s (.spawn i)).1 (.sched s.nTasks)).1.nRuns = s.nRuns + 1 ∧
    ((step cfg (step cfg s (.spawn i)).1 (.sched s.nTasks)).1.run s.nRuns).inst = i ∧
    ((step cfg (step cfg s (.spawn i)).1 (.sched s.nTasks)).2 = .suspended s.nRuns ∨
     (step cfg (step cfg s (.spawn i)).1 (.sched s.nTasks)).2 = .ret s.nRuns ∨
     (step cfg (step cfg s (.spawn i)).1 (.sched s.nTasks)).2 = .raised s.nRuns) := by
  -- the access creates placeholder `s.nextP` on `i` with a free lock, so the await runs the getter
  have hsp : (step cfg s (.spawn i)).1 = addTask (newPh s i) i (.ph s.nextP) := by simp [step, access, h]
  have hsched := sched_start_self cfg (addTask (newPh s i) i (.ph s.nextP)) s.nTasks s.nextP
    (by simp [addTask, newPh]) (by simp [addTask, newPh]) (by simp [addTask, newPh])
  have hi : (newPh s i).phInst s.nextP = i := by simp [newPh]
  rw [hsp]
  show (sched cfg _ _).1.nRuns = _ ∧ ((sched cfg _ _).1.run _).inst = _ ∧
    ((sched cfg _ _).2 = _ ∨ (sched cfg _ _).2 = _ ∨ (sched cfg _ _).2 = _)
  rw [show (addTask (newPh s i) i (.ph s.nextP)).nRuns = s.nRuns from rfl] at hsched
  generalize cfg.susp s.nRuns = n at hsched
  rw [hsched]
  cases n with
  | zero =>
    exact ⟨(afterRun_proj cfg _ _ _).2.2.1, (afterRun_run_inst cfg _ _ _).trans hi, by cases cfg.ok s.nRuns <;> simp⟩
  | succ k => exact ⟨rfl, by simp [setPc, begun, addTask, newPh], .inl rfl⟩

/-- With or without a lock, under every interleaving, deletion and cancellation: an await that
    returns v returns the value of a getter run that was called with the awaiter's own instance and
    returned. (Without a lock this is all that is promised for concurrent awaiters.) -/
theorem C12_awaiter_gets_a_returned_value (cfg : Cfg) (ops : List Op) (t v : Nat)
    (h : (reach cfg ops).pc t = .done (.ok v)) :
    v < (reach cfg ops).nRuns ∧ ((reach cfg ops).run v).st = .returned ∧
    ((reach cfg ops).run v).inst = (reach cfg ops).tinst t ∧ cfg.ok v = true :=
  (reach_inv cfg ops).task_val t v (Or.inl h)

/-- With a lock: two tasks are never inside the getter for the same placeholder at the same time. -/
theorem C12_lock_mutual_exclusion (cfg : Cfg) (hl : cfg.lock = true) (ops : List Op) (t t' p r r' k k' : Nat)
    (h1 : (reach cfg ops).pc t = .getter p r k) (h2 : (reach cfg ops).pc t' = .getter p r' k') :
    t = t' ∧ r = r' := by
  have hi := reach_inv cfg ops
  have e1 := hi.owner_getter hl p t r k h1
  have e2 := hi.owner_getter hl p t' r' k' h2
  rw [e1] at e2
  have ht : t = t' := Option.some.inj e2
  subst ht
  rw [h1] at h2
  cases h2
  exact ⟨rfl, rfl⟩

/-- A placeholder's lock is held only by a task that is currently suspended inside a live getter run
    for that placeholder — never by a finished, failed or cancelled task.  Hence a waiter blocked on
    the lock always has a running computation to wait for (no deadlock, no leaked lock). -/
theorem C12_lock_held_only_while_computing (cfg : Cfg) (ops : List Op) (p t : Nat)
    (h : (reach cfg ops).lock p = some t) :
    ∃ r k, (reach cfg ops).pc t = .getter p r k ∧ ((reach cfg ops).run r).st = .running ∧
      ((reach cfg ops).run r).task = t := by
  have hi := reach_inv' cfg ops
  rcases hi.lock_owner p t h with hh | ⟨r, k, hg⟩
  · have := hi.settled t; rw [hh] at this; simp [Pc.transient] at this
  · refine ⟨r, k, hg, ?_⟩
    have := (hi.getter_run t p r k hg).2
    rw [this]; exact ⟨rfl, rfl⟩

/-- A cancelled computation releases the lock: cancelling the task that is inside the getter frees
    the placeholder's lock in the same step, records the run as cancelled and propagates. -/
theorem C12_cancel_releases_lock (cfg : Cfg) (s : State) (hl : cfg.lock = true) (t p r k : Nat)
    (hpc : s.pc t = .getter p r k) :
    (step cfg s (.cancel t)).2 = .cancelled ∧ (step cfg s (.cancel t)).1.lock p = none ∧
    (step cfg s (.cancel t)).1.pc t = .done .cancelled ∧ ((step cfg s (.cancel t)).1.run r).st = .cancelled := by
  simp [step, cancel, hpc, release, hl, setPc, setRunSt, setLock]

/-- With a lock, for EVERY history (including `del` and cancellations): among the getter runs started
    for one placeholder at most one is ever running-or-returned — runs never overlap, and once one
    has returned no further run is started for that placeholder.  Every cached value is the value
    of exactly one such run. -/
theorem C12_lock_once_per_placeholder (cfg : Cfg) (hl : cfg.lock = true) (ops : List Op) (r r' : Nat)
    (hr : r < (reach cfg ops).nRuns) (hr' : r' < (reach cfg ops).nRuns)
    (hp : ((reach cfg ops).run r).ph = ((reach cfg ops).run r').ph)
    (h1 : ((reach cfg ops).run r).st = .running ∨ ((reach cfg ops).run r).st = .returned)
    (h2 : ((reach cfg ops).run r').st = .running ∨ ((reach cfg ops).run r').st = .returned) : r = r' := by
  refine (reach_inv cfg ops).live_unique hl r r' hr hr' hp ?_ ?_
  · rcases h1 with h | h <;> rw [h] <;> trivial
  · rcases h2 with h | h <;> rw [h] <;> trivial

/-- With a lock, on an instance whose attribute is never deleted in the history: at most one getter
    run on that instance is ever running-or-returned — the getter succeeds at most once, and no run
    overlaps another.  PARTIAL: the hypothesis excludes `del` on this instance; with a `del` during
    a computation two placeholders (each with its own lock) compute concurrently, see
    `C12_lock_once_per_instance_counterexample`. -/
theorem C12_lock_once_per_instance_partial (cfg : Cfg) (hl : cfg.lock = true) (ops : List Op) (i : Nat)
    (hnodel : ∀ op ∈ ops, op ≠ .del i) (r r' : Nat)
    (hr : r < (reach cfg ops).nRuns) (hr' : r' < (reach cfg ops).nRuns)
    (hi1 : ((reach cfg ops).run r).inst = i) (hi2 : ((reach cfg ops).run r').inst = i)
    (h1 : ((reach cfg ops).run r).st = .running ∨ ((reach cfg ops).run r).st = .returned)
    (h2 : ((reach cfg ops).run r').st = .running ∨ ((reach cfg ops).run r').st = .returned) : r = r' := by
  have hi := reach_inv cfg ops
  have hd : (reach cfg ops).dels i = 0 := exec_dels cfg i ops _ hnodel
  obtain ⟨hp1, he1⟩ := hi.run_ph r hr
  obtain ⟨hp2, he2⟩ := hi.run_ph r' hr'
  have hp : ((reach cfg ops).run r).ph = ((reach cfg ops).run r').ph :=
    hi.df_inj _ _ hp1 hp2 (by rw [← he1, ← he2, hi1, hi2]) (by rw [← he1, hi1]; exact hd)
  exact C12_lock_once_per_placeholder cfg hl ops r r' hr hr' hp h1 h2

/-- With a lock, on an instance whose attribute is never deleted: all awaiters that return — whenever
    they arrived — return the same value, and it is the value the instance holds.
    PARTIAL: same hypothesis as `C12_lock_once_per_instance_partial`. -/
theorem C12_lock_all_awaiters_one_value_partial (cfg : Cfg) (hl : cfg.lock = true) (ops : List Op) (i : Nat)
    (hnodel : ∀ op ∈ ops, op ≠ .del i) (t t' v v' : Nat)
    (ht : (reach cfg ops).tinst t = i) (ht' : (reach cfg ops).tinst t' = i)
    (h1 : (reach cfg ops).pc t = .done (.ok v)) (h2 : (reach cfg ops).pc t' = .done (.ok v')) :
    v = v' ∧ ∀ w, (reach cfg ops).slot i = some (.val w) → w = v := by
  have hi := reach_inv cfg ops
  obtain ⟨a1, a2, a3, _⟩ := hi.task_val t v (Or.inl h1)
  obtain ⟨b1, b2, b3, _⟩ := hi.task_val t' v' (Or.inl h2)
  refine ⟨C12_lock_once_per_instance_partial cfg hl ops i hnodel v v' a1 b1 (by rw [a3, ht]) (by rw [b3, ht'])
    (Or.inr a2) (Or.inr b2), ?_⟩
  intro w hw
  obtain ⟨c1, c2, c3, _⟩ := hi.slot_val i w hw
  exact C12_lock_once_per_instance_partial cfg hl ops i hnodel w v c1 a1 c3 (by rw [a3, ht]) (Or.inr c2) (Or.inr a2)

/-- Sequential histories: for EVERY environment (lock or not, any suspension counts, any pattern of
    failing getter runs) and EVERY history over {`await instance_i.attr`, take the attribute now and
    await it later, await a taken object, `del instance_i.attr`} on any number of instances, each
    await driven to completion before the next operation, the observable outputs (value returned,
    which getter run's exception, `AttributeError` of a `del` with nothing to delete) are exactly
    those of the specification `specStep` — `functools.cached_property` with an awaitable getter:
    compute iff no value is cached, keep the value until `del`, cache nothing on failure, per
    instance; a taken placeholder is late-bound to its instance, a taken value is that value. -/
theorem C12_sequential_refines (cfg : Cfg) (ops : List SOp) :
    seqOuts cfg State.init ops = specOuts cfg Spec.init ops :=
  seq_refines cfg ops _ _ (init_sim cfg)

/-- What the hypothesis of the two `_partial` theorems excludes (lock supplied): task 0 is inside the
    getter for placeholder 0, the attribute is deleted, task 1 accesses it — a new placeholder with
    its own lock — and runs the getter concurrently; both runs return, the two awaiters receive
    different values, and the value computed by the run that began before the `del` is cached
    after it. -/
theorem C12_lock_once_per_instance_counterexample :
    let cfg : Cfg := ⟨true, fun _ => 1, fun _ => true⟩
    let mid := reach cfg [.spawn 0, .sched 0, .del 0, .spawn 0, .sched 1]
    let fin := reach cfg [.spawn 0, .sched 0, .del 0, .spawn 0, .sched 1, .sched 0, .sched 1]
    ((mid.run 0).st = .running ∧ (mid.run 1).st = .running ∧ (mid.run 0).inst = 0 ∧ (mid.run 1).inst = 0) ∧
    (fin.pc 0 = .done (.ok 0) ∧ fin.pc 1 = .done (.ok 1) ∧ fin.slot 0 = some (.val 1)) ∧
    (reach cfg [.spawn 0, .sched 0, .del 0, .sched 0]).slot 0 = some (.val 0) := by
  decide

/-! Non-vacuity: concrete histories and schedules on which the hypotheses hold and the machine does
    something non-trivial. -/

/-- three awaiters under a lock, getter suspending twice, one arriving during the computation:
    one getter run, everybody receives its value -/
example : outs ⟨true, fun _ => 2, fun _ => true⟩ State.init
    [.spawn 0, .spawn 0, .sched 0, .sched 1, .spawn 0, .sched 2, .sched 0, .sched 1, .sched 0, .sched 1, .sched 2]
  = [.handle (.ph 0), .handle (.ph 0), .suspended 0, .blocked, .handle (.ph 0), .blocked, .suspended 0, .blocked,
     .ret 0, .ret 0, .ret 0] := by decide

/-- the same without a lock: both getters run, each awaiter gets a returned value, a later access is served -/
example : outs ⟨false, fun _ => 1, fun _ => true⟩ State.init
    [.spawn 0, .spawn 0, .sched 0, .sched 1, .sched 0, .sched 1, .spawn 0, .sched 2]
  = [.handle (.ph 0), .handle (.ph 0), .suspended 0, .suspended 1, .ret 0, .ret 1, .handle (.val 1), .ret 1] := by decide

/-- failing getter, cancelled computation (the waiter takes over), del, second instance -/
example : outs ⟨true, fun _ => 1, fun r => r != 0⟩ State.init
    [.spawn 0, .sched 0, .sched 0, .spawn 0, .spawn 0, .sched 1, .sched 2, .cancel 1, .sched 2, .sched 2,
     .del 0, .del 0, .spawn 1, .sched 3, .sched 3]
  = [.handle (.ph 0), .suspended 0, .raised 0, .handle (.ph 0), .handle (.ph 0), .suspended 1, .blocked, .cancelled,
     .suspended 2, .ret 2, .deleted, .attrError, .handle (.ph 1), .suspended 3, .ret 3] := by decide

/-- a sequential history with a failing getter, a taken placeholder awaited after a `del`, a second
    instance and a `del` with nothing to delete -/
example : seqOuts ⟨true, fun r => r % 3, fun r => r != 0⟩ State.init
    [.await 0, .take 0, .del 0, .awaitTaken 1, .await 0, .await 1, .del 1, .del 1, .await 1]
  = [.raised 0, .taken, .deleted, .ret 1, .ret 1, .ret 2, .deleted, .attrError, .ret 3] := by decide

/-- the hypotheses of the no-`del` theorems are satisfiable on a history with real contention -/
example : (∀ op ∈ ([.spawn 0, .spawn 0, .sched 0, .sched 1, .sched 0, .sched 0, .sched 1] : List Op), op ≠ .del 0) ∧
    (reach ⟨true, fun _ => 2, fun _ => true⟩ [.spawn 0, .spawn 0, .sched 0, .sched 1, .sched 0, .sched 0, .sched 1]).pc 1
      = .done (.ok 0) := by decide

end AsyncVerif.CachedProperty
