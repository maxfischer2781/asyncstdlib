import AsyncVerif.Properties.C04
import AsyncVerif.Proofs.SetDictFuel
import AsyncVerif.Proofs.FuelAdequate
/-!
# C04, unconditionally: the fuel proviso of the release theorems discharged

`Properties/C04.lean` proves "owned iterators are released" under the proviso that the run did not
end with the model artefact `.outOfFuel`.  `Proofs/FuelAdequate.lean` shows that the proviso holds
whenever the fuel exceeds a bound that is read off the initial world (source scripts are finite and
only ever get shorter).  Here the two are combined: for **every** world and every sufficiently large
fuel, the sources are released.

* single-source tools: `fuelBound1 s w = (w.srcs s).script.length + 1`
  (one unit per scripted reply plus one for the pull that finds the source finished; this is tight:
  with `fuel = script length` a source of all-items runs out of fuel)
* `compress d sel`: `fuelBound1 d w` (the data iterator is pulled first in every row)
* multi-source tools (`zip`, `zip(strict=True)`, `map`, `zip_longest`, `merge`, `chain`):
  `fuelBoundN srcs w = (Σ s ∈ srcs, |script s|) + 1`

`iter(callable, sentinel)` has no source, hence no C04 theorem.  `cycle` terminates only because of the
consumer: `C04_cycle_total` is for a consumer that closes or throws after finitely many items (bound
`max (|script s| + 1) (2k + 3)` with `k` the consumer's budget, `cycle_fuel_adequate`); with an exhausting
consumer it diverges, as in Python.
-/
namespace AsyncVerif

theorem C04_filter_total (fn : Option Nat) (s : Nat) (w : World) :
    ∀ fuel, fuel ≥ fuelBound1 s w → Released ((Impl.filter fn s fuel w).2.srcs s) :=
  fun fuel h => C04_filter fn s fuel w (filter_fuel_adequate fn s w fuel h)

theorem C04_filterfalse_total (fn : Option Nat) (s : Nat) (w : World) :
    ∀ fuel, fuel ≥ fuelBound1 s w → Released ((Impl.filterfalse fn s fuel w).2.srcs s) :=
  fun fuel h => C04_filterfalse fn s fuel w (filterfalse_fuel_adequate fn s w fuel h)

theorem C04_enumerate_total (s : Nat) (start : Int) (w : World) :
    ∀ fuel, fuel ≥ fuelBound1 s w → Released ((Impl.enumerate s start fuel w).2.srcs s) :=
  fun fuel h => C04_enumerate s start fuel w (enumerate_fuel_adequate s start w fuel h)

theorem C04_takewhile_total (f s : Nat) (w : World) :
    ∀ fuel, fuel ≥ fuelBound1 s w → Released ((Impl.takewhile f s fuel w).2.srcs s) :=
  fun fuel h => C04_takewhile f s fuel w (takewhile_fuel_adequate f s w fuel h)

theorem C04_dropwhile_total (f s : Nat) (w : World) :
    ∀ fuel, fuel ≥ fuelBound1 s w → Released ((Impl.dropwhile f s fuel w).2.srcs s) :=
  fun fuel h => C04_dropwhile f s fuel w (dropwhile_fuel_adequate f s w fuel h)

theorem C04_starmap_total (f s : Nat) (w : World) :
    ∀ fuel, fuel ≥ fuelBound1 s w → Released ((Impl.starmap f s fuel w).2.srcs s) :=
  fun fuel h => C04_starmap f s fuel w (starmap_fuel_adequate f s w fuel h)

theorem C04_accumulate_total (fn : Option Nat) (initial : Option Val) (s : Nat) (w : World) :
    ∀ fuel, fuel ≥ fuelBound1 s w → Released ((Impl.accumulate fn initial s fuel w).2.srcs s) :=
  fun fuel h => C04_accumulate fn initial s fuel w (accumulate_fuel_adequate fn initial s w fuel h)

theorem C04_batched_total (n : Nat) (hn : 1 ≤ n) (strict : Bool) (s : Nat) (w : World) :
    ∀ fuel, fuel ≥ fuelBound1 s w → Released ((Impl.batched n strict s fuel w).2.srcs s) :=
  fun fuel h => C04_batched n hn strict s fuel w (batched_fuel_adequate n strict s w fuel h)

theorem C04_islice_total (s start : Nat) (stop : Option Nat) (step : Nat) (w : World) :
    ∀ fuel, fuel ≥ fuelBound1 s w → Released ((Impl.islice s start stop step fuel w).2.srcs s) :=
  fun fuel h => C04_islice s start stop step fuel w (islice_fuel_adequate s start stop step w fuel h)

theorem C04_pairwise_total (s : Nat) (w : World) :
    ∀ fuel, fuel ≥ fuelBound1 s w → Released ((Impl.pairwise s fuel w).2.srcs s) :=
  fun fuel h => C04_pairwise s fuel w (pairwise_fuel_adequate s w fuel h)

theorem C04_all_total (s : Nat) (w : World) :
    ∀ fuel, fuel ≥ fuelBound1 s w → Released ((Impl.all s fuel w).2.srcs s) :=
  fun fuel h => C04_all s fuel w (all_fuel_adequate s w fuel h)

theorem C04_any_total (s : Nat) (w : World) :
    ∀ fuel, fuel ≥ fuelBound1 s w → Released ((Impl.any s fuel w).2.srcs s) :=
  fun fuel h => C04_any s fuel w (any_fuel_adequate s w fuel h)

theorem C04_sum_total (start : Option Val) (s : Nat) (w : World) :
    ∀ fuel, fuel ≥ fuelBound1 s w → Released ((Impl.sum start s fuel w).2.srcs s) :=
  fun fuel h => C04_sum start s fuel w (sum_fuel_adequate start s w fuel h)

theorem C04_min_max_total (fn : Option Nat) (isMax : Bool) (d : Option Val) (s : Nat) (w : World) :
    ∀ fuel, fuel ≥ fuelBound1 s w → Released ((Impl.minmax fn isMax d s fuel w).2.srcs s) :=
  fun fuel h => C04_min_max fn isMax d s fuel w (minmax_fuel_adequate fn isMax d s w fuel h)

theorem C04_reduce_total (f : Nat) (ini : Option Val) (s : Nat) (w : World) :
    ∀ fuel, fuel ≥ fuelBound1 s w → Released ((Impl.reduce f ini s fuel w).2.srcs s) :=
  fun fuel h => C04_reduce f ini s fuel w (reduce_fuel_adequate f ini s w fuel h)

theorem C04_list_total (s : Nat) (w : World) :
    ∀ fuel, fuel ≥ fuelBound1 s w → Released ((Impl.list s fuel w).2.srcs s) :=
  fun fuel h => C04_list s fuel w (list_fuel_adequate s w fuel h)

theorem C04_tuple_total (s : Nat) (w : World) :
    ∀ fuel, fuel ≥ fuelBound1 s w → Released ((Impl.tuple s fuel w).2.srcs s) :=
  fun fuel h => C04_tuple s fuel w (tuple_fuel_adequate s w fuel h)

theorem C04_nlargest_nsmallest_total (largest : Bool) (n : Nat) (fn : Option Nat) (s : Nat) (w : World) :
    ∀ fuel, fuel ≥ fuelBound1 s w → Released ((Impl.nBest largest n fn s fuel w).2.srcs s) :=
  fun fuel h => C04_nlargest_nsmallest largest n fn s fuel w (nBest_fuel_adequate largest n fn s w fuel h)

theorem C04_compress_total (d sel : Nat) (w : World) :
    ∀ fuel, fuel ≥ fuelBound1 d w →
      Released ((Impl.compress d sel fuel w).2.srcs d) ∧ Released ((Impl.compress d sel fuel w).2.srcs sel) :=
  fun fuel h => C04_compress d sel fuel w (compress_fuel_adequate d sel w fuel h)

theorem C04_zip_total (srcs : List Nat) (w : World) :
    ∀ fuel, fuel ≥ fuelBoundN srcs w → ∀ s ∈ srcs, Released ((Impl.zip srcs fuel w).2.srcs s) :=
  fun fuel h => C04_zip srcs fuel w (zip_fuel_adequate srcs w fuel h)

theorem C04_zip_strict_total (srcs : List Nat) (w : World) :
    ∀ fuel, fuel ≥ fuelBoundN srcs w → ∀ s ∈ srcs, Released ((Impl.zipStrict srcs fuel w).2.srcs s) :=
  fun fuel h => C04_zip_strict srcs fuel w (zipStrict_fuel_adequate srcs w fuel h)

theorem C04_map_total (f : Nat) (srcs : List Nat) (w : World) :
    ∀ fuel, fuel ≥ fuelBoundN srcs w → ∀ s ∈ srcs, Released ((Impl.map f srcs fuel w).2.srcs s) :=
  fun fuel h => C04_map f srcs fuel w (map_fuel_adequate f srcs w fuel h)

theorem C04_zip_longest_total (fillv : Val) (srcs : List Nat) (w : World) :
    ∀ fuel, fuel ≥ fuelBoundN srcs w →
      ∀ s ∈ srcs, Released ((Impl.zipLongest fillv srcs fuel w).2.srcs s) :=
  fun fuel h => C04_zip_longest fillv srcs fuel w (zipLongest_fuel_adequate fillv srcs w fuel h)

theorem C04_merge_total (fn : Option Nat) (reverse : Bool) (srcs : List Nat) (w : World) :
    ∀ fuel, fuel ≥ fuelBoundN srcs w →
      ∀ s ∈ srcs, Released ((Impl.merge fn reverse srcs fuel w).2.srcs s) :=
  fun fuel h => C04_merge fn reverse srcs fuel w (merge_fuel_adequate fn reverse srcs w fuel h)

/-- `chain`: with `fuel ≥ Σ |script s| + 1` the run never ends with `.outOfFuel`; so whenever the
    consumer exhausts or closes it (the two cases of `C04_chain_exhausted` / `C04_chain_closed`),
    every input is released -/
theorem C04_chain_total (srcs : List Nat) (w : World) :
    ∀ fuel, fuel ≥ fuelBoundN srcs w →
      (Impl.chain srcs fuel w).1 ≠ .error .outOfFuel ∧
      ((Impl.chain srcs fuel w).1 = .ok () ∨ (Impl.chain srcs fuel w).1 = .error .genExit →
        ∀ s ∈ srcs, Released ((Impl.chain srcs fuel w).2.srcs s)) :=
  fun fuel h => ⟨chain_fuel_adequate srcs w fuel h, fun hr =>
    hr.elim (C04_chain_exhausted srcs fuel w) (C04_chain_closed srcs fuel w)⟩

theorem C04_set_total (s : Nat) (w : World) :
    ∀ fuel, fuel ≥ fuelBound1 s w → Released ((Impl.set s fuel w).2.srcs s) :=
  fun fuel h => C04_set s fuel w (set_fuel_adequate s w fuel h)

theorem C04_dict_total (s : Nat) (w : World) :
    ∀ fuel, fuel ≥ fuelBound1 s w → Released ((Impl.dict s fuel w).2.srcs s) :=
  fun fuel h => C04_dict s fuel w (dict_fuel_adequate s w fuel h)

theorem C04_sorted_total (fn : Option Nat) (reverse : Bool) (s : Nat) (w : World) :
    ∀ fuel, fuel ≥ fuelBound1 s w → Released ((Impl.sorted fn reverse s fuel w).2.srcs s) :=
  fun fuel h => C04_sorted fn reverse s fuel w (sorted_fuel_adequate fn reverse s w fuel h)

/-- `cycle` with a consumer that closes or throws after finitely many items (`cbudget = some k`): released
    for every `fuel ≥ |script s| + 1` and `≥ 2k + 3` (an exhausting consumer makes `cycle` diverge, as in Python) -/
theorem C04_cycle_total (s : Nat) (w : World) (k : Nat) (hk : cbudget w.cons = some k) :
    ∀ fuel, fuel ≥ fuelBound1 s w → fuel ≥ 2 * k + 3 → Released ((Impl.cycle s fuel w).2.srcs s) :=
  fun fuel h1 h2 => C04_cycle s fuel w (cycle_fuel_adequate s w k hk fuel h1 h2)

/-! Non-vacuity: a concrete world.  Source 0 is an async generator that fails at its fourth use,
    source 1 a class-based iterator with two items; the predicate is truthiness of the item; the
    consumer takes two items and closes.  The bound is computed from the world (`5` resp. `7`),
    and the conclusion can be checked by evaluation. -/
private def wEx : World :=
  { srcs := fun i =>
      if i = 0 then { kind := .agen, script := [.item (.obj 1 1), .item (.obj 2 0), .item (.obj 3 1), .err 7] }
      else { kind := .aobj, script := [.item (.int 5), .item (.int 6)] },
    fns := fun _ _ args => .ok (.bool ((args.headD .none).truthy)),
    calls := fun _ => 0, cons := .run 2 .close, vis := [], rel := [] }

example : fuelBound1 0 wEx = 5 := rfl
example : fuelBoundN [0, 1] wEx = 7 := rfl
example : Released ((Impl.filter (some 0) 0 5 wEx).2.srcs 0) := by
  have h : 5 ≥ fuelBound1 0 wEx := by decide
  -- `Released` is a `match`: at default transparency the elaborator runs the whole closed program
  -- to see whether the statement is a function type
  with_reducible exact C04_filter_total (some 0) 0 wEx 5 h
example : ∀ fuel, fuel ≥ 5 → Released ((Impl.filter (some 0) 0 fuel wEx).2.srcs 0) :=
  C04_filter_total (some 0) 0 wEx
example : ∀ fuel, fuel ≥ 7 → ∀ s ∈ [0, 1], Released ((Impl.zipLongest .fill [0, 1] fuel wEx).2.srcs s) :=
  C04_zip_longest_total .fill [0, 1] wEx
/-- the bound is tight: one unit less and an all-items source runs out of fuel -/
example : (Impl.list 1 2 wEx).1 = .error .outOfFuel ∧ (Impl.list 1 3 wEx).1 ≠ .error .outOfFuel :=
  ⟨rfl, list_fuel_adequate 1 wEx 3 (by decide)⟩

/-- `cycle` with a consumer that takes two items and closes (budget `3`): `fuel ≥ max 5 9` is enough -/
example : ∀ fuel, fuel ≥ 9 → (Impl.cycle 0 fuel wEx).1 ≠ .error .outOfFuel :=
  fun fuel h => cycle_fuel_adequate 0 wEx 3 rfl fuel (by show fuel ≥ 5; omega) h

end AsyncVerif
