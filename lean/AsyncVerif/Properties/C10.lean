import AsyncVerif.Proofs.LruOrder
/-!
# C10 — lru_cache equals functools.lru_cache over every sequential call history

Property theorems only.  Model: `Machines/Lru.lean` (`Impl.*` = asyncstdlib `_lrucache.py`,
`Spec.*` = CPython `functools.lru_cache` / `_functoolsmodule.c`, `asKey` = `CallKey.from_call`,
`ftKey` = `lru_cache_make_key`).
-/
namespace AsyncVerif.Lru

/-- Argument patterns are distinguished identically: for every `typed` setting and every two call
    patterns (positional / keyword arguments in call order; ints, floats, bools, strs, None,
    objects, flat tuples), asyncstdlib's keys are equal (`==`, hence same `dict` slot) exactly when
    CPython's keys are equal. -/
theorem C10_key_equiv (typed : Bool) (p q : Pattern) :
    ((asKey typed p).norm = (asKey typed q).norm) ↔ ((ftKey typed p).norm = (ftKey typed q).norm) :=
  key_equiv typed p q

/-- For every decorator form (`@lru_cache`, `@lru_cache(maxsize, typed)` with `maxsize` None, negative,
    zero or positive) and every sequential history of calls (succeeding or failing, direct or
    through a bound method), `cache_clear`, `cache_discard`, `cache_info`, `cache_parameters`, the
    asyncstdlib cache produces exactly the outputs of `functools.lru_cache`: the same returned
    values, the same calls invoking the wrapped function, the same errors, the same hits, misses,
    maxsize and currsize. -/
theorem C10_refines (d : Dec) (ops : List Op) :
    run (Impl.step (Impl.lruCache d)) St.init ops = run (Spec.step (Spec.lruCache d)) St.init ops := by
  rw [← lruCache_eq d]
  exact run_eq _ (lruCache_ok d) ops St.init (Wf.init _)

/-- The same from any state of a cache (any contents, any counters; an uncached wrapper has no
    contents): this is what "behaves as C10 from its current contents" means in C11. -/
theorem C10_refines_from (c : Cfg) (hok : c.ok) (s : St) (hwf : Wf c s) (ops : List Op) :
    run (Impl.step c) s ops = run (Spec.step c) s ops :=
  run_eq c hok ops s hwf

/-- After every history the number of entries is at most `maxsize` (0 when disabled). -/
theorem C10_currsize_le_maxsize (d : Dec) (ops : List Op) (n : Nat)
    (hn : (Impl.lruCache d).maxsize = some n) :
    (final (Impl.step (Impl.lruCache d)) St.init ops).store.length ≤ n :=
  (final_inv _ (lruCache_ok d) ops St.init (Inv.init _)).length_le hn

/-- After every history no two entries have equal keys. -/
theorem C10_keys_distinct (d : Dec) (ops : List Op) :
    Distinct (Impl.lruCache d).typed (final (Impl.step (Impl.lruCache d)) St.init ops).store :=
  (final_inv _ (lruCache_ok d) ops St.init (Inv.init _)).distinct

/-- Errors are never cached: a call that raises leaves the entries and the hit counter as they
    were and counts one miss. -/
theorem C10_errors_not_cached (c : Cfg) (s : St) (p : Pattern) (r : Res) (e : Nat)
    (h : (Impl.call c s p r).2 = .raised e) :
    (Impl.call c s p r).1.store = s.store ∧ (Impl.call c s p r).1.hits = s.hits ∧
    (Impl.call c s p r).1.misses = s.misses + 1 ∧ r = .fail e := by
  unfold Impl.call at h ⊢
  rcases begin_cases c s p with ⟨_, _, -, -, hb, -⟩ | ⟨-, hb⟩ <;> rw [hb] at h ⊢
  · cases h
  · cases r with
    | ok v => cases h
    | fail e' => cases h; exact ⟨rfl, rfl, rfl, rfl⟩

/-- `cache_discard` removes exactly the entry of the given call pattern: counters are untouched,
    the remaining entries keep their values and their order, the pattern is no longer cached and
    every other pattern is cached exactly if it was before. -/
theorem C10_discard_exact (c : Cfg) (s : St) (h : Inv c s) (hc : c.var ≠ .uncached) (p : Pattern) :
    (Impl.discard c s p).hits = s.hits ∧ (Impl.discard c s p).misses = s.misses ∧
    (Impl.discard c s p).store = s.store.filter (fun e => !Impl.eqv c.typed e.1 p) ∧
    find (Impl.eqv c.typed) p (Impl.discard c s p).store = none ∧
    ∀ q, Impl.eqv c.typed q p = false →
      find (Impl.eqv c.typed) q (Impl.discard c s p).store = find (Impl.eqv c.typed) q s.store := by
  have hst : (Impl.discard c s p).store = s.store.filter (fun e => !Impl.eqv c.typed e.1 p) := by
    obtain ⟨var, typed⟩ := c
    unfold Impl.discard
    cases var with
    | uncached => exact absurd rfl hc
    | memo => exact erase_eq_filter h.distinct
    | bounded n => exact erase_eq_filter h.distinct
  refine ⟨by unfold Impl.discard; cases c.var <;> rfl, by unfold Impl.discard; cases c.var <;> rfl, hst, ?_, ?_⟩
  · rw [hst]; exact find_filter_self _ _ _
  · intro q hq; rw [hst]; exact find_filter_other _ _ _ hq _

/-- Least-recently-used eviction, step by step: the entries are kept in order of last use (oldest
    first); a hit moves its entry to the most-recent end and evicts nothing; a miss appends the new
    entry at the most-recent end and evicts exactly the least recently used entry, and only when
    the cache already holds `maxsize` entries. -/
theorem C10_lru_step (n : Nat) (typed : Bool) (s : St) (p : Pattern) (v : Nat) :
    (∀ e, find (Impl.eqv typed) p s.store = some e →
        Impl.call ⟨.bounded n, typed⟩ s p (.ok v)
          = ({ s with store := erase (Impl.eqv typed) p s.store ++ [e], hits := s.hits + 1 }, .ret e.2 false)) ∧
    (find (Impl.eqv typed) p s.store = none →
        (Impl.call ⟨.bounded n, typed⟩ s p (.ok v)).2 = .ret v true ∧
        (Impl.call ⟨.bounded n, typed⟩ s p (.ok v)).1.store
          = (if s.store.length < n then s.store else s.store.drop 1) ++ [(p, v)]) := by
  refine ⟨fun e h => call_bounded_hit h _, fun h => ?_⟩
  rw [call_bounded_miss h]
  exact ⟨rfl, rfl⟩

/-- What "least recently used" means, globally: after any sequence of successful calls on a cache
    with `maxsize = n ≥ 1`, the cache holds exactly the `n` most recently used distinct call patterns
    (as key classes), least recently used first — `recency` lists every pattern ever used in order
    of its last use, `lastN n` takes the last `n`. -/
theorem C10_lru_contents (n : Nat) (hn : 1 ≤ n) (typed : Bool) (calls : List (Pattern × Nat)) :
    keys typed (final (Impl.step ⟨.bounded n, typed⟩) St.init (calls.map fun c => Op.call c.1 (.ok c.2))).store
      = lastN n (recency (calls.map fun c => keyOf typed c.1)) :=
  calls_lru n hn typed calls St.init [] List.nodup_nil (by simp [keys, St.init, lastN])

/-- `maxsize <= 0` disables caching: every call invokes the wrapped function, nothing is stored,
    each call is a miss. -/
theorem C10_disabled (n : Int) (hn : n ≤ 0) (typed : Bool) (s : St) (p : Pattern) (r : Res) :
    (Impl.lruCache (.paren (.int n) typed)).var = .uncached ∧
    (Impl.call ⟨.uncached, typed⟩ s p r).2 = (match r with | .ok v => .ret v true | .fail e => .raised e) ∧
    (Impl.call ⟨.uncached, typed⟩ s p r).1 = { s with misses := s.misses + 1 } := by
  refine ⟨?_, ?_, ?_⟩
  · simp only [Impl.lruCache]
    by_cases h : n < 0
    · simp [h]
    · have : n = 0 := by omega
      simp [this]
  · cases r <;> simp [Impl.call, Impl.begin, Impl.resume]
  · cases r <;> simp [Impl.call, Impl.begin, Impl.resume]

/-- `maxsize=None` is unbounded: no call ever evicts an entry. -/
theorem C10_unbounded_keeps (typed : Bool) (s : St) (q : Pattern) (e : Pattern × Nat)
    (h : find (Impl.eqv typed) q s.store = some e) (p : Pattern) (r : Res) :
    (Impl.lruCache (.paren .none typed)).var = .memo ∧
    find (Impl.eqv typed) q (Impl.call ⟨.memo, typed⟩ s p r).1.store = some e := by
  refine ⟨rfl, ?_⟩
  simp only [Impl.call, Impl.begin, Impl.resume]
  cases hf : find (Impl.eqv typed) p s.store with
  | some e' => simpa using h
  | none =>
    cases r with
    | fail x => simpa using h
    | ok v =>
      simp only [hf, Option.isSome_none, Bool.false_eq_true, if_false]
      exact find_append_of_some _ h

/-- A cache used as a method keys on the instance (calls through different instances never share
    an entry) while sharing the one store and the one set of statistics (a bound call is a call of
    the same cache with the instance prepended). -/
theorem C10_method_keys_on_instance (c : Cfg) (s : St) (i j : Nat) (p q : Pattern) (r : Res) :
    (Impl.eqv c.typed (bind i p) (bind j q) = true → i = j) ∧
    Impl.step c s (.mcall i p r) = Impl.step c s (.call (bind i p) r) ∧
    Impl.step c s (.mdiscard i p) = Impl.step c s (.discard (bind i p)) := by
  refine ⟨?_, rfl, rfl⟩
  intro h
  simp only [Impl.eqv, decide_eq_true_eq] at h
  obtain ⟨r1, h1⟩ := bind_key c.typed i p
  obtain ⟨r2, h2⟩ := bind_key c.typed j q
  rw [h1, h2] at h
  simp only [NKey.seq.injEq, List.cons.injEq, NElem.sc.injEq, NV.obj.injEq] at h
  exact h.1

/-! Non-vacuity: a concrete history on a cache of size 2 with `1 == 1.0` sharing an entry while the
    bare `1` of the fast path does not, keyword order, a failing call, eviction of the least
    recently used entry after a hit, discard and clear. -/
private def i1 : Arg := .prim (.int 1)
private def f1 : Arg := .prim (.float 2)
private def b1 : Arg := .prim (.bool true)
private def pa (l : List Arg) : Pattern := ⟨l, []⟩
private def d2 : Dec := .paren (.int 2) false

example : Impl.eqv false (pa [i1]) (pa [f1]) = false ∧ Impl.eqv false (pa [f1]) (pa [b1]) = true ∧
    Impl.eqv false (pa [i1, i1]) (pa [f1, b1]) = true ∧ Impl.eqv true (pa [i1, i1]) (pa [f1, b1]) = false ∧
    Impl.eqv false ⟨[], [(0, i1), (1, i1)]⟩ ⟨[], [(1, i1), (0, i1)]⟩ = false ∧
    Impl.eqv false ⟨[], [(0, i1), (1, i1)]⟩ ⟨[], [(0, f1), (1, b1)]⟩ = true := by decide +kernel

example : run (Impl.step (Impl.lruCache d2)) St.init
    [.call (pa [i1, i1]) (.ok 10), .call (pa [f1]) (.fail 7), .call (pa [f1]) (.ok 11), .call (pa [b1, f1]) (.ok 12),
     .call (pa [i1]) (.ok 13), .call (pa [f1]) (.ok 14), .info, .discard (pa [i1]), .call (pa [b1, b1]) (.ok 15),
     .call (pa [i1]) (.ok 16), .info, .clear, .info, .params]
  = [.ret 10 true, .raised 7, .ret 11 true, .ret 10 false, .ret 13 true, .ret 14 true, .info 1 5 (some 2) 2,
     .done, .ret 15 true, .ret 16 true, .info 1 7 (some 2) 2, .done, .info 0 0 (some 2) 0, .params (some 2) false] := by
  decide +kernel

example : lastN 2 (recency ([pa [i1], pa [f1], pa [i1], pa [i1, i1], pa [f1, b1], pa [f1]].map (keyOf false)))
    = [keyOf false (pa [i1, i1]), keyOf false (pa [f1])] := by decide +kernel

example : (Impl.lruCache (.paren (.int (-3)) true)) = ⟨.uncached, true⟩ ∧ (Impl.lruCache d2).ok ∧
    (Impl.lruCache d2).maxsize = some 2 := by decide +kernel

end AsyncVerif.Lru
