import AsyncVerif.Proofs.Decorator
/-!
# C15 — context managers as decorators wrap every call in a fresh, paired context

Property theorems only.  Model: `Machines/Decorator.lean`.

* `run cfg ops` — the **heap machine**: `ContextDecorator.__call__`'s `inner` coroutine per call,
  `_recreate_cm()` on the first send (a new generator object in the shared store for a
  `contextmanager`-created manager, `self` for a class-based one), `Op ⟨c, .resume⟩` = one `send`
  on task `c`, `Op ⟨c, .cancel x⟩` = one `throw`.
* `prun cfg ops` — the specification machine in which every call privately owns its manager.
* `specFrom` — the per-call automaton `enter, entered, bodyBegin, bodyEnd o, exit (exception of o),
  exited resp, finish (combine o resp)`.

All statements are for every configuration (any number of calls, any scripted behaviour of
generator / manager / body, any suspension counts) and every schedule `ops` (any interleaving,
any cancellations), by induction over `ops`.
-/
namespace AsyncVerif.Decorator

/-- **Calls never interfere (refinement).** Under every schedule the heap machine — where the
    generators of all calls live in one shared store and are reached through the reference
    `_recreate_cm()` returned — produces the same scheduler-visible outputs, the same event log
    and the same program counters as the machine in which every call owns its manager privately. -/
theorem C15_refines_private (cfg : Cfg) (ops : List Op) :
    (run cfg ops).2 = (prun cfg ops).2 ∧
    (run cfg ops).1.log.map (fun e => (e.call, e.ev)) = (prun cfg ops).1.log ∧
    ∀ c, ((run cfg ops).1.calls c).pc = ((prun cfg ops).1.calls c).pc :=
  ⟨run_outs cfg ops, (rel_reach cfg ops).log, (rel_reach cfg ops).pcs⟩

/-- **Each call gets its own generator.** After any schedule: a generator reference held by a call
    points to an object created after decoration time (index ≥ 1) that exists; two different calls
    never hold the same generator; the generator the decorating manager itself was created with
    (index 0) has never been started; and with a generator-based manager every `enter` event was
    logged by such a per-call generator. -/
theorem C15_fresh_generator (cfg : Cfg) (ops : List Op) :
    let s := (run cfg ops).1
    (∀ c g, (s.calls c).gid = some g → 1 ≤ g ∧ g < s.ngens) ∧
    (∀ c c' g, (s.calls c).gid = some g → (s.calls c').gid = some g → c = c') ∧
    s.gens 0 = dfltCell ∧
    (cfg.generatorBased = true → ∀ e ∈ s.log, e.ev = .enter → ∃ g, e.gen = some g ∧ (s.calls e.call).gid = some g) := by
  have h := rel_reach cfg ops
  refine ⟨fun c g hg => ⟨(h.own c g hg).1, (h.own c g hg).2.1⟩, h.inj, h.gen0, ?_⟩
  intro hgb e he hev
  have h1 := h.genev hgb e he hev
  have h2 := h.tagged e he
  cases hg : e.gen with
  | none => exact absurd hg h1
  | some g => exact ⟨g, rfl, by rw [← h2, hg]⟩

/-- **Enter and exit of a call run in the same manager.** Every event of call `c` — in particular
    its `enter` and its `exit` — carries the generator reference call `c` holds at the end; a
    call's reference never changes once `_recreate_cm()` has run. -/
theorem C15_same_generator (cfg : Cfg) (ops : List Op) :
    ∀ e ∈ (run cfg ops).1.log, e.gen = ((run cfg ops).1.calls e.call).gid :=
  (rel_reach cfg ops).tagged

/-- **One step of another call changes nothing of mine.** In every reachable state, an operation
    on call `c'` leaves the program counter and generator reference of every other call `c`, the
    generator object `c` holds, and the events of `c` untouched. -/
theorem C15_noninterference (cfg : Cfg) (ops : List Op) (op : Op) (c : Nat) (hc : op.call ≠ c) :
    let s := (run cfg ops).1
    let s' := (step cfg s op).1
    s'.calls c = s.calls c ∧ (∀ g, (s.calls c).gid = some g → s'.gens g = s.gens g) ∧
    proj c s'.log = proj c s.log :=
  step_other (rel_reach cfg ops) op c hc

/-- **Per-call projection.** Whatever the other calls do and however they are interleaved with it,
    call `c` behaves exactly as if only its own operations had been performed: same program
    counter, same events, same outputs to the scheduler, same state of its own generator. -/
theorem C15_projection (cfg : Cfg) (ops : List Op) (c : Nat) :
    let s := (run cfg ops).1
    let t := (run cfg (ops.filter (fun op => op.call == c))).1
    (s.calls c).pc = (t.calls c).pc ∧ proj c s.log = proj c t.log ∧
    outsOf c ops (run cfg ops).2 = (run cfg (ops.filter (fun op => op.call == c))).2 ∧
    (∀ g g', (s.calls c).gid = some g → (t.calls c).gid = some g' → s.gens g = t.gens g') := by
  have hs := rel_reach cfg ops
  have ht := rel_reach cfg (ops.filter (fun op => op.call == c))
  obtain ⟨p1, p2, p3⟩ := pproject cfg c ops (PState.init cfg) (PState.init cfg) rfl rfl
  refine ⟨(hs.pcs c).trans ((congrArg Local.pc p1).trans (ht.pcs c).symm), ?_, ?_, fun g g' hg hg' => ?_⟩
  · rw [proj_run, proj_run]; exact p2
  · rw [run_outs, run_outs]; exact p3
  · rw [(hs.own c g hg).2.2, (ht.own c g' hg').2.2]; exact congrArg Local.cell p1

/-- **Every call is paired.** Under every schedule, the events of each call form a run of the
    specification automaton: the manager is entered before the body starts, the body starts only
    in an established context, the exit starts after the body ended and is handed exactly the
    body's exception (or none), a failed enter is followed by neither body nor exit, and the call
    finishes with `combine (body outcome) (answer of the exit)`.  The automaton ends in the state
    that corresponds to the call's program counter. -/
theorem C15_paired (cfg : Cfg) (ops : List Op) (c : Nat) :
    specFrom .init (proj c (run cfg ops).1.log) = some (absSt ((run cfg ops).1.calls c).pc) := by
  rw [proj_run, (rel_reach cfg ops).pcs c]
  exact (pinv_reach cfg ops).acc c

/-- **A finished call has one of exactly three histories**: thrown into before it started (nothing
    ran); enter failed (no body, no exit, that exception leaves); or
    `enter, entered, bodyBegin, bodyEnd o, exit (exception of o), exited resp, finish r` with
    `r = combine o resp` — the body's value if it returned, `None` if its exception was suppressed,
    the body's own exception object if the exit answered falsy, whatever the exit raised otherwise. -/
theorem C15_complete_call (cfg : Cfg) (ops : List Op) (c : Nat) (r : Result)
    (h : ((run cfg ops).1.calls c).pc = .done r) :
    CompleteShape (proj c (run cfg ops).1.log) r := by
  have := C15_paired cfg ops c
  rw [h] at this
  exact shape_of_accepted _ _ this

/-- **A running call is on its way through the same history**: at every moment the events of a
    call are a prefix of one of the three complete histories. -/
theorem C15_prefix_of_complete (cfg : Cfg) (ops : List Op) (c : Nat) :
    ∃ full r, proj c (run cfg ops).1.log <+: full ∧ CompleteShape full r :=
  prefix_of_complete _ _ (C15_paired cfg ops c)

/-- **Every call completes.** Under every schedule, a call that has been operated on (sent to or
    thrown into) at least `sendBound` times — one operation per suspension its enter, body and
    exit can take, plus one — is done: it returned or raised.  No call can be blocked, starved or
    poisoned by the other calls. -/
theorem C15_terminates (cfg : Cfg) (ops : List Op) (c : Nat) (cc : CallCfg) (hcc : cfg.calls[c]? = some cc)
    (h : sendBound cfg.generatorBased cc ≤ opsOn c ops) :
    ∃ r, ((run cfg ops).1.calls c).pc = .done r := by
  rw [(rel_reach cfg ops).pcs c]
  exact prun_done cfg ops c cc hcc h

/-- **Result of a decorated call** (the `async with` statement around `return await func(...)`):
    a returned value passes whatever the exit returns; a body exception is suppressed by a truthy
    answer (the call returns `None`) and re-raised as the same object by a falsy one; an exception
    raised by the exit replaces both. -/
theorem C15_combine (v : Nat) (e x : Exc) (b : Bool) :
    combine (.returned v) (.returned b) = .value v ∧
    combine (.raised e) (.returned true) = .none ∧
    combine (.raised e) (.returned false) = .raised e ∧
    combine (.returned v) (.raised x) = .raised x ∧
    combine (.raised e) (.raised x) = .raised x := by
  cases b <;> simp [combine]

/-! ## Non-vacuity: concrete schedules -/

private def gSusp : GenProg := ⟨1, .yields, 1, .stops, 1, .swallow⟩
private def pDflt : PlainProg := ⟨0, .ok, 0, .falsy, .falsy⟩
/-- call 0 returns 7; call 1 raises 11, which its generator swallows; call 2's generator re-raises -/
private def cfg3 : Cfg :=
  { generatorBased := true,
    calls := [⟨gSusp, pDflt, 1, .returns 7⟩, ⟨gSusp, pDflt, 1, .raises 11⟩,
              ⟨{ gSusp with thr := .reraise }, pDflt, 0, .raises 12⟩] }
private def s (c : Nat) : Op := ⟨c, .resume⟩
/-- three calls interleaved at every suspension point; call 2 is cancelled inside its exit -/
private def sched : List Op := [s 1, s 0, s 2, s 0, s 1, s 2, s 1, s 0, ⟨2, .cancel (.user 99)⟩, s 0, s 1]

example : (run cfg3 sched).2 =
    [.suspended .enter, .suspended .enter, .suspended .enter, .suspended .body, .suspended .body,
     .suspended .exit, .suspended .exit, .suspended .exit, .finished (.raised (.user 99)),
     .finished (.value 7), .finished .none] := by decide
example : proj 1 (run cfg3 sched).1.log =
    [.enter, .entered, .bodyBegin, .bodyEnd (.raised (.user 11)), .exit (some (.user 11)),
     .exited (.returned true), .finish .none] := by decide
example : (List.range 3).map (fun c => ((run cfg3 sched).1.calls c).gid) = [some 2, some 1, some 3] := by decide
example : ((run cfg3 sched).1.calls 0).pc = .done (.value 7) := by decide
example : (run cfg3 sched).1.ngens = 4 := by decide
example : sendBound true ⟨gSusp, pDflt, 1, .returns 7⟩ = 4 ∧ opsOn 0 sched = 4 := by decide
/-- a class-based manager: no generator at all, the same pairing -/
example : proj 0 (run { cfg3 with generatorBased := false } [s 0, s 0]).1.log =
    [.enter, .entered, .bodyBegin, .bodyEnd (.returned 7), .exit none, .exited (.returned false),
     .finish (.value 7)] := by decide
/-- thrown into before the first send: nothing runs, no generator is created -/
example : (run cfg3 [⟨0, .cancel (.user 5)⟩]).1.log = [⟨0, none, .finish (.raised (.user 5))⟩] ∧
    (run cfg3 [⟨0, .cancel (.user 5)⟩]).1.ngens = 1 := by decide

end AsyncVerif.Decorator
