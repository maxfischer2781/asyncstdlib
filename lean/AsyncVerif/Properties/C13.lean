import AsyncVerif.Proofs.ContextManager
/-!
# C13 — contextmanager equals asynccontextmanager for every generator and body outcome

Property theorems only.  Model: `Machines/ContextManager.lean` (`Impl` = asyncstdlib's
`_AsyncGeneratorContextManager`, `Std` = CPython 3.12's, `Decl` = the declarative reading,
`Gen` = every terminating async generator as a behaviour tree, `settle/aclose` = the runtime).
All theorems are over **all** generators `g : Gen` / continuations `k : Resume → Gen` (arbitrary
functions of the thrown exception object) and **all** block outcomes.
-/
namespace AsyncVerif.ContextManager

/-- The block is entered with exactly the value the generator yields first, after exactly one
    `__anext__`. -/
theorem C13_enters_with_yielded_value (v : Val) (k : Resume → Gen) (b : Block) :
    (Impl.run (.yield v k) b).entered = some v ∧ (Impl.run (.yield v k) b).ops.head? = some .anext := by
  rw [Impl.run_yield]; exact ⟨rfl, rfl⟩

/-- A generator that returns without yielding: the statement raises the "did not yield"
    `RuntimeError`, the block never runs, the generator is not touched again. -/
theorem C13_did_not_yield (b : Block) :
    Impl.run .ret b = { entered := none, final := .raises (.lib .didNotYield), ops := [.anext] } :=
  (run_not_entered .ret b _ aenter_ret).1

/-- A generator that raises before yielding: that very object surfaces (a
    `StopIteration`/`StopAsyncIteration` as the runtime's `RuntimeError` carrying it as
    `__cause__`, never as "did not yield"); the block never runs. -/
theorem C13_raise_before_yield (e : Exc) (b : Block) :
    Impl.run (.raise e) b = { entered := none, final := .raises (Decl.surface e), ops := [.anext] } := by
  exact (run_not_entered _ b _ (aenter_raise e)).1

/-- After entering, `__aexit__` touches the generator exactly once: resumed after a normal
    block, closed after `GeneratorExit`, otherwise thrown into with the block's own exception
    object. -/
theorem C13_once (v : Val) (k : Resume → Gen) (b : Block) :
    (Impl.run (.yield v k) b).ops =
      [.anext, match b.exc with
               | none => .anext
               | some ev => if ev.kind = .generatorExit then .aclose else .athrow ev] := by
  rw [Impl.run_yield]
  cases b.exc with
  | none => rfl
  | some ev => simp only [Impl.aexit]; split <;> rfl

/-- asyncstdlib's `__aexit__` — with its dispatch over exception classes (`except
    StopAsyncIteration`, `except RuntimeError`, `except exc_type`) — decides exactly as the
    class-free reading `Decl.aexit`: generator stops → suppress; yields again →
    `RuntimeError`; lets the block's exception out (as itself, or promoted by the runtime if it
    is a `Stop(Async)Iteration`) → `False`, so the same object propagates; raises anything else
    → that surfaces; `GeneratorExit` → close, never suppress. -/
theorem C13_outcome_table (k : Resume → Gen) (b : Block) :
    (Impl.aexit k b.exc).1 = Decl.aexit k b.exc :=
  Impl.aexit_decl k b

/-- An exception of the block that the generator does not handle (it leaves the generator at
    the `yield`) propagates out of the statement as that same object — whatever its class: a
    `StopIteration`, `StopAsyncIteration` or `RuntimeError` raised in the block is not mistaken
    for the generator's own end, for a promotion of something else, or for a generator error. -/
theorem C13_block_exception_propagates (v : Val) (k : Resume → Gen) (b : Block) (ev : Exc)
    (hb : b.exc = some ev) (hk : k (.throw ev) = .raise ev) (hg : ev.kind ≠ .generatorExit) :
    (Impl.run (.yield v k) b).final = .raises ev := by
  rw [run_yield_final, hb]
  simp only [Decl.aexit, hg, if_false, hk, if_true, finalOf]

/-- A generator that handles the thrown exception and stops suppresses it — also when the
    block's exception is itself a `StopAsyncIteration`/`StopIteration`. -/
theorem C13_generator_stop_suppresses (v : Val) (k : Resume → Gen) (b : Block) (ev : Exc)
    (hb : b.exc = some ev) (hk : k (.throw ev) = .ret) (hg : ev.kind ≠ .generatorExit) :
    (Impl.run (.yield v k) b).final = .suppressed := by
  rw [run_yield_final, hb]
  simp only [Decl.aexit, hg, if_false, hk, finalOf]

/-- An exception the generator raises instead of the block's (a different object, and not an
    explicit `RuntimeError from <the block's Stop(Async)Iteration>`, which nobody can tell from
    the runtime's promotion) surfaces as what left the generator: the object itself, or the
    runtime's `RuntimeError` around a `Stop(Async)Iteration`; never suppressed, never replaced
    by the block's exception. -/
theorem C13_generator_exception_surfaces (v : Val) (k : Resume → Gen) (b : Block) (ev e : Exc)
    (hb : b.exc = some ev) (hk : k (.throw ev) = .raise e) (hg : ev.kind ≠ .generatorExit)
    (hne : e ≠ ev) (hlp : Decl.looksPromoted e ev = false) :
    (Impl.run (.yield v k) b).final = .raises (Decl.surface e) := by
  rw [run_yield_final, hb]
  simp only [Decl.aexit, hg, if_false, hk, hne, hlp, Bool.false_eq_true, finalOf]

/-- For every generator and every block outcome other than `GeneratorExit`, the statement
    built on asyncstdlib's `contextmanager` binds the same value and ends the same way as the one
    built on `contextlib.asynccontextmanager`: normally, suppressed, or with the same exception
    object (the block's, the generator's, the runtime's promotion, or the same kind of
    "did not yield / did not stop" `RuntimeError`).
    Hypothesis `hcl`: if the single wake-up makes the generator yield a *second* time, that
    second `yield` is a plain one (closing the generator there just ends it) — CPython closes
    the generator before reporting "did not stop", asyncstdlib does not, see
    `C13_equals_asynccontextmanager_counterexample`.  Every program of the property's grammar
    satisfies `hcl` (`C13_grammar_second_yield_clean`). -/
theorem C13_equals_asynccontextmanager_partial (g : Gen) (b : Block)
    (hge : b.isGenExit = false) (hcl : secondYieldClean g b = true) :
    (Impl.run g b).entered = (Std.run g b).entered ∧ (Impl.run g b).final = (Std.run g b).final := by
  cases g with
  | ret => have h := run_not_entered .ret b _ aenter_ret; rw [h.1, h.2]; exact ⟨rfl, rfl⟩
  | raise e => have h := run_not_entered _ b _ (aenter_raise e); rw [h.1, h.2]; exact ⟨rfl, rfl⟩
  | «yield» v k =>
    rw [Impl.run_yield, Std.run_yield]
    refine ⟨rfl, congrArg (finalOf · b.exc) ?_⟩
    cases hb : b.exc with
    | none =>
      simp only [Impl.aexit, Std.aexit, anext]
      cases hs : settle (k .next) with
      | raised e => rfl
      | yielded v2 k2 => exact (raiseThenClose_clean hcl (secondYield_next hb hs) _).symm
    | some ev =>
      have hg : ev.kind ≠ .generatorExit := by
        simpa [Block.isGenExit, hb] using hge
      simp only [Impl.aexit, Std.aexit, athrow, hg, if_false]
      cases hs : settle (k (.throw ev)) with
      | raised exc =>
        exact handlers_eq exc ev fun hsai h =>
          Block.exc_ne_lib hb _ (h.symm.trans (settle_sai hs hsai).1)
      | yielded v2 k2 => exact (raiseThenClose_clean hcl (secondYield_throw hb hs) _).symm

/-- Without `hcl` the equality fails: a generator whose second `yield` sits in
    `try: … finally: raise e7`, after a normal block.  asyncstdlib reports "did not stop" and
    leaves the generator suspended; CPython closes it first and `e7` surfaces instead. -/
theorem C13_equals_asynccontextmanager_counterexample :
    let g := (Program.mk (.yields 1) .none (.yieldAgain 2 (.finallyRaise (.user 7 .exception)))).gen
    secondYieldClean g .normal = false ∧
    (Impl.run g .normal).final = .raises (.lib .didNotStop) ∧
    (Std.run g .normal).final = .raises (.user 7 .exception) := by
  decide

/-- The only thing CPython does to the generator beyond asyncstdlib (for non-`GeneratorExit`
    outcomes) is that trailing `aclose()` in the "did not stop" cases. -/
theorem C13_operations_vs_asynccontextmanager (g : Gen) (b : Block) (hge : b.isGenExit = false) :
    (Std.run g b).ops = (Impl.run g b).ops ∨ (Std.run g b).ops = (Impl.run g b).ops ++ [.aclose] := by
  cases g with
  | ret => have h := run_not_entered .ret b _ aenter_ret; rw [h.1, h.2]; exact Or.inl rfl
  | raise e => have h := run_not_entered _ b _ (aenter_raise e); rw [h.1, h.2]; exact Or.inl rfl
  | «yield» v k =>
    rw [Impl.run_yield, Std.run_yield]
    cases hb : b.exc with
    | none =>
      simp only [Impl.aexit, Std.aexit]
      cases anext k
      · exact .inr rfl
      · exact .inl rfl
    | some ev =>
      have hg : ev.kind ≠ .generatorExit := by
        simpa [Block.isGenExit, hb] using hge
      simp only [Impl.aexit, Std.aexit, hg, if_false]
      cases athrow k ev
      · exact .inr rfl
      · exact .inl rfl

/-- Every program of the harness grammar whose second `yield` (if any) is a plain one — in
    particular every program of the property's quantifier — satisfies the hypothesis of
    `C13_equals_asynccontextmanager_partial`, for every block outcome. -/
theorem C13_grammar_second_yield_clean (p : Program) (b : Block)
    (hbare : ∀ v gd, p.after = .yieldAgain v gd → gd = .bare) :
    secondYieldClean p.gen b = true := by
  have bare : ∀ v rest v2 k2, bareYield v rest = .yield v2 k2 → aclose k2 = none := by
    intro v rest v2 k2 h; cases h; rfl
  have after : ∀ v2 k2, p.after.gen = .yield v2 k2 → aclose k2 = none := by
    intro v2 k2 h
    cases ha : p.after with
    | stop => rw [ha] at h; cases h
    | raises e => rw [ha] at h; cases h
    | yieldAgain v gd => cases hbare v gd ha; rw [ha] at h; exact bare _ _ _ _ h
  cases hs : p.start with
  | raises e => simp only [Program.gen, hs]; rfl
  | noYield => simp only [Program.gen, hs]; rfl
  | yields v =>
    simp only [Program.gen, hs]
    refine secondYieldClean_of b fun r v2 k2 h => ?_
    cases r with
    | next => exact after _ _ h
    | throw e =>
      -- what the generator does with `e` thrown in at its first `yield`
      simp only at h
      revert h
      cases p.handler with
      | none => intro h; cases h
      | finally_ => intro h; cases h
      | handle c a =>
        intro h
        simp only at h
        split at h
        · cases a <;> first | exact after _ _ h | exact bare _ _ _ _ h | cases h
        · cases h

/-- The property over its own quantifier, without semantic hypotheses: for every program of the
    harness grammar whose second `yield` (if any) is a plain one — this contains every program
    composed from {raise before yield, no yield, yield} x {no handler, finally, swallow,
    re-raise, raise new, raise new from None, raise same type, return, yield again, raise
    StopAsyncIteration} x {stop, yield again, raise afterwards} — and every block outcome other
    than `GeneratorExit`, asyncstdlib's `contextmanager` and `contextlib.asynccontextmanager`
    bind the same value and end the statement the same way (same exception object, or
    suppressed, or the same "did not yield / did not stop" `RuntimeError`). -/
theorem C13_equals_asynccontextmanager (p : Program) (b : Block)
    (hbare : ∀ v gd, p.after = .yieldAgain v gd → gd = .bare) (hge : b.isGenExit = false) :
    (Impl.run p.gen b).entered = (Std.run p.gen b).entered ∧
    (Impl.run p.gen b).final = (Std.run p.gen b).final :=
  C13_equals_asynccontextmanager_partial p.gen b hge (C13_grammar_second_yield_clean p b hbare)

/-- When `GeneratorExit` leaves the block, asyncstdlib closes the generator (one `aclose()`,
    the block's object is not thrown in) and never suppresses: if the close goes through
    (the generator ends, however it reacts to `GeneratorExit` otherwise), the block's own
    `GeneratorExit` object propagates; if the generator misbehaves during the close — raises
    something, or yields again (`RuntimeError` from the runtime) — that exception surfaces. -/
theorem C13_genexit (v : Val) (k : Resume → Gen) (b : Block) (ev : Exc)
    (hb : b.exc = some ev) (hg : ev.kind = .generatorExit) :
    (Impl.run (.yield v k) b).ops = [.anext, .aclose] ∧
    (Impl.run (.yield v k) b).final ≠ .suppressed ∧
    (Impl.run (.yield v k) b).final ≠ .normal ∧
    (aclose k = none → (Impl.run (.yield v k) b).final = .raises ev) ∧
    (∀ e, aclose k = some e → (Impl.run (.yield v k) b).final = .raises e) := by
  have hop := C13_once v k b
  simp only [hb, hg, if_true] at hop
  refine ⟨hop, ?_⟩
  rw [run_yield_final, hb]
  simp only [Decl.aexit, hg, if_true]
  cases aclose k <;> simp [finalOf]

/-- A generator that does not catch `GeneratorExit` (it lets every `GeneratorExit` object
    through at its first `yield`) gives the same outcome under both libraries for a
    `GeneratorExit` block as well: the block's object propagates. -/
theorem C13_genexit_uncaught_agrees (v : Val) (k : Resume → Gen) (b : Block) (ev : Exc)
    (hb : b.exc = some ev) (hg : ev.kind = .generatorExit)
    (hk : ∀ x : Exc, x.kind = .generatorExit → k (.throw x) = .raise x) :
    (Impl.run (.yield v k) b).final = .raises ev ∧ (Std.run (.yield v k) b).final = .raises ev := by
  have hst : ev.isStop = false := by rw [Exc.isStop, hg]; rfl
  constructor
  · apply (C13_genexit v k b ev hb hg).2.2.2.1
    unfold aclose; rw [hk _ rfl]; rfl
  · rw [Std.run_yield, hb]
    simp [Std.aexit, athrow, hk ev hg, settle, hst, Std.handlers, hg, Kind.isSub, finalOf]

/-- The deliberate difference, exhibited: a generator that swallows `GeneratorExit` and stops.
    `asynccontextmanager` throws the block's `GeneratorExit` in and suppresses it; asyncstdlib
    closes the generator and the same `GeneratorExit` object propagates. -/
theorem C13_genexit_deliberate_difference :
    let g := (Program.mk (.yields 1) (.handle .all .swallow) .stop).gen
    (Impl.run g (.raises 5 .generatorExit)).final = .raises (.user 5 .generatorExit) ∧
    (Impl.run g (.raises 5 .generatorExit)).ops = [.anext, .aclose] ∧
    (Std.run g (.raises 5 .generatorExit)).final = .suppressed ∧
    (Std.run g (.raises 5 .generatorExit)).ops = [.anext, .athrow (.user 5 .generatorExit)] := by
  decide

/-! Non-vacuity: concrete programs on which the hypotheses hold and every branch is taken. -/

private def pReraise : Program := ⟨.yields 1, .handle .all .reraise, .stop⟩
private def pSwallowYield : Program := ⟨.yields 1, .handle .exception .swallow, .yieldAgain 2 .bare⟩
private def pRaiseSAI : Program := ⟨.yields 1, .handle .all (.raiseNew (.user 9 .stopAsyncIteration)), .stop⟩
private def pFromThrown : Program := ⟨.yields 1, .handle .all (.raiseFrom 9 .runtimeError), .stop⟩

-- a StopIteration raised in the block and re-raised by the generator is promoted by the runtime
-- and still attributed to the block: the same object propagates, under both libraries
example : (Impl.run pReraise.gen (.raises 5 .stopIteration)).final = .raises (.user 5 .stopIteration) ∧
    (Std.run pReraise.gen (.raises 5 .stopIteration)).final = .raises (.user 5 .stopIteration) ∧
    secondYieldClean pReraise.gen (.raises 5 .stopIteration) = true ∧
    Block.isGenExit (.raises 5 .stopIteration) = false := by decide
-- hypotheses of C13_block_exception_propagates
example : (fun r => match r with | Resume.next => Gen.ret | .throw e => Gen.raise e)
    (.throw (.user 5 .runtimeError)) = .raise (.user 5 .runtimeError) := rfl
-- swallowed, then a second (plain) yield: "did not stop after throw", and CPython's extra aclose
example : (Impl.run pSwallowYield.gen (.raises 5 .exception)) =
    { entered := some 1, final := .raises (.lib .didNotStopAfterThrow),
      ops := [.anext, .athrow (.user 5 .exception)] } ∧
    (Std.run pSwallowYield.gen (.raises 5 .exception)).ops =
      [.anext, .athrow (.user 5 .exception), .aclose] ∧
    secondYieldClean pSwallowYield.gen (.raises 5 .exception) = true := by decide
-- the handler does not catch KeyboardInterrupt: it propagates as the same object
example : (Impl.run pSwallowYield.gen (.raises 5 .keyboardInterrupt)).final =
    .raises (.user 5 .keyboardInterrupt) := by decide
-- a *new* StopAsyncIteration raised by the generator while the block raised StopAsyncIteration:
-- not attributed to the block
example : (Impl.run pRaiseSAI.gen (.raises 5 .stopAsyncIteration)).final =
    .raises (.promoted (.user 9 .stopAsyncIteration)) := by decide
-- the one indistinguishable case, excluded by `hlp` in C13_generator_exception_surfaces
example : Decl.looksPromoted (.userFrom 9 .runtimeError (.user 5 .stopIteration)) (.user 5 .stopIteration) = true ∧
    (Impl.run pFromThrown.gen (.raises 5 .stopIteration)).final = .raises (.user 5 .stopIteration) ∧
    (Std.run pFromThrown.gen (.raises 5 .stopIteration)).final = .raises (.user 5 .stopIteration) := by decide
-- GeneratorExit with a generator that yields again while being closed
example : (Impl.run (Program.mk (.yields 1) (.handle .genExit (.yieldAgain 3)) .stop).gen
    (.raises 5 .generatorExit)).final = .raises (.lib .ignoredGE) := by decide
-- hypothesis of C13_grammar_second_yield_clean
example : ∀ v gd, pSwallowYield.after = .yieldAgain v gd → gd = .bare := by
  intro v gd h; simp [pSwallowYield] at h; exact h.2.symm

end AsyncVerif.ContextManager
