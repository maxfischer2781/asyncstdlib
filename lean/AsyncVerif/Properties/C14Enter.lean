import AsyncVerif.Proofs.ExitStackEnter
/-!
# C14 / C18 — `ExitStack.enter_context` when the manager's enter SUSPENDS

Property theorems only.  Model: `Machines/ExitStackEnter.lean`.  One task runs

```python
async with ExitStack() as st:
    for m in managers: await st.enter_context(m)      # callback flavour: st.callback(m)
    <body>
```

and is advanced by `send` / `throw e`; it can be suspended inside a manager's `__aenter__`, inside
the body, and inside a manager's exit while the stack unwinds — and a cancellation (`throw e`) can
arrive at any of these points.  `Impl.run` follows `asyncstdlib.contextlib.ExitStack`
(`enter_context` awaits the enter first and appends the exit afterwards; `__aexit__` loop),
`Nested.run` is the same task written with literally nested `async with` / `with` / `try-finally`
statements.  `enteredIds` / `exitIds` project the event log onto "enter of manager i completed
(callback i registered)" / "exit of manager i called".
-/
namespace AsyncVerif.ExitStackEnter
open AsyncVerif.ExitStack (ExcId ExitResp Outcome)

/-- **ExitStack with suspending enters / exits = nested `async with`.**  For every list of managers
    (any flavours, any number of suspensions inside each enter and exit, any result of each), every
    body and every sequence of `send` / `throw e` operations — so with cancellations delivered inside
    an enter, inside the body or inside an exit — the ExitStack task and the literally nested
    statements produce the same event log (`enter i`, `entered i v`, `exit i` with the identity of the
    exception handed to it, in the same order), hand the same answers to the driver after every
    operation (where the task is suspended, or how the statement ended: normally / which exception
    propagates), and have the same final outcome. -/
theorem C14_enter_suspended_equals_nested (cfg : Cfg) (ops : List Op) :
    (Impl.run cfg ops).log = (Nested.run cfg ops).log ∧
    (Impl.run cfg ops).outs = (Nested.run cfg ops).outs ∧
    (Impl.run cfg ops).pc.result = (Nested.run cfg ops).pc.result := by
  have h := run_sim cfg ops
  exact ⟨h.2.1, h.2.2, result_sim h.1⟩

/-- **Cancelled (or failing by a thrown-in exception) inside the enter of manager `i`.**  Take any
    run `pre` after which the task is suspended inside `__aenter__` of manager `i`
    (`entering = some i`), throw `e` in there, and continue with any operations `post` until the task
    has finished.  Then `i` is a manager of the list, no exit had run before the throw, and over the
    whole run the exits that were called are exactly those of managers `i-1, …, 0` in this order —
    hence each exactly once and the exit of manager `i` (whose enter never completed) not at all;
    the managers recorded as entered are exactly `0 … i-1`. -/
theorem C18_cancel_inside_enter_exits_exactly_the_entered (cfg : Cfg) (pre post : List Op)
    (e : ExcId) (i : Nat)
    (hsusp : (Impl.run cfg pre).pc.entering = some i)
    (hdone : (Impl.run cfg (pre ++ .throw e :: post)).finished = true) :
    i < cfg.mgrs.length ∧
    exitIds (Impl.run cfg pre).log = [] ∧
    exitIds (Impl.run cfg (pre ++ .throw e :: post)).log = (List.range i).reverse ∧
    enteredIds (Impl.run cfg (pre ++ .throw e :: post)).log = List.range i ∧
    i ∉ exitIds (Impl.run cfg (pre ++ .throw e :: post)).log ∧
    (exitIds (Impl.run cfg (pre ++ .throw e :: post)).log).Nodup := by
  have hinv := run_inv cfg pre
  rw [run_append, List.foldl_cons] at hdone ⊢
  obtain ⟨stack, m, left, todo, hpc, rfl⟩ := enter_of_entering hsusp
  rw [hpc] at hinv
  have hthrow : UnwSt stack.length (Impl.step cfg (Impl.run cfg pre) (.throw e)).pc
      (Impl.step cfg (Impl.run cfg pre) (.throw e)).log := by
    rw [(step_pc_log cfg _ _).1, (step_pc_log cfg _ _).2, hpc]
    cases left <;> exact fail_unwSt stack e _ hinv.2.1 hinv.2.2
  have hfin := foldl_unwSt cfg stack.length post _ hthrow
  obtain ⟨o, ho⟩ := done_of_finished hdone
  rw [ho] at hfin
  obtain ⟨he, hx⟩ : _ ∧ exitIds _ = (List.range stack.length).reverse := hfin
  refine ⟨?_, hinv.2.2, hx, he, ?_, ?_⟩
  · have := congrArg List.length hinv.1
    simp at this; omega
  · rw [hx]; simp
  · rw [hx]; exact range_reverse_nodup _

/-- **The cancellation thrown into a suspended enter reaches the innermost entered manager.**  If the
    task is suspended inside the enter of the manager that follows `top` (the last one entered) and
    `e` is thrown in, the very next event is the exit of `top`, and it is handed `e` itself (a
    callback is handed nothing). -/
theorem C18_cancel_inside_enter_reaches_innermost_exit (cfg : Cfg) (pre : List Op) (e : ExcId)
    (top m : Mgr) (stack todo : List Mgr) (left : Nat)
    (hsusp : (Impl.run cfg pre).pc = .enter (top :: stack) m left todo) :
    ∃ tail, (Impl.run cfg (pre ++ [.throw e])).log
      = (Impl.run cfg pre).log ++ .exit stack.length (top.handed (some e)) :: tail := by
  rw [run_append, List.foldl_cons, List.foldl_nil, (step_pc_log cfg _ _).2, hsusp]
  have : ∃ tail, (Impl.fail (top :: stack) e).2 = .exit stack.length (top.handed (some e)) :: tail := by
    simp only [Impl.fail, Impl.unwind, Impl.loopInit, Outcome.exc]
    rcases top.xSusp with _ | k
    · exact ⟨_, rfl⟩
    · exact ⟨_, rfl⟩
  obtain ⟨tail, ht⟩ := this
  refine ⟨tail, ?_⟩
  cases left <;> simp only [Impl.next, ht]

/-- **Every entered manager is exited exactly once.**  On every complete run (any managers, any
    operations, cancellations anywhere) the sequence of exits called is exactly the reverse of the
    sequence of managers whose enter completed (callbacks: that were registered); no manager is
    recorded as entered twice; so the exit of manager `i` is called exactly once if its enter
    completed and never otherwise. -/
theorem C18_every_entered_exited_once (cfg : Cfg) (ops : List Op)
    (hdone : (Impl.run cfg ops).finished = true) :
    exitIds (Impl.run cfg ops).log = (enteredIds (Impl.run cfg ops).log).reverse ∧
    (enteredIds (Impl.run cfg ops).log).Nodup ∧
    ∀ i, (exitIds (Impl.run cfg ops).log).count i
      = if i ∈ enteredIds (Impl.run cfg ops).log then 1 else 0 := by
  have hinv := run_inv cfg ops
  obtain ⟨o, ho⟩ := done_of_finished hdone
  rw [ho] at hinv
  obtain ⟨k, he, hx⟩ : ∃ k, _ ∧ exitIds _ = (List.range k).reverse := hinv
  rw [hx, he]
  refine ⟨rfl, List.nodup_range, fun i => ?_⟩
  rw [List.count_reverse, List.count_range]
  simp [List.mem_range]

/-- **At every moment of every run** (complete or not): no exit has been called twice, and an exit
    has been called only for a manager whose enter had completed. -/
theorem C18_exit_at_most_once_and_only_if_entered (cfg : Cfg) (ops : List Op) :
    (exitIds (Impl.run cfg ops).log).Nodup ∧
    ∀ i ∈ exitIds (Impl.run cfg ops).log, i ∈ enteredIds (Impl.run cfg ops).log := by
  have hinv := run_inv cfg ops
  generalize Impl.run cfg ops = s at hinv
  obtain ⟨pc, log, outs⟩ := s
  have key : ∀ k (ex tl : List Nat), enteredIds log = List.range k →
      ex ++ tl = (List.range k).reverse → ex.Nodup ∧ ∀ i ∈ ex, i ∈ enteredIds log := by
    intro k ex tl he hx
    have hn := range_reverse_nodup k
    rw [← hx, List.nodup_append] at hn
    refine ⟨hn.1, fun i hi => ?_⟩
    have : i ∈ (List.range k).reverse := by rw [← hx]; exact List.mem_append_left _ hi
    rw [he]; simpa using this
  cases pc with
  | enter _ _ _ _ => obtain ⟨_, _, h2⟩ := hinv; simp only [h2]; simp
  | body _ _ => obtain ⟨_, _, h2⟩ := hinv; simp only [h2]; simp
  | exit rest _ _ _ _ => obtain ⟨k, he, hx⟩ := hinv; exact key k _ _ he hx
  | done _ =>
    obtain ⟨k, he, hx⟩ := hinv
    exact key k _ [] he (by simpa [UnwP] using hx)

/-- **Every run can be completed**: after any operations, finitely many further `send`s finish the
    task (so the hypothesis "the run is complete" of the theorems above can always be met). -/
theorem C18_enter_run_can_complete (cfg : Cfg) (ops : List Op) :
    ∃ n, (Impl.run cfg (ops ++ List.replicate n Op.send)).finished = true := by
  refine ⟨mu cfg (Impl.run cfg ops).pc, ?_⟩
  rw [run_append]
  exact sends_finish cfg _ _ (Nat.le_refl _)

/-- an async manager suspending once in enter and once in exit -/
private def mA : Mgr := ⟨.async, 1, .ok 0, 1, .falsy⟩
/-- a sync manager that suppresses -/
private def mS : Mgr := ⟨.sync, 0, .ok 7, 0, .truthy⟩
/-- an async manager whose enter suspends twice and whose exit would raise 9 -/
private def mR : Mgr := ⟨.async, 2, .ok 0, 0, .raise 9⟩
/-- a callback that suspends once and answers "true" (which is dropped) -/
private def mC : Mgr := ⟨.callback, 0, .ok 0, 1, .truthy⟩

private def cfg1 : Cfg := ⟨[mA, mS, mR], 1, .normal⟩
private def cfg2 : Cfg := ⟨[mA, mC, mR], 1, .raises 50⟩

/-- `C14_enter_suspended_equals_nested` on a run that is cancelled inside the enter of manager 2:
    both sides produce this log and these answers -/
example : (Impl.run cfg1 [.send, .send, .throw 5, .send, .send]).log
    = [.enter 0, .entered 0 0, .enter 1, .entered 1 7, .enter 2, .exit 1 (some 5), .exit 0 none] := by
  decide
example : (Nested.run cfg1 [.send, .send, .throw 5, .send, .send]).log
    = [.enter 0, .entered 0 0, .enter 1, .entered 1 7, .enter 2, .exit 1 (some 5), .exit 0 none] := by
  decide
example : (Impl.run cfg1 [.send, .send, .throw 5, .send, .send]).outs
    = [.susp (.enter 0), .susp (.enter 2), .susp (.enter 2), .susp (.exit 0), .finished .normal, .dead] := by
  decide

/-- hypotheses of `C18_cancel_inside_enter_exits_exactly_the_entered` (`pre = [send, send]`, `i = 2`,
    `e = 5`, `post = [send]`): suspended inside the enter of manager 2, and the run completes -/
example : (Impl.run cfg1 [.send, .send]).pc.entering = some 2 := by decide
example : (Impl.run cfg1 ([.send, .send] ++ .throw 5 :: [.send])).finished = true := by decide
example : exitIds (Impl.run cfg1 ([.send, .send] ++ .throw 5 :: [.send])).log = [1, 0] := by decide

/-- hypothesis of `C18_cancel_inside_enter_reaches_innermost_exit`, with a callback on top -/
example : (Impl.run cfg2 [.send]).pc = .enter [mC, mA] mR 1 [] := by decide
example : (Impl.run cfg2 [.send, .throw 5]).log
    = [.enter 0, .entered 0 0, .pushed 1, .enter 2, .exit 1 none] := by decide

/-- hypothesis of `C18_every_entered_exited_once`: a complete run in which the body raises, a callback
    is cancelled while suspended (exception 6 replaces 50) and the outer exit suspends -/
example : (Impl.run cfg2 [.send, .send, .send, .send, .throw 6, .send]).finished = true := by decide
example : (Impl.run cfg2 [.send, .send, .send, .send, .throw 6, .send]).log
    = [.enter 0, .entered 0 0, .pushed 1, .enter 2, .entered 2 0,
       .exit 2 (some 50), .exit 1 none, .exit 0 (some 6)] := by decide
example : (Impl.run cfg2 [.send, .send, .send, .send, .throw 6, .send]).outs.getLast?
    = some (.finished (.raises 6)) := by decide

end AsyncVerif.ExitStackEnter
