import AsyncVerif.Proofs.AggTools
import AsyncVerif.Proofs.SetDict
import AsyncVerif.Proofs.Faithful
import AsyncVerif.Proofs.ChainCancel
/-!
# C06 — errors from sources/callables surface unchanged where the stdlib would raise

`Faithful m` (Proofs/Faithful.lean) is a statement about **every world**: every input, every fault
position over the merged sequence of pulls, end checks and invocations, sync and async flavours
alike (the model has one primitive for both), every consumer behaviour.  The two corollaries below
spell out what it means; the `C06_<tool>` theorems establish it for each modelled tool.
"Delivers exactly the items its stdlib counterpart delivers before failing" is the twin theorem of
C05 (same visible log, hence same yields, in every world including the faulty ones).
-/
namespace AsyncVerif

/-- If a run ends with user exception `e`, then the last visible event is the fault that raised `e`
    (a source failing, a callable failing, or the consumer throwing it in): it is raised at once —
    never deferred — and no source or callable is used after it. -/
theorem C06_surfaces_at_once {α : Type} {m : M α} (h : Faithful m) (w : World) (e : Nat)
    (he : (m w).1 = .error (.user e)) :
    ∃ pre ev, (m w).2.vis = w.vis ++ pre ++ [ev] ∧ isFault e ev = true ∧ ∀ x ∈ pre, anyFault x = false :=
  h.surfaces w e he

/-- If any fault event occurs during a run, it is the last visible event and the run ends by
    raising exactly that exception: it is never swallowed, replaced or wrapped. -/
theorem C06_never_swallowed {α : Type} {m : M α} (h : Faithful m) (w : World) (new : List Ev)
    (hv : (m w).2.vis = w.vis ++ new) (ev : Ev) (hev : ev ∈ new) (hf : anyFault ev = true) :
    ∃ e, isFault e ev = true ∧ (m w).1 = .error (.user e) ∧ new.getLast? = some ev := by
  obtain ⟨new', hv', hr⟩ := h.run w
  have hnn : new' = new := List.append_cancel_left (hv'.symm.trans hv)
  subst hnn
  rcases hr with ⟨hnf, _⟩ | ⟨pre, e, ev', hnew, hfe, hpre, hr⟩
  · have := hnf ev hev; rw [this] at hf; exact absurd hf (by simp)
  · subst hnew
    rcases List.mem_append.mp hev with h1 | h1
    · have := hpre ev h1; rw [this] at hf; exact absurd hf (by simp)
    · have : ev = ev' := by simpa using h1
      subst this
      exact ⟨e, hfe, hr, by simp⟩

theorem C06_filter (fn : Option Nat) (s fuel : Nat) : Faithful (Impl.filter fn s fuel) :=
  faithful_compositional.filter fn s fuel

theorem C06_filterfalse (fn : Option Nat) (s fuel : Nat) : Faithful (Impl.filterfalse fn s fuel) :=
  faithful_compositional.filterfalse fn s fuel

theorem C06_enumerate (s : Nat) (start : Int) (fuel : Nat) : Faithful (Impl.enumerate s start fuel) :=
  faithful_compositional.enumerate s start fuel

theorem C06_takewhile (f s fuel : Nat) : Faithful (Impl.takewhile f s fuel) :=
  faithful_compositional.takewhile f s fuel

theorem C06_dropwhile (f s fuel : Nat) : Faithful (Impl.dropwhile f s fuel) :=
  faithful_compositional.dropwhile f s fuel

theorem C06_starmap (f s fuel : Nat) : Faithful (Impl.starmap f s fuel) :=
  faithful_compositional.starmap f s fuel

theorem C06_accumulate (fn : Option Nat) (initial : Option Val) (s fuel : Nat) :
    Faithful (Impl.accumulate fn initial s fuel) :=
  faithful_compositional.accumulate fn initial s fuel

theorem C06_batched (n : Nat) (strict : Bool) (s fuel : Nat) : Faithful (Impl.batched n strict s fuel) :=
  faithful_compositional.batched n strict s fuel

theorem C06_chain_iterator (srcs : List Nat) (fuel : Nat) : Faithful (Impl.chainIter srcs fuel) :=
  faithful_compositional.chainIter fuel srcs

/-- the `chain` handle (`Impl.chain`: advancing delegates to `_chain_iterator`, the consumer's `aclose()`
    also closes every owned iterator): in every world a fault of an input, or an exception thrown in by
    the consumer, is the last visible event and the run ends with exactly that exception.  The handle
    differs from its iterator only when the consumer closes it, and that close is invisible
    (`chain_handle_twin`), so faithfulness transfers. -/
theorem C06_chain (srcs : List Nat) (fuel : Nat) : Faithful (Impl.chain srcs fuel) :=
  Impl.faithful_chain srcs fuel

theorem C06_compress (d sel fuel : Nat) : Faithful (Impl.compress d sel fuel) :=
  faithful_compositional.compress d sel fuel

theorem C06_cycle (s fuel : Nat) : Faithful (Impl.cycle s fuel) :=
  faithful_compositional.cycle s fuel

theorem C06_islice (s start : Nat) (stop : Option Nat) (step fuel : Nat) :
    Faithful (Impl.islice s start stop step fuel) :=
  faithful_compositional.islice s start stop step fuel

theorem C06_pairwise (s fuel : Nat) : Faithful (Impl.pairwise s fuel) :=
  faithful_compositional.pairwise s fuel

theorem C06_zip (srcs : List Nat) (fuel : Nat) : Faithful (Impl.zip srcs fuel) :=
  faithful_compositional.zip srcs fuel

theorem C06_zip_strict (srcs : List Nat) (fuel : Nat) : Faithful (Impl.zipStrict srcs fuel) :=
  faithful_compositional.zipStrict srcs fuel

theorem C06_map (f : Nat) (srcs : List Nat) (fuel : Nat) : Faithful (Impl.map f srcs fuel) :=
  faithful_compositional.map f srcs fuel

theorem C06_zip_longest (fillv : Val) (srcs : List Nat) (fuel : Nat) : Faithful (Impl.zipLongest fillv srcs fuel) :=
  faithful_compositional.zipLongest fillv srcs fuel

theorem C06_iter_sentinel (f : Nat) (sentinel : Val) (fuel : Nat) : Faithful (Impl.iterSentinel f sentinel fuel) :=
  faithful_compositional.iterSentinel f sentinel fuel

theorem C06_all (s fuel : Nat) : Faithful (Impl.all s fuel) :=
  faithful_compositional.all s fuel
theorem C06_any (s fuel : Nat) : Faithful (Impl.any s fuel) :=
  faithful_compositional.any s fuel

theorem C06_merge (fn : Option Nat) (reverse : Bool) (srcs : List Nat) (fuel : Nat) :
    Faithful (Impl.merge fn reverse srcs fuel) :=
  faithful_compositional.merge fn reverse srcs fuel

theorem C06_sum (start : Option Val) (s fuel : Nat) : Faithful (Impl.sum start s fuel) :=
  faithful_compositional.sum start s fuel

theorem C06_min_max (fn : Option Nat) (isMax : Bool) (d : Option Val) (s fuel : Nat) :
    Faithful (Impl.minmax fn isMax d s fuel) :=
  faithful_compositional.minmax fn isMax d s fuel

theorem C06_reduce (f : Nat) (ini : Option Val) (s fuel : Nat) : Faithful (Impl.reduce f ini s fuel) :=
  faithful_compositional.reduce f ini s fuel

theorem C06_list (s fuel : Nat) : Faithful (Impl.list s fuel) :=
  faithful_compositional.list s fuel

theorem C06_tuple (s fuel : Nat) : Faithful (Impl.tuple s fuel) :=
  faithful_compositional.tuple s fuel

theorem C06_sorted (fn : Option Nat) (reverse : Bool) (s fuel : Nat) : Faithful (Impl.sorted fn reverse s fuel) :=
  faithful_compositional.sorted fn reverse s fuel

theorem C06_nlargest_nsmallest (largest : Bool) (n : Nat) (fn : Option Nat) (s fuel : Nat) :
    Faithful (Impl.nBest largest n fn s fuel) :=
  faithful_compositional.nBest largest n fn s fuel

theorem C06_set (s fuel : Nat) : Faithful (Impl.set s fuel) :=
  faithful_compositional.set s fuel

theorem C06_dict (s fuel : Nat) : Faithful (Impl.dict s fuel) :=
  faithful_compositional.dict s fuel

/-! Non-vacuity: a concrete world in which the source of `filter` fails at its third use. -/
private def w0 : World :=
  { srcs := fun _ => { kind := .agen, script := [.item (.obj 1 1), .item (.obj 2 0), .err 7, .item (.obj 3 1)] },
    fns := fun _ _ args => .ok (.bool ((args.headD .none).truthy)),
    calls := fun _ => 0, cons := .run 0 .exhaust, vis := [], rel := [] }

example : (Impl.filter (some 0) 0 10 w0).1 = .error (.user 7) := by rfl

/-- `chain` over two such sources: the fault of the first one surfaces at once, as the last visible event -/
example : (Impl.chain [0, 1] 10 w0).1 = .error (.user 7) := by rfl
example : ∃ pre ev, (Impl.chain [0, 1] 10 w0).2.vis = w0.vis ++ pre ++ [ev] ∧ isFault 7 ev = true
    ∧ ∀ x ∈ pre, anyFault x = false :=
  C06_surfaces_at_once (C06_chain [0, 1] 10) w0 7 rfl

end AsyncVerif
