import AsyncVerif.Proofs.GroupByFault
import AsyncVerif.Proofs.GroupByRuns
/-!
# C16 under faults — groupby matches itertools.groupby also when the key function or the source raises

Model: `Machines/GroupByFault.lean`.  `stepIF` = asyncstdlib (`GroupBy.__anext__`, `_Grouper.__anext__`,
`_GroupByState.step`), `stepSF` = CPython 3.12 `itertoolsmodule.c` (`groupby_next`, `_grouper_next`, `groupby_step`).
The source is a script of responses: `item v k` | `keyErr v e` (the key function raises `e` on `v`) | `srcErr e`
(the pull raises `e`).  The consumer catches every exception and carries on with the same handles.
-/
namespace AsyncVerif.GroupByFault
open AsyncVerif.GroupBy (Val Key Op)

/-- For EVERY script (any mixture of items, items whose key computation raises, and raising pulls) and EVERY
    sequence of operations {advance the groupby, advance group handle g, close group handle g}, asyncstdlib's
    groupby and CPython's groupby produce the same outputs (keys, group handles, items, stops, exceptions) and have
    consumed the same number of script entries after every single operation. -/
theorem C16_refines_under_faults (script : List Resp) (ops : List Op) :
    run stepIF (init script) ops = run stepSF (init script) ops ∧
    consumed stepIF script.length (init script) ops = consumed stepSF script.length (init script) ops := by
  obtain ⟨h1, h2, _⟩ := sim_eq ops (init script) (init_inv script)
  exact ⟨h1, by unfold consumed; rw [h2]⟩

/-- The simulation behind `C16_refines_under_faults`: on every state satisfying `Inv` (it holds of `init`, so of every
    reachable state) one operation of the two machines yields the same output AND the same successor state, which
    satisfies `Inv` again. -/
theorem C16_fault_step_agrees (s : St) (h : Inv s) (op : Op) :
    stepIF s op = stepSF s op ∧ Inv (stepIF s op).1 :=
  ⟨step_eq s h op, (stepIF_spec s op).inv h⟩

/-! Non-vacuity: a run with a failing key inside a group, a failing pull at an advance (which detaches the
    group: handle 0 is stale afterwards), a failing key in the middle of the scan loop, and the consumer
    carrying on each time.  Both machines, outputs and consumption. -/
example : run stepIF (init [.item 1 0, .keyErr 2 7, .item 3 0, .srcErr 8, .item 4 1, .keyErr 5 9, .item 6 1])
    [.adv, .grpNext 0, .grpNext 0, .grpNext 0, .adv, .grpNext 0, .adv, .adv, .grpNext 1, .adv]
  = [.key 0 0, .item 1, .exc 7, .item 3, .exc 8, .stop, .key 1 1, .exc 9, .stop, .stop] := by decide
example : run stepSF (init [.item 1 0, .keyErr 2 7, .item 3 0, .srcErr 8, .item 4 1, .keyErr 5 9, .item 6 1])
    [.adv, .grpNext 0, .grpNext 0, .grpNext 0, .adv, .grpNext 0, .adv, .adv, .grpNext 1, .adv]
  = [.key 0 0, .item 1, .exc 7, .item 3, .exc 8, .stop, .key 1 1, .exc 9, .stop, .stop] := by decide
example : consumed stepIF 7 (init [.item 1 0, .keyErr 2 7, .item 3 0, .srcErr 8, .item 4 1, .keyErr 5 9, .item 6 1])
    [.adv, .grpNext 0, .grpNext 0, .grpNext 0, .adv, .grpNext 0, .adv, .adv, .grpNext 1, .adv]
  = [1, 1, 2, 3, 4, 4, 5, 6, 6, 7] := by decide

/-- On scripts without faults the fault machines are the machines of `Machines/GroupBy.lean`: for every input
    and every operation sequence, `stepIF` produces the outputs of `stepI` and `stepSF` those of `stepS`, and they
    leave the same number of items unread after every operation.  Hence every theorem of `C16.lean` about runs from
    `init` holds of the fault machines on fault-free scripts (`C16_full_consumption_fault_free` is one). -/
theorem C16_fault_free_agrees (items : List (Val × Key)) (ops : List Op) :
    run stepIF (init (ofItems items)) ops = (GroupBy.run GroupBy.stepI (GroupBy.init items) ops).map liftOut ∧
    run stepSF (init (ofItems items)) ops = (GroupBy.run GroupBy.stepS (GroupBy.init items) ops).map liftOut ∧
    remaining stepIF (init (ofItems items)) ops = remaining0 GroupBy.stepI (GroupBy.init items) ops ∧
    remaining stepSF (init (ofItems items)) ops = remaining0 GroupBy.stepS (GroupBy.init items) ops := by
  rw [← embed_init]
  have hI := run_embed stepIF_embed ops (GroupBy.init items)
  have hS := run_embed stepSF_embed ops (GroupBy.init items)
  exact ⟨hI.1, hS.1, hI.2, hS.2⟩

/-- The per-operation form of `C16_fault_free_agrees`: on the image of a fault-free state, one operation of the
    fault machine is the operation of the fault-free machine (state and output). -/
theorem C16_fault_free_step (s : GroupBy.St) (op : Op) :
    stepIF (embed s) op = (embed (GroupBy.stepI s op).1, liftOut (GroupBy.stepI s op).2) ∧
    stepSF (embed s) op = (embed (GroupBy.stepS s op).1, liftOut (GroupBy.stepS s op).2) :=
  ⟨stepIF_embed s op, stepSF_embed s op⟩

/-- `C16_full_consumption` on the fault machines: on a fault-free script the draining consumer sees, run by run,
    key / items / stop — for either library. -/
theorem C16_full_consumption_fault_free (items : List (Val × Key)) :
    run stepIF (init (ofItems items)) (GroupBy.fullOps 0 (GroupBy.runs items)) =
      (GroupBy.fullOuts 0 (GroupBy.runs items)).map liftOut ∧
    run stepSF (init (ofItems items)) (GroupBy.fullOps 0 (GroupBy.runs items)) =
      (GroupBy.fullOuts 0 (GroupBy.runs items)).map liftOut := by
  have h := C16_fault_free_agrees items (GroupBy.fullOps 0 (GroupBy.runs items))
  refine ⟨?_, ?_⟩
  · rw [h.1, GroupBy.full_consumption]
  · rw [h.2.1, ← GroupBy.run_eq _ _ (GroupBy.init_inv items), GroupBy.full_consumption]

example : run stepIF (init (ofItems [(1,0),(2,0),(3,1)])) (GroupBy.fullOps 0 (GroupBy.runs [(1,0),(2,0),(3,1)])) =
    [.key 0 0, .item 1, .item 2, .stop, .key 1 1, .item 3, .stop, .stop] := by decide
example : ofItems [(1,0),(3,1)] = [.item 1 0, .item 3 1] := by decide

/-- An item whose key raised is DROPPED, and a raised exception is delivered exactly once, in order:
    for every script and every operation sequence,
    (1) the items delivered by the group handles, in delivery order, are a subsequence of the values of the
        SUCCESSFUL script entries (`values` skips `keyErr`/`srcErr` entries) — a `keyErr v e` entry contributes
        nothing to any group;
    (2) in particular a value that only occurs in failing entries is never delivered;
    (3) the exceptions delivered over the run are exactly the faults of the consumed prefix of the script, in
        script order (none lost, none duplicated, none invented). -/
theorem C16_failed_item_dropped (script : List Resp) (ops : List Op) :
    (delivered (run stepIF (init script) ops)).Sublist (values script) ∧
    (∀ v, (∀ k, Resp.item v k ∉ script) → Out.item v ∉ run stepIF (init script) ops) ∧
    (∃ pulled, script = pulled ++ (final stepIF (init script) ops).script ∧
      raised (run stepIF (init script) ops) = faults pulled) := by
  have hsub : (delivered (run stepIF (init script) ops)).Sublist (values script) := by
    simpa [pend, init] using run_delivered ops (init script)
  refine ⟨hsub, ?_, run_raised ops (init script)⟩
  intro v hv hmem
  have h1 : v ∈ delivered (run stepIF (init script) ops) :=
    List.mem_filterMap.mpr ⟨_, hmem, rfl⟩
  have h2 : v ∈ values script := hsub.subset h1
  obtain ⟨x, hx, hxv⟩ := List.mem_filterMap.mp h2
  cases x with
  | item v' k => simp only [valOf, Option.some.injEq] at hxv; subst hxv; exact hv k hx
  | keyErr v' e => simp [valOf] at hxv
  | srcErr e => simp [valOf] at hxv

/-- The same for CPython's algorithm (by `C16_refines_under_faults`). -/
theorem C16_failed_item_dropped_cpython (script : List Resp) (ops : List Op) :
    (delivered (run stepSF (init script) ops)).Sublist (values script) ∧
    (∀ v, (∀ k, Resp.item v k ∉ script) → Out.item v ∉ run stepSF (init script) ops) ∧
    (∃ pulled, script = pulled ++ (final stepSF (init script) ops).script ∧
      raised (run stepSF (init script) ops) = faults pulled) := by
  obtain ⟨h1, _, h3⟩ := sim_eq ops (init script) (init_inv script)
  rw [← h1, ← h3]
  exact C16_failed_item_dropped script ops

/-- The exception is delivered by exactly the operation that pulled the failing entry: in ANY state, the script
    entries one operation consumes are some successful entries `pre` followed either by nothing — then the
    operation reports no exception — or by exactly one failing entry `x`, the LAST entry it consumes — then the
    operation reports precisely the exception of `x`.  So a fault is never swallowed, never deferred to a later
    operation, and an operation never reads on after a fault. -/
theorem C16_fault_delivered_by_puller (s : St) (op : Op) :
    ∃ pre, (∀ x ∈ pre, faultOf x = none) ∧
      ((outExc (stepIF s op).2 = none ∧ s.script = pre ++ (stepIF s op).1.script) ∨
       (∃ x e, outExc (stepIF s op).2 = some e ∧ faultOf x = some e ∧
          s.script = pre ++ x :: (stepIF s op).1.script)) :=
  (stepIF_spec s op).pulled.explicit

/-- A raising group pull leaves the shared state exactly as it was (buffered value, keys, current group — the
    handle stays live — and handed-out groups); only the failing script entry is gone. -/
theorem C16_failed_group_pull_keeps_state (s : St) (g : Nat) (e : Exc) (h : (grpNextI s g).2 = .exc e) :
    (grpNextI s g).1 = { s with script := (grpNextI s g).1.script } :=
  grpNextI_exc_state s g e h

/-- A raising advance of the groupby has already detached the previous group (`state.current_group = None` /
    `gbo->currgrouper = NULL` come first in both libraries): afterwards NO group handle is live. -/
theorem C16_failed_advance_detaches (s : St) (e : Exc) (h : (advI s).2 = .exc e) (g : Nat) :
    (advI s).1.grp = none ∧ (grpNextI (advI s).1 g).2 = .stop := by
  have hg := advI_exc_grp s e h
  refine ⟨hg, ?_⟩
  unfold grpNextI
  rw [if_pos (by rw [hg]; simp)]

/-! Non-vacuity: value 2 only occurs in a failing entry and is dropped; the faults of the consumed prefix are
    reported in order; a step that pulls `[item 3 0, keyErr 5 9]` in its scan loop reports 9 and stops there. -/
example : delivered (run stepIF (init [.item 1 0, .keyErr 2 7, .item 3 0, .srcErr 8, .item 4 1])
    [.adv, .grpNext 0, .grpNext 0, .grpNext 0, .grpNext 0, .grpNext 0]) = [1, 3] := by decide
example : values [.item 1 0, .keyErr 2 7, .item 3 0, .srcErr 8, .item 4 1] = [1, 3, 4] := by decide
example : raised (run stepIF (init [.item 1 0, .keyErr 2 7, .item 3 0, .srcErr 8, .item 4 1])
    [.adv, .grpNext 0, .grpNext 0, .grpNext 0, .grpNext 0, .grpNext 0]) = [7, 8] ∧
    faults [.item 1 0, .keyErr 2 7, .item 3 0, .srcErr 8] = [7, 8] ∧
    (final stepIF (init [.item 1 0, .keyErr 2 7, .item 3 0, .srcErr 8, .item 4 1])
      [.adv, .grpNext 0, .grpNext 0, .grpNext 0, .grpNext 0, .grpNext 0]).script = [] := by decide
example : stepIF ⟨[.item 3 0, .keyErr 5 9, .item 6 1], some 1, some 0, some 0, some 0, [0]⟩ .adv =
    (⟨[.item 6 1], some 3, some 0, some 0, none, [0]⟩, .exc 9) := by decide
example : (grpNextI ⟨[.keyErr 5 9, .item 6 0], none, some 0, some 0, some 0, [0]⟩ 0) =
    (⟨[.item 6 0], none, some 0, some 0, some 0, [0]⟩, .exc 9) := by decide

end AsyncVerif.GroupByFault
