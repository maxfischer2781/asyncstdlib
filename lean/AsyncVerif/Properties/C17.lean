import AsyncVerif.Proofs.Faithful
/-!
# C17 — the library suspends only where user awaitables suspend  (partial by nature)

In the model a library operation can interact with the outside world only through the primitives;
the only primitives behind which user code runs are `pull` (a source's `__anext__`) and `call`
(a user callable).  So the sequence of objects that reach the event loop during a run is a
function of the visible event log: the tokens of the user awaitable behind each `pull` / `call`
event, in order (`loopTrace`).  What this file proves is therefore structural; the part that
carries weight for the *code* is the correspondence, which hand-drives the real library and
compares the objects actually reaching the driver with `loopTrace` of the model's log, token
by token, and throws into every suspension point.  A loop-specific await hidden in a path no
enumerated case executes is invisible to both.
-/
namespace AsyncVerif

/-- what a user awaitable yields to the loop: which source pull / callable invocation, which suspension -/
inductive Tok where
  | src (s k j : Nat) | fn (f n j : Nat)
  deriving DecidableEq, Repr

/-- how often each source suspends per pull, each callable per invocation -/
structure SuspCfg where
  src : Nat → Nat
  fn : Nat → Nat

/-- the loop channel determined by a visible log (`pulls`/`calls` count earlier uses) -/
def loopTraceAux (c : SuspCfg) : List Ev → (Nat → Nat) → (Nat → Nat) → List Tok
  | [], _, _ => []
  | .pull s :: r, pulls, calls =>
    (List.range (c.src s)).map (Tok.src s (pulls s)) ++
      loopTraceAux c r (fun i => if i = s then pulls s + 1 else pulls i) calls
  | .call f _ :: r, pulls, calls =>
    (List.range (c.fn f)).map (Tok.fn f (calls f)) ++
      loopTraceAux c r pulls (fun i => if i = f then calls f + 1 else calls i)
  | _ :: r, pulls, calls => loopTraceAux c r pulls calls

def loopTrace (c : SuspCfg) (vis : List Ev) : List Tok := loopTraceAux c vis (fun _ => 0) (fun _ => 0)

theorem loopTraceAux_sync (c : SuspCfg) (hs : ∀ s, c.src s = 0) (hf : ∀ f, c.fn f = 0) (vis : List Ev) :
    ∀ p q, loopTraceAux c vis p q = [] := by
  induction vis with
  | nil => intro p q; rfl
  | cons ev r ih => intro p q; cases ev <;> simp [loopTraceAux, hs, hf, ih]

/-- With only synchronous arguments (nothing suspends) no operation ever reaches the loop. -/
theorem C17_sync_arguments_never_suspend (c : SuspCfg) (hs : ∀ s, c.src s = 0) (hf : ∀ f, c.fn f = 0)
    (vis : List Ev) : loopTrace c vis = [] := loopTraceAux_sync c hs hf vis _ _

theorem loopTraceAux_mem (c : SuspCfg) (t : Tok) (vis : List Ev) :
    ∀ p q, t ∈ loopTraceAux c vis p q →
    (∃ s k j, t = .src s k j ∧ Ev.pull s ∈ vis ∧ j < c.src s) ∨
    (∃ f n j args, t = .fn f n j ∧ Ev.call f args ∈ vis ∧ j < c.fn f) := by
  induction vis with
  | nil => intro p q ht; simp [loopTraceAux] at ht
  | cons ev r ih =>
    intro p q ht
    have lift : ((∃ s k j, t = .src s k j ∧ Ev.pull s ∈ r ∧ j < c.src s) ∨
        (∃ f n j args, t = .fn f n j ∧ Ev.call f args ∈ r ∧ j < c.fn f)) →
        ((∃ s k j, t = .src s k j ∧ Ev.pull s ∈ ev :: r ∧ j < c.src s) ∨
        (∃ f n j args, t = .fn f n j ∧ Ev.call f args ∈ ev :: r ∧ j < c.fn f)) := by
      intro h
      rcases h with ⟨s, k, j, h1, h2, h3⟩ | ⟨f, n, j, args, h1, h2, h3⟩
      · exact Or.inl ⟨s, k, j, h1, List.mem_cons_of_mem _ h2, h3⟩
      · exact Or.inr ⟨f, n, j, args, h1, List.mem_cons_of_mem _ h2, h3⟩
    cases ev with
    | pull s =>
      simp only [loopTraceAux, List.mem_append, List.mem_map, List.mem_range] at ht
      rcases ht with ⟨j, hj, rfl⟩ | ht
      · exact Or.inl ⟨s, p s, j, rfl, List.mem_cons_self, hj⟩
      · exact lift (ih _ _ ht)
    | call f args =>
      simp only [loopTraceAux, List.mem_append, List.mem_map, List.mem_range] at ht
      rcases ht with ⟨j, hj, rfl⟩ | ht
      · exact Or.inr ⟨f, q f, j, args, rfl, List.mem_cons_self, hj⟩
      · exact lift (ih _ _ ht)
    | _ => exact lift (ih _ _ (by simpa [loopTraceAux] using ht))

/-- Every token that reaches the loop belongs to a user awaitable that the log shows being invoked. -/
theorem C17_every_token_is_a_user_token (c : SuspCfg) (vis : List Ev) (t : Tok) (ht : t ∈ loopTrace c vis) :
    (∃ s k j, t = .src s k j ∧ Ev.pull s ∈ vis ∧ j < c.src s) ∨
    (∃ f n j args, t = .fn f n j ∧ Ev.call f args ∈ vis ∧ j < c.fn f) :=
  loopTraceAux_mem c t vis _ _ ht

/-- An exception thrown in at a suspension point makes the suspended user awaitable raise it; by
    `Faithful` (C06) that very exception is then what the operation raises, and nothing else is used. -/
theorem C17_thrown_exception_surfaces {α : Type} {m : M α} (h : Faithful m) (w : World) (e : Nat)
    (he : (m w).1 = .error (.user e)) :
    ∃ pre ev, (m w).2.vis = w.vis ++ pre ++ [ev] ∧ isFault e ev = true :=
  let ⟨pre, ev, hv, hf, _⟩ := h.surfaces w e he
  ⟨pre, ev, hv, hf⟩

example : loopTrace ⟨fun _ => 2, fun _ => 1⟩ [.pull 0, .item 0 (.int 1), .call 0 [.int 1], .ret 0 (.int 1), .pull 0, .endd 0]
    = [.src 0 0 0, .src 0 0 1, .fn 0 0 0, .src 0 1 0, .src 0 1 1] := by decide

end AsyncVerif
