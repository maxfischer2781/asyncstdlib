import AsyncVerif.Proofs.AdaptersFail
/-!
# C19 — asynctools adapters on the failure and early-end paths

Property theorems only.  Model: `Machines/AdaptersFail.lean` (`apply`, `eachStep` = `await_each`,
`anyStep` = `any_iter`, `asyncWrapped`/`syncRun` = the wrapper returned by `sync`).  User
awaitables are numbered by position; `seg i a` / `segs i l` are the complete undisturbed awaits,
`itemSteps` the requests that deliver items undisturbed; a `Cut` `some (n, c)` = the event loop
resumes `n` suspensions and throws exception `c` into the next.
-/
namespace AsyncVerif.AdaptersFail
open AsyncVerif.Adapters (Val Exc Res Kind)

/-- Whatever comes later (`rest`: more arguments, failing or not, or nothing), a prefix `pre` of the
    arguments of `apply` — positional first, then keywords, in order — that all are awaitables
    completing with a value before the event loop throws anything in, is awaited first: each
    awaitable entered once, driven through all its suspensions, strictly one after the other in
    argument order (`segs 0 pre`), before any other event.  If that prefix is everything, the
    function is then called exactly once with the positional values and the keyword values under
    their names, and the outcome is the function's own result: its value, or the exception it
    raises. -/
theorem C19_apply_awaits_in_order_until_failure (f : Fn) (args : List Arg) (kwargs : List (Nat × Arg))
    (cut : Cut) (pre rest : List Arg) (vs : List Val)
    (hall : args ++ kwargs.map Prod.snd = pre ++ rest)
    (hpre : pre.map Arg.res = vs.map Res.ok) (hcut : cut.allows (suspCount pre) = true) :
    (∃ tail, (apply f args kwargs cut).1 = segs 0 pre ++ tail) ∧
    (rest = [] → apply f args kwargs cut
      = (segs 0 pre ++ [Ev.call (vs.take args.length) ((kwargs.map Prod.fst).zip (vs.drop args.length))],
          ofRes (f.beh (vs.take args.length) ((kwargs.map Prod.fst).zip (vs.drop args.length))))) := by
  constructor
  · rw [apply_clean f args kwargs cut pre rest vs hall hpre hcut]
    rcases awaitFrom pre.length rest (cut.after (suspCount pre)) with ⟨evs, (e | ws), c⟩
    · exact ⟨evs, rfl⟩
    · exact ⟨_, List.append_assoc _ _ _⟩
  · intro hr
    subst hr
    rw [apply_clean f args kwargs cut pre [] vs hall hpre hcut]
    simp only [awaitFrom, List.append_nil]

/-- If the arguments before `bad` all succeed and the await of `bad` fails in whatever way — it is
    not awaitable (`TypeError`), it raises, or the event loop throws an exception in at one of its
    suspensions — then `apply` ends with exactly that failure, and its whole log is: the complete
    awaits of the earlier arguments in order, then the events of the failed await.  Nothing else:
    the arguments `post` after it (positional or keyword) are left untouched — none is awaited,
    the result does not depend on them — and the function is not called. -/
theorem C19_apply_failure_leaves_rest_untouched (f : Fn) (args : List Arg) (kwargs : List (Nat × Arg))
    (cut c' : Cut) (pre : List Arg) (vs : List Val) (bad : Arg) (post : List Arg)
    (evs : List Ev) (err : Err)
    (hall : args ++ kwargs.map Prod.snd = pre ++ bad :: post)
    (hpre : pre.map Arg.res = vs.map Res.ok) (hcut : cut.allows (suspCount pre) = true)
    (hbad : awaitArg pre.length bad (cut.after (suspCount pre)) = (evs, .error err, c')) :
    apply f args kwargs cut = (segs 0 pre ++ evs, .error err) := by
  rw [apply_clean f args kwargs cut pre _ vs hall hpre hcut, awaitFrom_cons_err _ _ _ _ _ _ _ hbad]

/-- Cancellation: if the event loop throws exception `c` in at a suspension that belongs to
    argument number `pre.length` (the earlier arguments having succeeded with fewer suspensions
    in total than the `n` that are resumed), then the very exception `c` comes out of `apply`;
    the log ends at that suspension — the interrupted awaitable was entered once and suspended
    `n - suspCount pre + 1` times — no later argument is awaited and the function is not called. -/
theorem C19_apply_cancel_propagates_same_exception (f : Fn) (args : List Arg)
    (kwargs : List (Nat × Arg)) (n c : Nat) (pre : List Arg) (vs : List Val) (k : Nat) (r : Res)
    (post : List Arg)
    (hall : args ++ kwargs.map Prod.snd = pre ++ .aw k r :: post)
    (hpre : pre.map Arg.res = vs.map Res.ok)
    (hlo : suspCount pre ≤ n) (hhi : n < suspCount pre + k) :
    apply f args kwargs (some (n, c))
      = (segs 0 pre ++ .await pre.length :: susps (.susp pre.length) (n - suspCount pre + 1),
          .error (.thrown c)) := by
  refine C19_apply_failure_leaves_rest_untouched f args kwargs (some (n, c)) none pre vs (.aw k r)
    post _ _ hall hpre (by simpa [Cut.allows] using hlo) ?_
  simp only [Cut.after]
  exact awaitArg_thrown _ _ _ _ _ (by omega)

/-- `await_each` over awaitables of which the first `pre.length` succeed: that many undisturbed
    requests are, request by request, exactly — element `i` taken from the iterable (for a lazily
    producing iterable: produced only now), awaitable `i` entered once and driven through all its
    suspensions, its value handed out — nothing of any other awaitable; and afterwards the
    generator stands exactly before the remaining elements `post`, which are so far neither
    awaited nor (lazy iterable) produced: whatever the consumer does next (`ops`) happens to a
    generator over `post` alone. -/
theorem C19_await_each_lazy_and_once (lazy : Bool) (pre post : List Arg) (vs : List Val)
    (ops : List Op) (hpre : pre.map Arg.res = vs.map Res.ok) :
    run (eachStep lazy) (.live 0 (pre ++ post)) (List.replicate pre.length (.next none) ++ ops)
      = itemSteps lazy 0 pre vs ++ run (eachStep lazy) (.live pre.length post) ops := by
  simpa using each_items lazy pre vs post 0 ops hpre

/-- Early end of `await_each` after `pre.length` delivered items.  (1) Closed: `aclose()` does
    nothing, and every later operation finds a finished generator.  (2) The next request fails
    inside the next awaitable `bad` — it raises, or the event loop throws an exception in at one
    of its suspensions (a cancellation), or it is not awaitable —: that failure comes out of the
    request, whose events are only: element produced (lazy iterable), the failed await; every
    later operation finds a finished generator.  In both cases the whole run contains no event
    of the awaitables `post` after the cut: they are never awaited and, for a lazily producing
    iterable, never produced. -/
theorem C19_await_each_cut_leaves_rest_unawaited (lazy : Bool) (pre post : List Arg) (vs : List Val)
    (ops : List Op) (hpre : pre.map Arg.res = vs.map Res.ok) :
    run (eachStep lazy) (.live 0 (pre ++ post))
        (List.replicate pre.length (.next none) ++ .close :: ops)
      = itemSteps lazy 0 pre vs ++ ([], .closed) :: ops.map deadStep ∧
    ∀ (bad : Arg) (cut c' : Cut) (evs : List Ev) (err : Err),
      awaitArg pre.length bad cut = (evs, .error err, c') →
      run (eachStep lazy) (.live 0 (pre ++ bad :: post))
          (List.replicate pre.length (.next none) ++ .next cut :: ops)
        = itemSteps lazy 0 pre vs
            ++ (produce lazy pre.length ++ evs, .failed err) :: ops.map deadStep := by
  constructor
  · rw [C19_await_each_lazy_and_once lazy pre post vs _ hpre]
    exact congrArg (fun l => itemSteps lazy 0 pre vs ++ ([], Out.closed) :: l) (each_done lazy ops)
  · intro bad cut c' evs err hbad
    rw [C19_await_each_lazy_and_once lazy pre (bad :: post) vs _ hpre, run_cons]
    simp only [eachStep, eachNext, hbad, each_done]

/-- `any_iter` over each of the six argument shapes (a `list`, a lazily producing iterator or an
    async iterator; given directly or behind an awaitable that succeeds after any number of
    suspensions), items plain or awaitable: if the items `pre` resolve to the values `vs` and the
    next item is an awaitable that raises `e`, then `pre.length + 1` requests give: the outer
    awaitable (if any) awaited completely in the first request; `vs` in order, each item produced
    (lazy shapes) and awaited in its own request only; then `e` out of request number
    `pre.length`, whose events are: that item produced, its awaitable entered once and driven to
    its raise.  Later operations find a finished generator; the items `post` are never produced
    and never awaited.  And if it is the outer awaitable that raises, `e` comes out of the first
    request after the complete await of the outer awaitable: no item is produced or awaited. -/
theorem C19_any_iter_failure_position (o : Option Outer) (kind : Kind) (pre post : List Arg)
    (vs : List Val) (k : Nat) (e : Exc) (ops : List Op)
    (ho : o.bind (·.fail) = none) (hpre : pre.map Arg.resolved = vs.map Res.ok) :
    run anyStep (.fresh o kind (pre ++ .aw k (.err e) :: post))
        (List.replicate (pre.length + 1) (.next none) ++ ops)
      = addFirst (outerSeg o)
          (itemSteps (kindLazy kind) 0 pre vs
            ++ (produce (kindLazy kind) pre.length ++ .await pre.length :: susps (.susp pre.length) k,
                .failed (.raised e)) :: ops.map deadStep) ∧
    ∀ (ko : Nat) (items : List Arg),
      run anyStep (.fresh (some ⟨ko, some e⟩) kind items) (.next none :: ops)
        = (.awaitO :: susps .suspO ko, .failed (.raised e)) :: ops.map deadStep := by
  constructor
  · rw [List.replicate_succ, List.cons_append, any_fresh_run o kind _ _ ho, replicate_cons_comm,
      any_items kind pre vs _ 0 _ hpre, run_cons, any_loop_raises, any_done, Nat.zero_add]
  · intro ko items
    exact congrArg ((Ev.awaitO :: susps Ev.suspO ko, Out.failed (.raised e)) :: ·) (any_done ops)

/-- The wrapper returned by `sync(f)` keeps nothing between calls: in any sequence of calls —
    the user function answering with a plain value, by raising, or with an awaitable (itself
    completing, raising, or interrupted by an exception thrown in), in any mixture — every call
    does exactly what that call would do on its own (`asyncWrapped`: `f` called once, its
    awaitable, if any, entered once and awaited), whatever the earlier and later calls were;
    and its outcome does not even depend on how many calls were made before. -/
theorem C19_sync_calls_independent (pre post : List (Ans × Cut)) (ans : Ans) (cut : Cut) :
    syncRun 0 (pre ++ (ans, cut) :: post)
      = syncRun 0 pre ++ asyncWrapped pre.length ans cut :: syncRun (pre.length + 1) post ∧
    (syncRun 0 (pre ++ (ans, cut) :: post))[pre.length]? = some (asyncWrapped pre.length ans cut) ∧
    (asyncWrapped pre.length ans cut).2 = (asyncWrapped 0 ans cut).2 := by
  have h : syncRun 0 (pre ++ (ans, cut) :: post)
      = syncRun 0 pre ++ asyncWrapped pre.length ans cut :: syncRun (pre.length + 1) post := by
    rw [syncRun_append]; simp only [syncRun, Nat.zero_add]
  refine ⟨h, ?_, ?_⟩
  · rw [h, List.getElem?_append_right (Nat.le_of_eq (syncRun_length _ _)), syncRun_length, Nat.sub_self]
    rfl
  · exact asyncWrapped_out _ _ ans cut

private def fn : Fn := ⟨fun vs kvs => if vs.length + kvs.length = 3 then .ok 9 else .err (.user 1)⟩

/-- all succeed within the budget: in order, then one call (hypotheses of
    `C19_apply_awaits_in_order_until_failure` with `rest = []`) -/
example : ([Arg.aw 2 (.ok 10), .aw 0 (.ok 11)] ++ [((7 : Nat), Arg.aw 1 (.ok 12))].map Prod.snd
      = [.aw 2 (.ok 10), .aw 0 (.ok 11), .aw 1 (.ok 12)] ++ []) ∧
    [Arg.aw 2 (.ok 10), .aw 0 (.ok 11), .aw 1 (.ok 12)].map Arg.res = [10, 11, 12].map Res.ok ∧
    Cut.allows (some (5, 77)) (suspCount [.aw 2 (.ok 10), .aw 0 (.ok 11), .aw 1 (.ok 12)]) = true := by
  decide
example : apply fn [.aw 2 (.ok 10), .aw 0 (.ok 11)] [(7, .aw 1 (.ok 12))] (some (5, 77))
    = ([.await 0, .susp 0 0, .susp 0 1, .await 1, .await 2, .susp 2 0, .call [10, 11] [(7, 12)]], .ok 9) := rfl
/-- the function raising -/
example : apply fn [.aw 1 (.ok 10)] [] none = ([.await 0, .susp 0 0, .call [10] []], .error (.raised (.user 1))) := rfl
/-- a raising second argument: third argument and keyword untouched, no call
    (hypotheses of `C19_apply_failure_leaves_rest_untouched`) -/
example : awaitArg 1 (.aw 1 (.err (.user 4))) (Cut.after none (suspCount [.aw 2 (.ok 10)]))
    = ([.await 1, .susp 1 0], .error (.raised (.user 4)), none) := rfl
example : apply fn [.aw 2 (.ok 10), .aw 1 (.err (.user 4)), .aw 3 (.ok 11)] [(7, .aw 1 (.ok 12))] none
    = ([.await 0, .susp 0 0, .susp 0 1, .await 1, .susp 1 0], .error (.raised (.user 4))) := rfl
/-- a plain (not awaitable) keyword argument -/
example : apply fn [.aw 0 (.ok 10)] [(7, .plain 3), (8, .aw 1 (.ok 12))] none
    = ([.await 0], .error (.raised .typeError)) := rfl
/-- thrown in at the 4th suspension overall = suspension 1 of the keyword argument number 2
    (hypotheses of `C19_apply_cancel_propagates_same_exception`: `2 ≤ 3 < 2 + 3`) -/
example : apply fn [.aw 2 (.ok 10), .aw 0 (.ok 11)] [(7, .aw 3 (.ok 12)), (8, .aw 1 (.ok 13))] (some (3, 77))
    = ([.await 0, .susp 0 0, .susp 0 1, .await 1, .await 2, .susp 2 0, .susp 2 1], .error (.thrown 77)) := rfl
/-- await_each over a lazy iterable: two requests, then closed; then cancelled inside the third -/
example : run (eachStep true) (.live 0 [.aw 1 (.ok 10), .aw 0 (.ok 11), .aw 2 (.ok 12), .aw 1 (.ok 13)])
      [.next none, .next none, .close, .next none]
    = [([.produced 0, .await 0, .susp 0 0], .item 10), ([.produced 1, .await 1], .item 11),
       ([], .closed), ([], .stop)] := rfl
example : run (eachStep true) (.live 0 [.aw 1 (.ok 10), .aw 0 (.ok 11), .aw 2 (.ok 12), .aw 1 (.ok 13)])
      [.next none, .next none, .next (some (1, 55)), .next none, .close]
    = [([.produced 0, .await 0, .susp 0 0], .item 10), ([.produced 1, .await 1], .item 11),
       ([.produced 2, .await 2, .susp 2 0, .susp 2 1], .failed (.thrown 55)), ([], .stop), ([], .closed)] := rfl
example : [Arg.aw 1 (.ok 10), .aw 0 (.ok 11)].map Arg.res = [10, 11].map Res.ok ∧
    awaitArg 2 (.aw 2 (.ok 12)) (some (1, 55)) = ([.await 2, .susp 2 0, .susp 2 1], .error (.thrown 55), none) :=
  ⟨by decide, rfl⟩
/-- any_iter over an awaitable async iterator of mixed items, the third item raising -/
example : run anyStep (.fresh (some ⟨1, none⟩) .aiter [.plain 10, .aw 1 (.ok 11), .aw 1 (.err (.user 4)), .aw 0 (.ok 13)])
      (List.replicate 3 (.next none) ++ [.next none])
    = [([.awaitO, .suspO 0, .produced 0], .item 10), ([.produced 1, .await 1, .susp 1 0], .item 11),
       ([.produced 2, .await 2, .susp 2 0], .failed (.raised (.user 4))), ([], .stop)] := rfl
example : (some (⟨1, none⟩ : Outer)).bind (·.fail) = none ∧
    [Arg.plain 10, .aw 1 (.ok 11)].map Arg.resolved = [10, 11].map Res.ok := by decide
/-- a failing outer awaitable -/
example : run anyStep (.fresh (some ⟨2, some (.user 6)⟩) .iter [.plain 10, .aw 1 (.ok 11)]) [.next none, .next none]
    = [([.awaitO, .suspO 0, .suspO 1], .failed (.raised (.user 6))), ([], .stop)] := rfl
/-- sync: plain, raising, awaitable, cancelled awaitable, plain again -/
example : syncRun 0 [(.plain 1, none), (.raises (.user 2), none), (.aw 2 (.ok 3), none),
      (.aw 2 (.ok 4), some (0, 66)), (.plain 5, none)]
    = [([.call [0] []], .ok 1), ([.call [1] []], .error (.raised (.user 2))),
       ([.call [2] [], .await 2, .susp 2 0, .susp 2 1], .ok 3),
       ([.call [3] [], .await 3, .susp 3 0], .error (.thrown 66)), ([.call [4] []], .ok 5)] := rfl

end AsyncVerif.AdaptersFail
